import OfxProofs.Lemmas.SecId
import OfxProofs.Props.C20
import OfxProofs.Gen.Tables
import OfxProofs.Gen.WF
import OfxProofs.Lemmas.Agg
import OfxProofs.Props.C07
import OfxProofs.Lemmas.AggRound
import OfxProofs.Lemmas.NodeRT
import OfxProofs.Lemmas.Groom
import OfxProofs.Lemmas.WFBridge
import OfxProofs.Props.C01
import OfxProofs.Lemmas.ConvLaws
import OfxProofs.Props.C04
import OfxProofs.Lemmas.Written
import OfxProofs.Props.C01Wire
import OfxProofs.Props.C01File
import OfxProofs.Lemmas.ConvLawsWire
import OfxProofs.Lemmas.HeaderPipeline
import OfxProofs.Gen.Header
import OfxProofs.Gen.C01
import OfxProofs.Props.C03
import OfxProofs.Gen.C03
import OfxProofs.Props.C04Order
import OfxProofs.Gen.C04
import OfxProofs.Props.C13
import OfxProofs.Gen.C13
import OfxProofs.Props.C01Constructed
import OfxProofs.Props.C03Sub
import OfxProofs.Lemmas.Cache
import OfxProofs.Lemmas.ClientSM
import OfxProofs.Props.C14
import OfxProofs.Props.C15
import OfxProofs.Lemmas.Compose
import OfxProofs.Gen.Compose
import OfxProofs.Props.C06
import OfxProofs.Lemmas.Cal
import OfxProofs.Lemmas.DateTime
import OfxProofs.Props.C09
import OfxProofs.Lemmas.Getattr
import OfxProofs.Props.C16
import OfxProofs.Gen.Props
import OfxProofs.Lemmas.Codec
import OfxProofs.Lemmas.Header
import OfxProofs.Lemmas.HeaderStream
import OfxProofs.Lemmas.HeaderV1
import OfxProofs.Lemmas.HeaderV2
import OfxProofs.Props.C05
import OfxProofs.Props.C12
import OfxProofs.Lemmas.Ofxget
import OfxProofs.Lemmas.OfxgetStmt
import OfxProofs.Lemmas.OfxgetAll
import OfxProofs.Gen.Ofxget
import OfxProofs.Props.C18
import OfxProofs.Props.C19
import OfxProofs.Lemmas.OfxgetFiles
import OfxProofs.Lemmas.OfxgetValues
import OfxProofs.Lemmas.OfxgetCanon
import OfxProofs.Lemmas.OfxgetWrite
import OfxProofs.Lemmas.OfxgetPersist
import OfxProofs.Lemmas.Lexer
import OfxProofs.Lemmas.Builder
import OfxProofs.Props.C02
import OfxProofs.Props.C08
import OfxProofs.Lemmas.Registry
import OfxProofs.Props.C17
import OfxProofs.Lemmas.Serialize
import OfxProofs.Props.Serialize
import OfxProofs.Lemmas.SerializeRenders
import OfxProofs.Props.SerializeRenders
import OfxProofs.Lemmas.Str
import OfxProofs.Lemmas.Dec
import OfxProofs.Lemmas.Types
import OfxProofs.Props.C10
import OfxProofs.Props.C11
import OfxProofs.Lemmas.C03Deep
import OfxProofs.Lemmas.C03DeepDec
import OfxProofs.Props.C03Deep
import OfxProofs.Gen.C03Deep
import OfxProofs.Lemmas.IniText
import OfxProofs.Lemmas.IniRead
import OfxProofs.Lemmas.IniLoad
import OfxProofs.Lemmas.IniSaved
import OfxProofs.Lemmas.IniTotal
import OfxProofs.Props.C18Ini
import OfxProofs.Lemmas.C04Ext
import OfxProofs.Props.C04Ext
import OfxProofs.Gen.C04Ext
import OfxProofs.Lemmas.CookieJar
import OfxProofs.Props.C14Cookies
import OfxProofs.Lemmas.C16Copy
import OfxProofs.Props.C16Copy
import OfxProofs.Gen.CopyProto
import OfxProofs.Lemmas.HeaderExt
import OfxProofs.Props.C12Ext
import OfxProofs.Props.C05Ext
import OfxProofs.Lemmas.C19Wire
import OfxProofs.Props.C19Wire
import OfxProofs.Gen.C19Wire
import OfxProofs.Lemmas.C18Persist
import OfxProofs.Props.C18Persist
import OfxProofs.Lemmas.C13Exist
import OfxProofs.Props.C13Exist
import OfxProofs.Gen.C13Exist
import OfxProofs.Lemmas.C13Level
import OfxProofs.Props.C13Level
import OfxProofs.Lemmas.C06Unclosed
import OfxProofs.Lemmas.C06Dense
import OfxProofs.Props.C06Unclosed
import OfxProofs.Gen.C06Unclosed
import OfxProofs.Lemmas.C04Groom
import OfxProofs.Props.C04Groom
import OfxProofs.Gen.ByName
import OfxProofs.Gen.C04Groom
import OfxProofs.Props.C12Findings
