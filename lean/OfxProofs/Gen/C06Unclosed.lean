/-
C06, end-tag-less wire form, on the generated schema and the real converters (instances of Props/C06Unclosed.lean;
validity of the composed instance from Lemmas/ComposeMade.lean as in Gen/Compose.lean).  The guard is discharged for
every request kind but the tax request that names no year, account number or record id, for which the statement is
false (witness in Gen/C06UnclosedW.lean).
-/
import OfxProofs.Props.C06Unclosed
import OfxProofs.Gen.Compose

namespace Ofx.Gen
open Ofx Ofx.Compose Ofx.Spec.Request Ofx.C06

/-- `C06_wire_unclosed_partial` for the code as generated from /repo -/
theorem C06_wire_unclosed_partial_generated (cfg : Cfg) (password : Str) (reqs : List Req) (uuidStream : Nat → Str)
    (dtclient : DT) (hclose : cfg.closeElements = false) (hv200 : cfg.version < 200)
    (htexts : ∀ s ∈ cfg.texts, WireText s) (hpw : WireText password)
    (hreqs : ∀ r ∈ reqs, ∀ s ∈ r.texts, WireText s)
    (hdates : ∀ r ∈ reqs, ∀ d ∈ r.dates, Ofx.DateTime.dtUtcMs d) (hdt : Ofx.DateTime.dtUtcMs dtclient)
    (huuid : ∀ i j, uuidStream i = uuidStream j → i = j) (hne : ∀ i, uuidStream i ≠ [])
    (huP : ∀ i, WireText (uuidStream i))
    (hn1 : Ofx.Header.UidOk genEnv.p1.newLen (some (uuidStream reqs.length)))
    (hn2 : Ofx.Header.UidOk genEnv.p2.newLen (some (uuidStream reqs.length)))
    {root : Node}
    (h : requestStatements Ofx.Generated.schema Types.conv cfg password reqs uuidStream dtclient = .ok root)
    (hguard : treeGuard Ofx.Generated.schema Types.conv root = true)
    {hdr : Ofx.Header.Hdr}
    (hmk : Ofx.Header.makeHeader genEnv.p1 genEnv.p2 (.int (cfg.version : Nat)) none none
      (some (uuidStream reqs.length)) = .ok hdr) :
    ∃ file, Ofx.Pipeline.writeFile genEnv cfg.version none (some (uuidStream reqs.length)) cfg.prettyprint
        cfg.closeElements root = .ok file ∧
      Ofx.Pipeline.readFile genEnv file = .ok (hdr, root) ∧
      hdrVersion hdr = Int.ofNat cfg.version ∧
      RequestSpec Ofx.Generated.schema cfg password dtclient reqs (hdrVersion hdr) root :=
  C06_wire_unclosed_partial genEnv _ schema_reqWF conv_ok_wire (Ofx.Types.typesConv_laws_wire _)
    (Ofx.Types.typesConv_textOk _) gen_tagWF header_wf.1 header_wf.2 cfg password reqs uuidStream dtclient hclose hv200
    htexts hpw hreqs huuid hne huP uid1o uid2o hn1 hn2 h
    (C06_request_valid cfg password reqs uuidStream dtclient htexts hpw hreqs hdates hdt huP h) hguard hmk

/-- `C06_wire_unclosed` for the code as generated from /repo: no guard on the tree — statement requests that name
    their account and carry their include flags always have children -/
theorem C06_wire_unclosed_generated (cfg : Cfg) (password : Str) (reqs : List Req) (uuidStream : Nat → Str)
    (dtclient : DT) (hclose : cfg.closeElements = false) (hv200 : cfg.version < 200)
    (htexts : ∀ s ∈ cfg.texts, WireText s) (hpw : WireText password)
    (hreqs : ∀ r ∈ reqs, ∀ s ∈ r.texts, WireText s) (hgiven : ∀ r ∈ reqs, Req.given r = true)
    (hdates : ∀ r ∈ reqs, ∀ d ∈ r.dates, Ofx.DateTime.dtUtcMs d) (hdt : Ofx.DateTime.dtUtcMs dtclient)
    (huuid : ∀ i j, uuidStream i = uuidStream j → i = j) (hne : ∀ i, uuidStream i ≠ [])
    (huP : ∀ i, WireText (uuidStream i))
    (hn1 : Ofx.Header.UidOk genEnv.p1.newLen (some (uuidStream reqs.length)))
    (hn2 : Ofx.Header.UidOk genEnv.p2.newLen (some (uuidStream reqs.length)))
    {root : Node}
    (h : requestStatements Ofx.Generated.schema Types.conv cfg password reqs uuidStream dtclient = .ok root)
    {hdr : Ofx.Header.Hdr}
    (hmk : Ofx.Header.makeHeader genEnv.p1 genEnv.p2 (.int (cfg.version : Nat)) none none
      (some (uuidStream reqs.length)) = .ok hdr) :
    ∃ file, Ofx.Pipeline.writeFile genEnv cfg.version none (some (uuidStream reqs.length)) cfg.prettyprint
        cfg.closeElements root = .ok file ∧
      Ofx.Pipeline.readFile genEnv file = .ok (hdr, root) ∧
      hdrVersion hdr = Int.ofNat cfg.version ∧
      RequestSpec Ofx.Generated.schema cfg password dtclient reqs (hdrVersion hdr) root :=
  C06_wire_unclosed genEnv _ schema_reqWF conv_ok_wire (Ofx.Types.typesConv_laws_wire _)
    (Ofx.Types.typesConv_textOk _) gen_tagWF header_wf.1 header_wf.2 cfg password reqs uuidStream dtclient hclose hv200
    htexts hpw hreqs hgiven huuid hne huP uid1o uid2o hn1 hn2 h
    (C06_request_valid cfg password reqs uuidStream dtclient htexts hpw hreqs hdates hdt huP h) hmk

/-- the guard for a composed statement request of the generated schema, on its own -/
theorem C06_treeGuard_statements_generated (cfg : Cfg) (password : Str) (reqs : List Req) (uuidStream : Nat → Str)
    (dtclient : DT) (htexts : ∀ s ∈ cfg.texts, WireText s) (hpw : WireText password)
    (hreqs : ∀ r ∈ reqs, ∀ s ∈ r.texts, WireText s) (hgiven : ∀ r ∈ reqs, Req.given r = true)
    (hdates : ∀ r ∈ reqs, ∀ d ∈ r.dates, Ofx.DateTime.dtUtcMs d) (hdt : Ofx.DateTime.dtUtcMs dtclient)
    (huuid : ∀ i j, uuidStream i = uuidStream j → i = j) (hne : ∀ i, uuidStream i ≠ [])
    (huP : ∀ i, WireText (uuidStream i)) {root : Node}
    (h : requestStatements Ofx.Generated.schema Types.conv cfg password reqs uuidStream dtclient = .ok root) :
    treeGuard Ofx.Generated.schema Types.conv root = true := by
  obtain ⟨hm, hs⟩ := made_requestStatements schema_reqWF conv_ok_wire cfg password reqs uuidStream dtclient htexts hpw
    hreqs hdates hdt huP h
  exact C06_treeGuard_statements genEnv _ (Ofx.Types.typesConv_laws_wire _) cfg password dtclient reqs _ root
    (Made.valid conv_ok_wire gen_wire hm).1 hgiven (hs huuid hne)

/-- the account-info request (`request_accounts(password, dtacctup, dryrun=True)` with its date) -/
theorem C06_wire_unclosed_accounts (cfg : Cfg) (password : Str) (dtacctup : Option DT) (uuidStream : Nat → Str)
    (dtclient : DT) (hclose : cfg.closeElements = false) (hv200 : cfg.version < 200)
    (htexts : ∀ s ∈ cfg.texts, WireText s) (hpw : WireText password) (hgiven : dtacctup.isSome = true)
    (hd : ∀ d, dtacctup = some d → Ofx.DateTime.dtUtcMs d) (hdt : Ofx.DateTime.dtUtcMs dtclient)
    (hu : WireText (uuidStream 0)) (hne : uuidStream 0 ≠ [])
    (hn1 : Ofx.Header.UidOk genEnv.p1.newLen (some (uuidStream 1)))
    (hn2 : Ofx.Header.UidOk genEnv.p2.newLen (some (uuidStream 1))) {root : Node}
    (h : requestAccounts Ofx.Generated.schema Types.conv cfg password dtacctup uuidStream dtclient = .ok root)
    {hdr : Ofx.Header.Hdr}
    (hmk : Ofx.Header.makeHeader genEnv.p1 genEnv.p2 (.int (cfg.version : Nat)) none none (some (uuidStream 1))
      = .ok hdr) :
    ∃ file, Ofx.Pipeline.writeFile genEnv cfg.version none (some (uuidStream 1)) cfg.prettyprint cfg.closeElements
        root = .ok file ∧
      Ofx.Pipeline.readFile genEnv file = .ok (hdr, root) ∧ hdrVersion hdr = Int.ofNat cfg.version ∧
      checkAccounts Ofx.Generated.schema cfg password dtclient dtacctup (hdrVersion hdr) root = [] := by
  obtain ⟨hm, hs⟩ := made_requestAccounts schema_reqWF conv_ok_wire cfg password dtacctup uuidStream dtclient htexts hpw
    hd hdt hu h
  have hv := (Made.valid conv_ok_wire gen_wire hm).1
  have hspec := hs hne
  have hguard := C06_treeGuard_accounts genEnv _ (Ofx.Types.typesConv_laws_wire _) cfg password dtclient dtacctup _
    root hv hgiven hspec
  obtain ⟨file, hw, hr, hver⟩ := wire_of_valid cfg _ (Or.inr ⟨hv200, treeGuard_spec hguard⟩) hn1 hn2 hv hmk
  exact ⟨file, hw, hr, hver, by rw [hver]; exact hspec⟩

/-- the profile request (`_request_profile(dtprofup, dryrun=True)`): every one -/
theorem C06_wire_unclosed_profile (cfg : Cfg) (dtprofup : Option DT) (uuidStream : Nat → Str)
    (dtclient : DT) (hclose : cfg.closeElements = false) (hv200 : cfg.version < 200)
    (htexts : ∀ s ∈ cfg.texts, WireText s)
    (hd : Ofx.DateTime.dtUtcMs (orDefault dtprofup defaultDtprofup)) (hdt : Ofx.DateTime.dtUtcMs dtclient)
    (hu : WireText (uuidStream 0)) (hne : uuidStream 0 ≠ [])
    (hn1 : Ofx.Header.UidOk genEnv.p1.newLen (some (uuidStream 1)))
    (hn2 : Ofx.Header.UidOk genEnv.p2.newLen (some (uuidStream 1))) {root : Node}
    (h : requestProfile Ofx.Generated.schema Types.conv cfg dtprofup uuidStream dtclient = .ok root)
    {hdr : Ofx.Header.Hdr}
    (hmk : Ofx.Header.makeHeader genEnv.p1 genEnv.p2 (.int (cfg.version : Nat)) none none (some (uuidStream 1))
      = .ok hdr) :
    ∃ file, Ofx.Pipeline.writeFile genEnv cfg.version none (some (uuidStream 1)) cfg.prettyprint cfg.closeElements
        root = .ok file ∧
      Ofx.Pipeline.readFile genEnv file = .ok (hdr, root) ∧ hdrVersion hdr = Int.ofNat cfg.version ∧
      checkProfile Ofx.Generated.schema cfg dtclient dtprofup none (hdrVersion hdr) root = [] := by
  obtain ⟨hm, hs⟩ := made_requestProfile schema_reqWF conv_ok_wire cfg dtprofup uuidStream dtclient htexts
    (by decide +kernel) (by decide +kernel) hd hdt hu h
  have hv := (Made.valid conv_ok_wire gen_wire hm).1
  have hspec := hs hne
  have hguard := C06_treeGuard_profile genEnv _ (Ofx.Types.typesConv_laws_wire _) cfg dtclient dtprofup none _
    root hv hspec
  obtain ⟨file, hw, hr, hver⟩ := wire_of_valid cfg _ (Or.inr ⟨hv200, treeGuard_spec hguard⟩) hn1 hn2 hv hmk
  exact ⟨file, hw, hr, hver, by rw [hver]; exact hspec⟩

/-- the tax request (`request_tax1099(password, *taxyears, acctnum=…, recid=…, dryrun=True)`) that
    names a year, an account number or a record id (`taxGiven`) -/
theorem C06_wire_unclosed_tax (cfg : Cfg) (password : Str) (taxyears : List Str) (acctnum recid : Option Str)
    (uuidStream : Nat → Str) (dtclient : DT) (hclose : cfg.closeElements = false) (hv200 : cfg.version < 200)
    (htexts : ∀ s ∈ cfg.texts, WireText s) (hpw : WireText password)
    (hacct : ∀ s, acctnum = some s → WireText s) (hrec : ∀ s, recid = some s → WireText s)
    (hyears : ∀ y ∈ taxyears, ∃ j : Int, y = pyStrInt j) (hgiven : taxGiven taxyears acctnum recid = true)
    (hdt : Ofx.DateTime.dtUtcMs dtclient)
    (hu : WireText (uuidStream 0)) (hne : uuidStream 0 ≠ [])
    (hn1 : Ofx.Header.UidOk genEnv.p1.newLen (some (uuidStream 1)))
    (hn2 : Ofx.Header.UidOk genEnv.p2.newLen (some (uuidStream 1))) {root : Node}
    (h : requestTax Ofx.Generated.schema Types.conv cfg password taxyears acctnum recid uuidStream dtclient
      = .ok root) {hdr : Ofx.Header.Hdr}
    (hmk : Ofx.Header.makeHeader genEnv.p1 genEnv.p2 (.int (cfg.version : Nat)) none none (some (uuidStream 1))
      = .ok hdr) :
    ∃ file, Ofx.Pipeline.writeFile genEnv cfg.version none (some (uuidStream 1)) cfg.prettyprint cfg.closeElements
        root = .ok file ∧
      Ofx.Pipeline.readFile genEnv file = .ok (hdr, root) ∧ hdrVersion hdr = Int.ofNat cfg.version ∧
      checkTax Ofx.Generated.schema cfg password dtclient taxyears acctnum recid (hdrVersion hdr) root = [] := by
  obtain ⟨hm, hs⟩ := made_requestTax schema_reqWF schema_taxWF conv_ok_wire conv_year cfg password taxyears acctnum
    recid uuidStream dtclient htexts hpw hacct hrec hyears hdt hu h
  have hv := (Made.valid conv_ok_wire gen_wire hm).1
  have hspec := hs hne
  have hguard := C06_treeGuard_tax genEnv _ (Ofx.Types.typesConv_laws_wire _) cfg password dtclient taxyears acctnum
    recid _ root hv hgiven hspec
  obtain ⟨file, hw, hr, hver⟩ := wire_of_valid cfg _ (Or.inr ⟨hv200, treeGuard_spec hguard⟩) hn1 hn2 hv hmk
  exact ⟨file, hw, hr, hver, by rw [hver]; exact hspec⟩

/-- the full-strength statement for the tax request: `C06_wire_unclosed_tax` without `taxGiven` (read-back clause
    only) -/
def C06_wire_unclosed_tax_full : Prop :=
  ∀ (cfg : Cfg) (password : Str) (taxyears : List Str) (acctnum recid : Option Str) (uuidStream : Nat → Str)
    (dtclient : DT) (root : Node) (hdr : Ofx.Header.Hdr),
    cfg.closeElements = false → cfg.version < 200 →
    (∀ s ∈ cfg.texts, WireText s) → WireText password →
    (∀ s, acctnum = some s → WireText s) → (∀ s, recid = some s → WireText s) →
    (∀ y ∈ taxyears, ∃ j : Int, y = pyStrInt j) → Ofx.DateTime.dtUtcMs dtclient →
    WireText (uuidStream 0) → uuidStream 0 ≠ [] →
    Ofx.Header.UidOk genEnv.p1.newLen (some (uuidStream 1)) → Ofx.Header.UidOk genEnv.p2.newLen (some (uuidStream 1)) →
    requestTax Ofx.Generated.schema Types.conv cfg password taxyears acctnum recid uuidStream dtclient = .ok root →
    Ofx.Header.makeHeader genEnv.p1 genEnv.p2 (.int (cfg.version : Nat)) none none (some (uuidStream 1)) = .ok hdr →
    ∃ file, Ofx.Pipeline.writeFile genEnv cfg.version none (some (uuidStream 1)) cfg.prettyprint cfg.closeElements
        root = .ok file ∧ Ofx.Pipeline.readFile genEnv file = .ok (hdr, root)

end Ofx.Gen
