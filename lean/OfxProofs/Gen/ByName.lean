/-
Where STATUS, MAIL, STOCKINFO and MFINFO stand in the generated table, for Gen/C04Groom, Gen/C13W and Gen/C13ExistW (a
class that one witness module alone names is looked up there).  The elaborator walks the table for each `rfl` below;
that a class's tag finds it follows from the table being sorted (`gen_findIdx`).
-/
import OfxProofs.Gen.WF

namespace Ofx.Gen
open Ofx Ofx.Generated Ofx.Generated.ByName

theorem cls_STATUS_at : schema.cls? idx_STATUS = some cls_STATUS := by rfl

theorem cls_MAIL_at : schema.cls? idx_MAIL = some cls_MAIL := by rfl
theorem findIdx_MAIL : schema.findIdx? "MAIL".toList = some idx_MAIL := gen_findIdx cls_MAIL cls_MAIL_at rfl

theorem cls_STOCKINFO_at : schema.cls? idx_STOCKINFO = some cls_STOCKINFO := by rfl
theorem findIdx_STOCKINFO : schema.findIdx? "STOCKINFO".toList = some idx_STOCKINFO :=
  gen_findIdx cls_STOCKINFO cls_STOCKINFO_at rfl

theorem cls_MFINFO_at : schema.cls? idx_MFINFO = some cls_MFINFO := by rfl
theorem findIdx_MFINFO : schema.findIdx? "MFINFO".toList = some idx_MFINFO := gen_findIdx cls_MFINFO cls_MFINFO_at rfl

end Ofx.Gen
