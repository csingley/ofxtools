/-
C06, end-tag-less wire form — class-specific witnesses (kernel evaluations of concrete requests over the generated
schema; built separately as a witness module: a failure here is a note about a changed class, not a broken obligation).
The recorded exception: `request_tax1099("pw")` at version 102 without end tags writes `<TAX1099RQ>` childless, and
reading the file back fails (on the real code: `ParseError: End tag </TAX1099TRNRQ> doesn't match open element
<TAX1099RQ>`).
-/
import OfxProofs.Gen.C06Unclosed

namespace Ofx.Gen
open Ofx Ofx.Compose Ofx.Spec.Request Ofx.C06

def uCfg : Cfg :=
  { wCfg with version := 102, closeElements := false, prettyprint := true, bankid := some "123456789".toList,
              brokerid := some "broker.example".toList, org := some "ORG".toList }

def uReqs : List Req :=
  [.stmt (some "111".toList) (some "CHECKING".toList) (some wDt) none (some true),
   .invStmt (some "222".toList) none none none (some false) (some false) (some true) (some false),
   .ccStmtEnd (some "333".toList) none none]

/-- the guards of `C06_wire_unclosed_generated` are satisfiable by a non-trivial request: three requests of three
    message sets, pretty-printed, version 102, no end tags — composition succeeds, the header can be made, and the
    guard evaluates to true -/
theorem unclosed_statement_witness :
    uCfg.closeElements = false ∧ uCfg.version < 200 ∧ (∀ s ∈ uCfg.texts, WireText s) ∧ WireText "pass".toList ∧
    (∀ r ∈ uReqs, ∀ s ∈ r.texts, WireText s) ∧ (∀ r ∈ uReqs, Req.given r = true) ∧
    (∀ r ∈ uReqs, ∀ d ∈ r.dates, Ofx.DateTime.dtUtcMs d) ∧
    (match requestStatements Ofx.Generated.schema Types.conv uCfg "pass".toList uReqs wUuid wDt with
      | .ok root => treeGuard Ofx.Generated.schema Types.conv root
      | .error _ => false) = true ∧
    (Ofx.Header.makeHeader genEnv.p1 genEnv.p2 (.int (uCfg.version : Nat)) none none
      (some (wUuid uReqs.length))).toBool = true := by
  refine ⟨rfl, by decide, by decide +kernel, by decide +kernel, by decide +kernel, by decide +kernel, ?_,
    by decide +kernel, by decide +kernel⟩
  intro r hr d hd
  have : d = wDt := by
    simp only [uReqs, List.mem_cons, List.mem_nil_iff, or_false] at hr
    rcases hr with rfl | rfl | rfl <;> simp [Req.dates] at hd <;> exact hd
  rw [this]; exact wDt_wire

/-- the recorded exception, evaluated: composes, fails the guard, is written, does not read back -/
theorem unclosed_tax_witness :
    (match requestTax Ofx.Generated.schema Types.conv uCfg "pw".toList [] none none wUuid wDt with
      | .ok root => (!treeGuard Ofx.Generated.schema Types.conv root) &&
        (match Ofx.Pipeline.writeFile genEnv uCfg.version none (some (wUuid 1)) uCfg.prettyprint uCfg.closeElements
            root with
          | .ok file => !(Ofx.Pipeline.readFile genEnv file).toBool
          | .error _ => false)
      | .error _ => false) = true := by decide +kernel

theorem C06_wire_unclosed_tax_full_false : ¬ C06_wire_unclosed_tax_full := by
  intro hfull
  have hw := unclosed_tax_witness
  cases hr : requestTax Ofx.Generated.schema Types.conv uCfg "pw".toList [] none none wUuid wDt with
  | error e => rw [hr] at hw; simp at hw
  | ok root =>
    rw [hr] at hw
    obtain ⟨hdr, hm⟩ := PyM.ok_of_toBool (show (Ofx.Header.makeHeader genEnv.p1 genEnv.p2 (.int (uCfg.version : Nat))
      none none (some (wUuid 1))).toBool = true by decide +kernel)
    obtain ⟨file, hwf, hrf⟩ := hfull uCfg "pw".toList [] none none wUuid wDt root hdr rfl (by decide)
      (by decide +kernel) (by decide +kernel) (by intro s h; cases h) (by intro s h; cases h)
      (by intro y hy; cases hy) wDt_wire (wUuid_wire 0) (wUuid_ne 0) (wUuid_uid 1 (by omega)).1
      (wUuid_uid 1 (by omega)).2 hr hm
    simp only [Bool.and_eq_true, Bool.not_eq_true'] at hw
    rw [hwf] at hw
    simp only [hrf, Except.toBool] at hw
    simp at hw

end Ofx.Gen
