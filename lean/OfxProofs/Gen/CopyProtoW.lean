/-
Non-vacuity witnesses for the copy / deepcopy / pickle theorems on the generated schema (C16): concrete instances of
real classes — a nested one (STMTTRNRS holding a STATUS), one with members and a dict (BANKTRANLIST holding a STMTTRN),
a half-built one (`STMTTRNRS.__new__(STMTTRNRS)`: empty dict) — satisfy the guards, and the end theorems instantiated on
the first two. These depend on what the classes are called today; the framework builds this module separately and reports its
failure as a note, not as a broken obligation.
-/
import OfxProofs.Gen.CopyProto

namespace Ofx.Gen
open Ofx Ofx.Generated Ofx.CopyProto Ofx.Getattr

def cpStatus : Node :=
  .agg ByName.idx_STATUS [("code".toList, .val (.int 0)), ("severity".toList, .val (.str "INFO".toList)),
    ("message".toList, .val .none)] []

/-- STMTTRNRS(trnuid="1", status=STATUS(code=0, severity="INFO")) -/
def cpTrnrs : Node :=
  .agg ByName.idx_STMTTRNRS [("trnuid".toList, .val (.str "1".toList)), ("status".toList, cpStatus),
    ("cltcookie".toList, .val .none), ("ofxextension".toList, .val .none), ("stmtrs".toList, .val .none)] []

/-- a BANKTRANLIST with a partial dict and one (partial) STMTTRN member -/
def cpTranlist : Node :=
  .agg ByName.idx_BANKTRANLIST [("dtstart".toList, .val .none)]
    [.agg ByName.idx_STMTTRN [("trntype".toList, .val (.str "CHECK".toList)), ("fitid".toList, .val (.str "a".toList))] []]

/-- `STMTTRNRS.__new__(STMTTRNRS)` -/
def cpFresh : Node := .agg ByName.idx_STMTTRNRS [] []

theorem cp_guards : instQuiet schema cpTrnrs = true ∧ dictsWF cpTrnrs = true ∧ instQuiet schema cpTranlist = true ∧
    dictsWF cpTranlist = true ∧ instQuiet schema cpFresh = true ∧ dictsWF cpFresh = true := by decide +kernel

theorem cpTrnrs_copies :
    copyNode (getattr schema propsTable) cpTrnrs = .ok cpTrnrs ∧
    deepcopyNode (getattr schema propsTable) cpTrnrs = .ok cpTrnrs ∧
    ∀ proto, pickleRoundtrip (getattr schema propsTable) proto cpTrnrs = .ok cpTrnrs :=
  ⟨C16_generated_copy _ _ _ cp_guards.1 cp_guards.2.1, C16_generated_deepcopy _ cp_guards.1 cp_guards.2.1,
   fun p => C16_generated_pickle p _ cp_guards.1 cp_guards.2.1⟩

theorem cpTranlist_copies :
    deepcopyNode (getattr schema propsTable) cpTranlist = .ok cpTranlist ∧
    ∀ proto, pickleRoundtrip (getattr schema propsTable) proto cpTranlist = .ok cpTranlist :=
  ⟨C16_generated_deepcopy _ cp_guards.2.2.1 cp_guards.2.2.2.1, fun p => C16_generated_pickle p _ cp_guards.2.2.1 cp_guards.2.2.2.1⟩

/-- the real STMTTRNRS has sub-aggregates, so under the `__getattr__` loop that lets KeyError through `copy.copy` of
    `cpTrnrs` raises KeyError -/
theorem cpTrnrs_pinned : copyNode (getattrPinned schema propsTable) cpTrnrs = .error .key := by
  have hc : schema.cls? ByName.idx_STMTTRNRS = some ByName.cls_STMTTRNRS := by rfl
  exact C16.C16_copy_pinned_fails schema propsTable ByName.idx_STMTTRNRS ByName.cls_STMTTRNRS _ _ _ hc
    (by decide +kernel) (by decide +kernel) (by decide +kernel)

end Ofx.Gen
