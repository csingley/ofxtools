/-
Non-vacuity witness for C03: a concrete document of the generated schema that the reader accepts (class-specific; see
Gen/C01W.lean for why it is a separate module).
-/
import OfxProofs.Gen.C03

namespace Ofx.Gen
open Ofx Ofx.Agg Ofx.Generated Ofx.Types

def exStatusDoc : Tree :=
  .node "STATUS".toList none none
    [.node "CODE".toList (some "0012".toList) none [], .node "SEVERITY".toList (some "INFO".toList) none []]

/-- the reader accepts it and the instance holds `code = 12` (text `0012`) and `severity = "INFO"` -/
def acceptedWithCode12 : PyM Node → Bool
  | .ok (.agg ci fields []) =>
    (ci == ByName.idx_STATUS) &&
    (match lookup "code".toList fields with | some (.val (.int 12)) => true | _ => false) &&
    (match lookup "severity".toList fields with | some (.val (.str s)) => s == "INFO".toList | _ => false)
  | _ => false

theorem exStatusDoc_accepted : acceptedWithCode12 (fromEtree schema Types.conv exStatusDoc) = true := by
  decide +kernel

end Ofx.Gen
