/-
Obligation on the generated schema and property table (C16, copy / deepcopy / pickle), by kernel evaluation.
`schemaQuiet`: no class of `ofxtools.models` declares a spec attribute called `__deepcopy__`, `__setstate__` or
`__slots__`, and no shortcut property has such a name — so that (`C16.probesUndefined_of_schema`) the premise of
`C16_copy_eq` / `C16_deepcopy_eq` / `C16_pickle_eq` holds on every instance of the real classes whose dicts hold no such
key.  The three corollaries are the property's last clause for the classes of `ofxtools.models`.
-/
import OfxProofs.Props.C16Copy
import OfxModel.Generated.Schema
import OfxModel.Generated.PropsTable

namespace Ofx.Gen
open Ofx Ofx.Generated Ofx.CopyProto Ofx.Getattr

theorem schema_quiet : schemaQuiet schema propsTable = true := by
  decide +kernel

/-- every tree of instances of the real classes (any class, any depth, any members, any dict state — empty and partial
    included) whose dicts are dicts and hold none of the three dunder names as a key: `copy.copy` gives an equal model -/
theorem C16_generated_copy (ci : Nat) (fields : List (Str × Node)) (items : List Node)
    (h : instQuiet schema (.agg ci fields items) = true) (hw : dictsWF (.agg ci fields items) = true) :
    copyNode (getattr schema propsTable) (.agg ci fields items) = .ok (.agg ci fields items) := by
  have hp := ((C16.probesUndefined_agg ..).mp (C16.probesUndefined_of_schema schema propsTable schema_quiet _ h)).1
  exact C16.C16_copy_eq schema propsTable ci fields items (List.all_eq_true.mp hp nSetstate (by simp [probeNames]))
    ((dictsWF_agg ..).mp hw).1

/-- … `copy.deepcopy` gives an equal model -/
theorem C16_generated_deepcopy (n : Node) (h : instQuiet schema n = true) (hw : dictsWF n = true) :
    deepcopyNode (getattr schema propsTable) n = .ok n :=
  C16.C16_deepcopy_eq schema propsTable n (C16.probesUndefined_of_schema schema propsTable schema_quiet n h) hw

/-- … and so does a pickle round trip under every protocol -/
theorem C16_generated_pickle (proto : Nat) (n : Node) (h : instQuiet schema n = true) (hw : dictsWF n = true) :
    pickleRoundtrip (getattr schema propsTable) proto n = .ok n :=
  C16.C16_pickle_eq schema propsTable proto n (C16.probesUndefined_of_schema schema propsTable schema_quiet n h) hw

end Ofx.Gen
