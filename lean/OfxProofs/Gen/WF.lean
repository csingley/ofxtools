/-
Well-formedness of the generated schema (C13, and the `WF` premises of the generic theorems), by kernel evaluation.
`knownFailures` is the list of (class, clause) pairs recorded as known findings in
/verif/known_findings.json; every other class satisfies every clause.
-/
import OfxModel.Ofx.WF
import OfxModel.Generated.Schema
import OfxModel.Generated.Tables
import OfxProofs.Lemmas.WFBridge
import OfxProofs.Lemmas.Written
import OfxProofs.Defs.C13Table

namespace Ofx.Gen
open Ofx Ofx.WF Ofx.Generated

/-- tags `ET.tostring(method="html")` treats specially -/
def specialTags : List Str := htmlEmpty ++ ["script".toList, "style".toList]

def knownFailures : List (String × String) :=
  [("TAX1099DIV_V100", "mutex"), ("TAX1099INT_V100", "mutex"), ("TAX1099INT_V100", "listBlock"),
   ("TAX1099MISC_V100", "mutex")]

def failureReport : List (String × String) :=
  (List.range schema.classes.length).flatMap fun i =>
    match schema.classes[i]? with
    | some c => (failing schema specialTags i c).map (fun f => (String.ofList c.name, f))
    | none => []

/-- `failureReport` without the clauses on attribute names and on sub-aggregate targets, which are evaluated once for
    the schema (first two lines of `schema_checks`) and shared with `schema_roundTripOk` and `schema_tagWF` -/
def failureReportRest : List (String × String) :=
  schema.classes.flatMap fun c => (failingRest schema c).map (fun f => (String.ofList c.name, f))

/-- the sweeps over the generated schema behind the `WF` premises, in one declaration: what the kernel has computed about
    `schema` is kept only that long, so stating them one by one costs more -/
theorem schema_checks :
    (schema.classes.all (namesFineB (specialTags.map code)) = true ∧
     schema.classes.all (subTargetsFast schema) = true) ∧
    (failureReportRest.all (fun f => knownFailures.contains f) = true ∧
     schema.classes.all (fun c => roundTripExceptions.contains c.name || roundTripRest schema c) = true) ∧
    (enumsPlainCharsB schema = true ∧ namesSorted (schema.classes.map (·.name)) = true) ∧
    (schema.classes.all groomOkB = true ∧
     schema.classes.all (fun c => c.abstract || Ofx.Pipeline.tagRestB htmlEmpty c) = true) := by
  decide +kernel

theorem gen_namesFine (c : Cls) (hc : c ∈ schema.classes) : NamesFine specialTags c :=
  namesFineB_sound _ c (List.all_eq_true.mp schema_checks.1.1 c hc)

theorem schema_subTargets : schema.classes.all (subTargetsFast schema) = true :=
  schema_checks.1.2

theorem failureReport_eq_rest : failureReport = failureReportRest := by
  refine Eq.trans ?_ (List.flatMap_range_getElem?
    (fun c => (failingRest schema c).map (fun f => (String.ofList c.name, f))) schema.classes)
  unfold failureReport
  congr 1
  funext i
  cases h : schema.classes[i]? with
  | none => rfl
  | some c =>
    simp only [failing_eq_rest schema specialTags i c (gen_namesFine c (List.mem_of_getElem? h))
      (List.all_getElem? schema_subTargets h)]

theorem schema_wf_except_known : failureReport.all (fun f => knownFailures.contains f) = true := by
  rw [failureReport_eq_rest]; exact schema_checks.2.1.1

theorem schema_enumsPlainChars : enumsPlainCharsB schema = true := schema_checks.2.2.1.1

theorem schema_enums_ok : enumsOk schema = true := enumsOk_of_plainChars _ schema_enumsPlainChars

/-- strictly increasing, hence pairwise distinct: lookup by tag is unambiguous -/
theorem schema_names_sorted : namesSorted (schema.classes.map (·.name)) = true := schema_checks.2.2.1.2

theorem gen_findIdx {ci : Nat} (c : Cls) (hc : schema.cls? ci = some c) (he : c.exported = true) :
    schema.findIdx? c.name = some ci :=
  findIdx?_self schema schema_names_sorted ci c hc he

theorem schema_roundTripOk :
    schema.classes.all (fun c => roundTripExceptions.contains c.name || roundTripOk schema c) = true := by
  refine List.all_eq_true.mpr (fun c hc => ?_)
  rcases Bool.or_eq_true_iff.mp (List.all_eq_true.mp schema_checks.2.1.2 c hc) with h | h
  · rw [h]; rfl
  · rw [roundTripOk_of_parts schema c schema_names_sorted (gen_namesFine c hc)
      (List.all_eq_true.mp schema_subTargets c hc) h]
    exact Bool.or_true _

theorem schema_clsWF (c : Cls) (hc : c ∈ schema.classes) (hx : c.name ∉ roundTripExceptions) :
    Agg.ClsWF schema c := by
  have := (List.all_eq_true.mp schema_roundTripOk) c hc
  have hx' : roundTripExceptions.contains c.name = false := by simpa using hx
  rw [hx', Bool.false_or] at this
  exact roundTripOk_clsWF schema c this

theorem schema_groomOk : schema.classes.all groomOkB = true := schema_checks.2.2.2.1

theorem gen_groomOk (c : Cls) (hc : c ∈ schema.classes) : Agg.GroomOk c :=
  groomOkB_groomOk c ((List.all_eq_true.mp schema_groomOk) c hc)

theorem schema_tagWF :
    schema.classes.all (fun c => c.abstract || Ofx.Pipeline.tagWFb htmlEmpty c) = true :=
  List.all_eq_true.mpr fun c hc => by
    rcases Bool.or_eq_true_iff.mp (List.all_eq_true.mp schema_checks.2.2.2.2 c hc) with h | h
    · rw [h]; rfl
    · rw [Ofx.Pipeline.tagWFb_of_names htmlEmpty c (gen_namesFine c hc) h]; exact Bool.or_true _

end Ofx.Gen
