/-
Non-vacuity of the generic constructibility theorem (`Props/C13Level.lean: C13_constructible_levels`) on the real
schema: the one-level obligation `ConstructibleLevels` holds of the schema generated from /repo.  It is read off the
full table of `Gen/C13Exist.lean` by `constructibleLevels_of`; evaluated here is only that the classes the table skips
have no child class of their own.  A witness module: what it proves of the generated schema is subsumed by
`Gen.C13_generated_constructible`.
-/
import OfxProofs.Props.C13Level
import OfxProofs.Gen.C13Exist

namespace Ofx.Gen
open Ofx Ofx.Agg Ofx.Generated Ofx.Spec.Witness

theorem schema_targetsCovered : targetsCoveredB schema = true := by decide +kernel

theorem schema_constructible_levels : ConstructibleLevels schema Types.conv defaultFuel c13Cover :=
  constructibleLevels_of schema Types.conv escapeCdata _ _ defaultFuel c13Cover schema_constructible
    schema_targetsCovered

theorem C13_generated_constructible_levels (ci : Nat) (c : Cls) (a : Attr) (hc : schema.cls? ci = some c)
    (hab : c.abstract = false) (hex : c.exported = true) (ha : a ∈ c.spec) (hs : a.kind.isUnsupported = false) :
    ∃ d fields items,
      mkWith schema defaultFuel ci a = some d ∧
      build schema Types.conv d = .ok (.agg ci fields items) ∧
      holds a (.agg ci fields items) = true ∧
      ValidFull schema (.agg ci fields items) :=
  C13_constructible_levels schema schema_ok defaultFuel c13Cover schema_constructible_levels ci c a hc hab hex ha hs

end Ofx.Gen
