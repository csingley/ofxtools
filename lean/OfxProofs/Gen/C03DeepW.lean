/-
Non-vacuity witness for the whole-document form of C03 (class-specific, hence a witness module — see Gen/C01W.lean):
a nested document of the generated schema, as text, that satisfies the guards of `C03_document_*` together —
it is a strict rendering (SGML leaves, XML leaves with padding, a CDATA section, line breaks) of a tree three
aggregates deep, with two list members, a child the reader renames (`YIELD → YLD`, class STOCKINFO), an escaped
text, and decimals with `,` / a bare `.`; the library's path converts it; and the model holds, at the paths the
specification lists, the denotations.
-/
import OfxProofs.Gen.C03Deep

namespace Ofx.Gen
open Ofx Ofx.Agg Ofx.Generated Ofx.Types Ofx.Spec

def wLeaf (t d : String) : RTree := .leaf t.toList d.toList [] [] false ['\n']

def wStock (id yld : String) : RTree :=
  .agg "STOCKINFO".toList ['\n'] [
    .agg "SECINFO".toList [] [
      .agg "SECID".toList [] [wLeaf "UNIQUEID" id, .leaf "UNIQUEIDTYPE".toList "CUSIP".toList [' '] [' '] true []] [],
      .cdata "SECNAME".toList "A>B Corp".toList [] true [],
      wLeaf "TICKER" "X&amp;Y"] ['\n'],
    .leaf "YIELD".toList yld.toList [] [] true ['\n'],
    wLeaf "ASSETCLASS" "OTHER"] ['\n']

def wDoc : RTree := .agg "SECLIST".toList ['\n'] [wStock "084670108" "-1,50", wStock "084670207" "+.5"] []

def pathOf (l : List (Sum String Nat)) : Path :=
  l.map (fun s => match s with | .inl n => Step.attr n.toList | .inr i => Step.item i)

/-- what the witness is checked for: the rendering is in the strict grammar; the specification lists the renamed
    child under `yld` of member 0 and member 1, and the doubly nested `uniqueid` of member 1; the converted model
    holds the decimals −1.50 and 0.5 and the decoded ticker `X&Y` at those paths; and the model holds exactly as many
    values as the document has addressed data elements -/
def wCheck : Bool :=
  wDoc.ok true &&
  (docValues schema wDoc.tree).contains (pathOf [.inr 0, .inl "yld"], "-1,50".toList) &&
  (docValues schema wDoc.tree).contains (pathOf [.inr 1, .inl "yld"], "+.5".toList) &&
  (docValues schema wDoc.tree).contains
    (pathOf [.inr 1, .inl "secinfo", .inl "secid", .inl "uniqueid"], "084670207".toList) &&
  (match parseConvert schema Types.conv wDoc.str with
   | .ok inst =>
     (instValues inst).contains (pathOf [.inr 0, .inl "yld"], .dec (.fin true 150 (-2))) &&
     (instValues inst).contains (pathOf [.inr 1, .inl "yld"], .dec (.fin false 5 (-1))) &&
     (instValues inst).contains (pathOf [.inr 0, .inl "secinfo", .inl "ticker"], .str "X&Y".toList) &&
     (instValues inst).length == (docValues schema wDoc.tree).length &&
     (instValues inst).length == 12
   | .error _ => false)

theorem wDoc_checked : wCheck = true := by decide +kernel

/-- the guards of `C03_document_value` / `C03_document_generated_denotes` hold together for it -/
theorem wDoc_guards : RendersDoc true wDoc.tree wDoc.str ∧
    ∃ inst, parseConvert schema Types.conv wDoc.str = .ok inst := by
  have h := wDoc_checked
  simp only [wCheck, Bool.and_eq_true] at h
  refine ⟨⟨[], wDoc.str, [], rfl, rfl, C02.render_renders true wDoc h.1.1.1.1, by simp⟩, ?_⟩
  have h5 := h.2
  cases hp : parseConvert schema Types.conv wDoc.str with
  | ok inst => exact ⟨inst, rfl⟩
  | error e => rw [hp] at h5; simp at h5

end Ofx.Gen
