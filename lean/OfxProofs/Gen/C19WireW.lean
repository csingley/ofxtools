/-
Witnesses for `Gen/C19Wire.lean`: a concrete `ofxget stmt -n` command line (`exArgs`, `exAccounts` and their guards
`exArgs_guards` are in Props/C19Wire.lean), and a second one with `--all` and a non-empty account-information response, for which every hypothesis of the generated theorems holds — and therefore
their conclusions.  Class positions in the generated schema are not mentioned.
-/
import OfxProofs.Gen.C19Wire

namespace Ofx.Gen
open Ofx Ofx.Ofxget Ofx.Compose Ofx.Spec.Ofxget Ofx.OfxgetWire Ofx.Spec.Request Ofx.C06

/-- what reaches the run from outside: no account-information response (no `--all`), nothing typed, the uuid stream
    `u, uu, uuu, …`, a DTCLIENT -/
def exX : Ext := ⟨.ok [], [], wUuid, wDt⟩

/-- `init_client(exArgs)` -/
def exCfg : Cfg :=
  { url := "https://bank.example/ofx".toList, userid := "bob".toList, clientuid := none, org := none, fid := none,
    version := 203, appid := "QWIN".toList, appver := "2700".toList, language := "ENG".toList, prettyprint := false,
    closeElements := true, bankid := some "111000614".toList, brokerid := some "broker.example".toList }

/-- `convert_datetime(exArgs)`: 2020-01-01, and 2020-02-29 12:00:00.123 at -5:00 = 17:00:00.123 UTC -/
def exDates : Dates DT :=
  ⟨some ⟨2020, 1, 1, 0, 0, 0, 0, some ⟨0, some "UTC".toList⟩⟩,
   some ⟨2020, 2, 29, 17, 0, 0, 123000, some ⟨0, some "UTC".toList⟩⟩, none⟩

def exStart : Spec.Instant.Parts := ⟨some (2020, 1, 1), none, none, none⟩
def exEnd : Spec.Instant.Parts := ⟨some (2020, 2, 29), some (12, 0, 0), some 123, some ⟨some true, [5], none, some "EST".toList⟩⟩

/-- the command line: `--all`, a start date, a password (not a dry run: the ACCTINFORQ is really sent) -/
def allCli : Map :=
  [("url".toList, .str "https://bank.example/ofx".toList), ("user".toList, .str "bob".toList),
   ("all".toList, .bool true), ("password".toList, .str "pw".toList), ("dtstart".toList, .str "20200101".toList)]

def allRest : Chain := [[], Ofx.Generated.ofxgetTables.defaults]

/-- the response: an ACTIVE checking account, a PEND savings account, an ACTIVE credit card -/
def allInfos : List AcctInfo :=
  [.bank "111000614".toList "C1".toList "CHECKING".toList "ACTIVE".toList,
   .bank "111000614".toList "S1".toList "SAVINGS".toList "PEND".toList,
   .cc "4444".toList "ACTIVE".toList]

def allX : Ext := ⟨.ok allInfos, [], wUuid, wDt⟩

/-- `init_client` after discovery: the bank id is the response's -/
def allCfg : Cfg :=
  { url := "https://bank.example/ofx".toList, userid := "bob".toList, clientuid := none, org := none, fid := none,
    version := 203, appid := "QWIN".toList, appver := "2700".toList, language := "ENG".toList, prettyprint := false,
    closeElements := true, bankid := some "111000614".toList, brokerid := none }

def allDates : Dates DT := ⟨some ⟨2020, 1, 1, 0, 0, 0, 0, some ⟨0, some "UTC".toList⟩⟩, none, none⟩

/-- the plan of the run (`request_stmt` up to the call of the client) -/
def allPlan : Plan DT :=
  match requestStmt dateConvert (allCli :: allRest) allX.acct with
  | .ok p => p
  | .error _ => ⟨[], [], []⟩

def allPlanEnd : Plan DT :=
  match requestStmtend dateConvert (allCli :: allRest) allX.acct with
  | .ok p => p
  | .error _ => ⟨[], [], []⟩

def returns {α : Type} [DecidableEq α] (x : PyM α) (a : α) : Bool :=
  match x with
  | .ok b => b = a
  | .error _ => false

theorem eq_ok_of_returns {α : Type} [DecidableEq α] {x : PyM α} {a : α} (h : returns x a = true) : x = .ok a := by
  cases x with
  | error e => cases h
  | ok b => exact congrArg _ (of_decide_eq_true h)

local instance (d : DT) : Decidable (Ofx.DateTime.dtUtcMs d) := by
  delta Ofx.DateTime.dtUtcMs
  infer_instance

local instance (rest : Chain) (infos : List AcctInfo) : Decidable (NoFallback rest infos) := by
  delta NoFallback
  infer_instance

/-- Every computation the witnesses below rest on, in one evaluation.  Checked together, the kernel looks up each
    option, each class of the schema and each string literal once; with one `decide` per fact those look-ups are
    repeated, and the whole costs several times as much. -/
theorem evaluated :
    ((stmtBytes Ofx.Generated.schema Types.conv (envOf genEnv) exArgs exX).toBool = true ∧
     (stmtendBytes Ofx.Generated.schema Types.conv (envOf genEnv) exArgs exX).toBool = true ∧
     ((stmtBytes Ofx.Generated.schema Types.conv (envOf genEnv) (allCli :: allRest) allX).toBool = true ∧
      (requestStmt dateConvert (allCli :: allRest) allX.acct).toBool = true ∧ allPlan.requests.length = 2) ∧
     ((stmtendBytes Ofx.Generated.schema Types.conv (envOf genEnv) (allCli :: allRest) allX).toBool = true ∧
      (requestStmtend dateConvert (allCli :: allRest) allX.acct).toBool = true ∧ allPlanEnd.requests.length = 2)) ∧
    (returns (clientCfg exArgs) exCfg = true ∧ returns (getPasswd exArgs exX.typed) authPlaceholder = true ∧
     returns (convertDatetime dateConvert exArgs) exDates = true ∧
     exArgs.get? "dtstart".toList = some (.str exStart.render) ∧ exArgs.get? "dtend".toList = some (.str exEnd.render) ∧
     exArgs.get? "dtasof".toList = some (.str [])) ∧
    (returns (clientCfg allPlan.args) allCfg = true ∧ returns (clientCfg allPlanEnd.args) allCfg = true ∧
     returns (getPasswd (allCli :: allRest) allX.typed) "pw".toList = true ∧
     returns (convertDatetime dateConvert (allCli :: allRest)) allDates = true) ∧
    (Chain.get? (allCli :: allRest) "all".toList = some (.bool true) ∧ (∀ t ∈ acctKeys, allCli.lookup t = none) ∧
     NoFallback allRest allInfos) ∧
    ((∀ s ∈ exCfg.texts, WireText s) ∧ WireText authPlaceholder ∧ (∀ id ∈ exAccounts.ids, WireText id) ∧
     (∀ s ∈ allCfg.texts, WireText s) ∧ WireText "pw".toList ∧ (∀ s ∈ activeTexts false allInfos, WireText s) ∧
     (∀ s ∈ activeTexts true allInfos, WireText s)) ∧
    ((∀ d ∈ exDates.all, Ofx.DateTime.dtUtcMs d) ∧ (∀ d ∈ allDates.all, Ofx.DateTime.dtUtcMs d) ∧
     (∀ p ∈ [exStart, exEnd], p.wf false = true ∧ Ofx.DateTime.lenOk p = true ∧
       Ofx.DateTime.us1000 ≤ 1000 * p.instant ∧ 1000 * p.instant < Ofx.DateTime.usEnd)) := by
  decide +kernel

theorem exCfg_ok : clientCfg exArgs = .ok exCfg := eq_ok_of_returns evaluated.2.1.1
theorem exPw_ok : getPasswd exArgs exX.typed = .ok authPlaceholder := eq_ok_of_returns evaluated.2.1.2.1
theorem exDates_ok : convertDatetime dateConvert exArgs = .ok exDates := eq_ok_of_returns evaluated.2.1.2.2.1

theorem exDates_wire : ∀ d ∈ exDates.all, Ofx.DateTime.dtUtcMs d := by
  obtain ⟨-, -, -, -, -, h, -⟩ := evaluated
  exact h

/-- the hypotheses of `C19_wire_dates` / `C19_wire_configured_notation_generated` about the dates hold of the example -/
theorem exDates_notation :
    exArgs.get? "dtstart".toList = some (.str exStart.render) ∧ exArgs.get? "dtend".toList = some (.str exEnd.render) ∧
    exArgs.get? "dtasof".toList = some (.str []) ∧
    (∀ p, some exStart = some p ∨ some exEnd = some p ∨ (none : Option Spec.Instant.Parts) = some p →
      p.wf false = true ∧ Ofx.DateTime.lenOk p = true ∧ Ofx.DateTime.us1000 ≤ 1000 * p.instant ∧
        1000 * p.instant < Ofx.DateTime.usEnd) := by
  obtain ⟨-, ⟨-, -, -, hs, he, ha⟩, -, -, -, -, -, hparts⟩ := evaluated
  refine ⟨hs, he, ha, ?_⟩
  intro p hp
  rcases hp with hp | hp | hp
  · injection hp with hp; subst hp; exact hparts _ (List.mem_cons_self ..)
  · injection hp with hp; subst hp; exact hparts _ (List.mem_cons_of_mem _ (List.mem_cons_self ..))
  · cases hp

theorem exStmt_ok : (stmtBytes Ofx.Generated.schema Types.conv (envOf genEnv) exArgs exX).toBool = true :=
  evaluated.1.1

/-- the hypotheses of `C19_wire_configured_generated` are satisfiable, and what follows: for the example command
    line (two checking accounts, a credit card, an investment account, two dates, `--no-balances`, dry run) the printed
    text, read back by the pipeline reader, is an OFX 2.03 request satisfying `RequestSpec` for exactly those four
    accounts -/
theorem C19_wire_example :
    ∃ text file hdr root,
      stmtBytes Ofx.Generated.schema Types.conv (envOf genEnv) exArgs exX = .ok text ∧
      Ofx.Codec.encode genEnv.cp1252 .utf8 text = .ok file ∧
      Ofx.Pipeline.readFile genEnv file = .ok (hdr, root) ∧ hdrVersion hdr = 203 ∧
      RequestSpec Ofx.Generated.schema exCfg authPlaceholder wDt
        [.stmt (some "111".toList) (some "CHECKING".toList) exDates.start exDates.end (some true),
         .stmt (some "222".toList) (some "CHECKING".toList) exDates.start exDates.end (some true),
         .ccStmt (some "4444".toList) exDates.start exDates.end (some true),
         .invStmt (some "I-9".toList) exDates.start exDates.end none (some true) (some false) (some true) (some false)]
        (hdrVersion hdr) root := by
  obtain ⟨text, hs⟩ := PyM.ok_of_toBool exStmt_ok
  obtain ⟨hall, ha, hf⟩ := exArgs_guards
  obtain ⟨-, -, -, -, ⟨hcfgT, hpwT, hidsT, -⟩, -⟩ := evaluated
  obtain ⟨file, hdr, root, h1, h2, h3, h4⟩ :=
    C19_wire_configured_generated exArgs exX exAccounts (.bool true) (.bool false) (.bool true) (.bool false)
      (.bool false) (some true) (some false) (some true) (some false) hall rfl ha hf
      rfl rfl rfl rfl exCfg exCfg_ok authPlaceholder exPw_ok exDates exDates_ok rfl hcfgT hpwT hidsT
      exDates_wire wDt_wire wUuid_inj wUuid_ne wUuid_wire
      (wUuid_uid _ (by decide)).1 (wUuid_uid _ (by decide)).2 hs
  exact ⟨text, file, hdr, root, hs, h1, h2, h3, h4⟩

theorem exStmtend_ok : (stmtendBytes Ofx.Generated.schema Types.conv (envOf genEnv) exArgs exX).toBool = true :=
  evaluated.1.2.1

/-- the hypotheses of `C19_wire_configured_stmtend_generated` are jointly satisfiable, and what follows: for the
    example command line `ofxget stmtend` prints a text that reads back to a request for exactly the two checking
    accounts and the credit card (closing statements; the investment account is not asked for) -/
theorem C19_wire_stmtend_example :
    ∃ text file hdr root,
      stmtendBytes Ofx.Generated.schema Types.conv (envOf genEnv) exArgs exX = .ok text ∧
      Ofx.Codec.encode genEnv.cp1252 .utf8 text = .ok file ∧
      Ofx.Pipeline.readFile genEnv file = .ok (hdr, root) ∧ hdrVersion hdr = 203 ∧
      RequestSpec Ofx.Generated.schema exCfg authPlaceholder wDt
        [.stmtEnd (some "111".toList) (some "CHECKING".toList) exDates.start exDates.end,
         .stmtEnd (some "222".toList) (some "CHECKING".toList) exDates.start exDates.end,
         .ccStmtEnd (some "4444".toList) exDates.start exDates.end]
        (hdrVersion hdr) root := by
  obtain ⟨text, hs⟩ := PyM.ok_of_toBool exStmtend_ok
  obtain ⟨hall, ha, -⟩ := exArgs_guards
  obtain ⟨-, -, -, -, ⟨hcfgT, hpwT, hidsT, -⟩, -⟩ := evaluated
  obtain ⟨file, hdr, root, h1, h2, h3, h4⟩ :=
    C19_wire_configured_stmtend_generated exArgs exX exAccounts (.bool false) hall rfl ha
      exCfg exCfg_ok authPlaceholder exPw_ok exDates exDates_ok rfl hcfgT hpwT hidsT exDates_wire
      wDt_wire wUuid_inj wUuid_ne wUuid_wire
      (wUuid_uid _ (by decide)).1 (wUuid_uid _ (by decide)).2 hs
  exact ⟨text, file, hdr, root, hs, h1, h2, h3, h4⟩

/-- exactly two accounts are asked for: the PEND savings account is not one -/
theorem allStmt_ok :
    (stmtBytes Ofx.Generated.schema Types.conv (envOf genEnv) (allCli :: allRest) allX).toBool = true ∧
    (requestStmt dateConvert (allCli :: allRest) allX.acct).toBool = true ∧ allPlan.requests.length = 2 :=
  evaluated.1.2.2.1

theorem allPlan_ok : requestStmt dateConvert (allCli :: allRest) allX.acct = .ok allPlan := by
  obtain ⟨p, hp⟩ := PyM.ok_of_toBool allStmt_ok.2.1
  rw [allPlan, hp]

theorem allInfos_valid : ValidInfos allInfos := by
  intro inf hinf
  simp only [allInfos, List.mem_cons, List.mem_nil_iff, or_false] at hinf
  rcases hinf with rfl | rfl | rfl
  · show "CHECKING".toList ∈ validAcctTypes
    decide
  · show "SAVINGS".toList ∈ validAcctTypes
    decide
  · trivial

/-- the hypotheses of `C19_wire_all_generated` are jointly satisfiable, and what follows: the text `ofxget stmt
    --all` posts reads back to a request whose accounts are exactly the two ACTIVE ones of the response -/
theorem C19_wire_all_example :
    ∃ text reqs file hdr root,
      stmtBytes Ofx.Generated.schema Types.conv (envOf genEnv) (allCli :: allRest) allX = .ok text ∧
      toReqs allPlan.requests = .ok reqs ∧ reqs.length = 2 ∧
      (reqs.map reqKey).Perm [some (.bank "C1".toList "CHECKING".toList), some (.cc "4444".toList)] ∧
      Ofx.Codec.encode genEnv.cp1252 .utf8 text = .ok file ∧
      Ofx.Pipeline.readFile genEnv file = .ok (hdr, root) ∧ hdrVersion hdr = 203 ∧
      RequestSpec Ofx.Generated.schema allCfg "pw".toList wDt reqs (hdrVersion hdr) root := by
  obtain ⟨text, hs⟩ := PyM.ok_of_toBool allStmt_ok.1
  have hlen : allPlan.requests.length = 2 := allStmt_ok.2.2
  obtain ⟨-, -, ⟨hcfg, -, hpw, hdt⟩, ⟨hall, hcli, hg⟩, ⟨-, -, -, hcfgT, hpwT, hactT, -⟩, -, hdates, -⟩ :=
    evaluated
  obtain ⟨reqs, file, hdr, root, h0, hperm, h1, h2, h3, h4⟩ :=
    C19_wire_all_generated allCli allRest allInfos allX (.bool true) rfl hall rfl hcli allInfos_valid hg
      allPlan allPlan_ok allCfg (eq_ok_of_returns hcfg) "pw".toList (eq_ok_of_returns hpw) allDates
      (eq_ok_of_returns hdt) rfl hcfgT hpwT hactT hdates wDt_wire
      wUuid_inj wUuid_ne wUuid_wire
      (by rw [hlen]; exact (wUuid_uid _ (by decide)).1)
      (by rw [hlen]; exact (wUuid_uid _ (by decide)).2) hs
  refine ⟨text, reqs, file, hdr, root, hs, h0, ?_, hperm, h1, h2, h3, h4⟩
  rw [toReqs_length _ _ h0, hlen]

theorem allStmtend_ok :
    (stmtendBytes Ofx.Generated.schema Types.conv (envOf genEnv) (allCli :: allRest) allX).toBool = true ∧
    (requestStmtend dateConvert (allCli :: allRest) allX.acct).toBool = true ∧ allPlanEnd.requests.length = 2 :=
  evaluated.1.2.2.2

theorem allPlanEnd_ok : requestStmtend dateConvert (allCli :: allRest) allX.acct = .ok allPlanEnd := by
  obtain ⟨p, hp⟩ := PyM.ok_of_toBool allStmtend_ok.2.1
  rw [allPlanEnd, hp]

theorem C19_wire_all_stmtend_example :
    ∃ text reqs file hdr root,
      stmtendBytes Ofx.Generated.schema Types.conv (envOf genEnv) (allCli :: allRest) allX = .ok text ∧
      toReqs allPlanEnd.requests = .ok reqs ∧ reqs.length = 2 ∧
      (reqs.map reqKey).Perm [some (.bank "C1".toList "CHECKING".toList), some (.cc "4444".toList)] ∧
      Ofx.Codec.encode genEnv.cp1252 .utf8 text = .ok file ∧
      Ofx.Pipeline.readFile genEnv file = .ok (hdr, root) ∧ hdrVersion hdr = 203 ∧
      RequestSpec Ofx.Generated.schema allCfg "pw".toList wDt reqs (hdrVersion hdr) root := by
  obtain ⟨text, hs⟩ := PyM.ok_of_toBool allStmtend_ok.1
  have hlen : allPlanEnd.requests.length = 2 := allStmtend_ok.2.2
  obtain ⟨-, -, ⟨-, hcfg, hpw, hdt⟩, ⟨hall, hcli, hg⟩, ⟨-, -, -, hcfgT, hpwT, -, hactT⟩, -, hdates, -⟩ :=
    evaluated
  obtain ⟨reqs, file, hdr, root, h0, hperm, h1, h2, h3, h4⟩ :=
    C19_wire_all_stmtend_generated allCli allRest allInfos allX (.bool true) rfl hall rfl
      (fun t ht => hcli t (closingKeys_subset t ht)) allInfos_valid hg.closing
      allPlanEnd allPlanEnd_ok allCfg (eq_ok_of_returns hcfg) "pw".toList (eq_ok_of_returns hpw) allDates
      (eq_ok_of_returns hdt) rfl hcfgT hpwT hactT hdates wDt_wire
      wUuid_inj wUuid_ne wUuid_wire
      (by rw [hlen]; exact (wUuid_uid _ (by decide)).1)
      (by rw [hlen]; exact (wUuid_uid _ (by decide)).2) hs
  refine ⟨text, reqs, file, hdr, root, hs, h0, ?_, hperm, h1, h2, h3, h4⟩
  rw [toReqs_length _ _ h0, hlen]

end Ofx.Gen
