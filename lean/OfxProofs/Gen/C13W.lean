/-
Non-vacuity witness for the C13 theorems (class-specific; see Gen/C01W.lean).
-/
import OfxProofs.Gen.C13
import OfxProofs.Gen.C01W
import OfxProofs.Gen.ByName

namespace Ofx.Gen
open Ofx Ofx.Agg Ofx.Generated Ofx.Types Ofx.Spec.Wire

/-- `exStatus` (valid, Gen/C01W) holds `code` and `severity` -/
example : ∃ tag x tl children, toEtree genEnv.S genEnv.cv exStatus = .ok (.node tag x tl children) ∧
    fromEtree genEnv.S genEnv.cv (mapText escapeCdata (.node tag x tl children)) = .ok exStatus ∧
    ∃ ch ∈ children, lower ch.tag = "code".toList ∧ '.' ∉ ch.tag :=
  C13_generated_child ByName.idx_STATUS _ _ exStatus_valid (fun c hc => by
    obtain rfl : ByName.cls_STATUS = c := Option.some.inj (cls_STATUS_at.symm.trans hc)
    rfl) "code".toList (.val (.int 0)) (by simp) (by simp)

end Ofx.Gen
