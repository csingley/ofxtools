/-
Obligation on the generated property table (C16), by kernel evaluation.
`propsAgree`: the class names the table mentions are the schema's; every getter found in `ofxtools.models` has
exactly the documented shape and parameters (`Spec.Getattr.documentedBody`, written from the documentation by
class and property *name*), reads only stored spec attributes of its own class (`bodyOk`), and every documented
shortcut exists.  A getter edited so that it no longer walks the documented path (e.g. `BANKMSGSRQV1.statements`
testing `STMTTRNRQ` twice) makes this fail.
-/
import OfxModel.Spec.Getattr
import OfxModel.Generated.Schema
import OfxModel.Generated.PropsTable

namespace Ofx.Gen
open Ofx Ofx.Generated Ofx.Spec.Getattr

theorem props_agree_documented : propsAgree schema propsTable propsClassNames = true := by
  decide +kernel

end Ofx.Gen
