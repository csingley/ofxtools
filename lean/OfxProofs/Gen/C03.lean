/-
C03 instantiated for the schema generated from /repo's model classes and the modelled converters.
-/
import OfxProofs.Props.C03Sub
import OfxProofs.Gen.C01

namespace Ofx.Gen
open Ofx Ofx.Agg Ofx.Generated Ofx.Types

theorem schema_spec_nodup : schema.classes.all (fun c => decide ((c.spec.map (·.name)).Nodup)) = true :=
  List.all_eq_true.mpr fun c hc => decide_eq_true (gen_namesFine c hc).nodup

theorem gen_spec_nodup (ci : Nat) (c : Cls) (hc : schema.cls? ci = some c) : (c.spec.map (·.name)).Nodup :=
  (gen_namesFine c (List.mem_of_getElem? hc)).nodup

theorem typesConv_none (enums : List (List Str)) : ∀ (k : Kind) (r : Bool) (v : Val),
    Types.conv.convert enums k r .none = .ok v → v = .none :=
  fun k r v h => (reads_of_convert enums k r _ v h).of_none

/-- **C03 for the generated schema: nothing dropped, right value.** -/
theorem C03_generated_value (tag : Str) (x tl : Option Str) (pre post : List Tree) (ch : Tree) (ci : Nat)
    (c : Cls) (a : Attr) (t0 : Char) (ts : Str) (fields : List (Str × Node)) (items : List Node) (cj : Nat)
    (hfind : schema.findIdx? tag = some ci) (hcls : schema.cls? ci = some c) (hg : c.groom = none)
    (ha : a ∈ c.spec) (hname : a.name = lower ch.tag) (hdot : '.' ∉ ch.tag)
    (hl : a.kind.isList = false) (hu : a.kind.isUnsupported = false) (hs : ∀ t, a.kind ≠ .sub t)
    (htext : ch.text = some (t0 :: ts))
    (h : fromEtree schema Types.conv (.node tag x tl (pre ++ ch :: post)) = .ok (.agg cj fields items)) :
    ∃ v, lookup a.name fields = some (.val v) ∧
      Types.convert schema.enums a.kind a.required (.str (t0 :: ts)) = .ok v :=
  C03_element_value schema Types.conv tag x tl pre post ch ci c a t0 ts fields items cj hfind hcls hg
    (gen_spec_nodup ci c hcls) ha hname hdot hl hu hs htext h

/-- **C03 for the generated schema: nothing invented.** -/
theorem C03_generated_nothing_invented (tag : Str) (x tl : Option Str) (children : List Tree) (ci : Nat)
    (c : Cls) (fields : List (Str × Node)) (items : List Node) (cj : Nat)
    (hfind : schema.findIdx? tag = some ci) (hcls : schema.cls? ci = some c) (hg : c.groom = none)
    (h : fromEtree schema Types.conv (.node tag x tl children) = .ok (.agg cj fields items))
    (n : Str) (w : Node) (hm : (n, w) ∈ fields) (hw : w ≠ .val .none) :
    ∃ a ∈ c.spec, a.name = n ∧ ∃ ch ∈ children, '.' ∉ ch.tag ∧ lower ch.tag = n ∧
      ∃ raw, childValue ch (fromEtree schema Types.conv ch) = .ok raw ∧
        setAttr schema Types.conv a raw = .ok (some w) :=
  C03_nothing_invented schema Types.conv tag x tl children ci c fields items cj hfind hcls hg
    (gen_spec_nodup ci c hcls) (typesConv_none schema.enums) h n w hm hw

end Ofx.Gen
