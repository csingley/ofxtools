/-
C19 end to end on the generated schema, the real converters and the generated tables: the text `ofxget stmt` /
`ofxget stmtend` prints on a dry run (or posts), encoded as `serialize` does and read back by `Pipeline.readFile genEnv`,
is a request for exactly the configured (or, with `--all`, exactly the ACTIVE) accounts.  The read-back comes from
`made_requestStatements` and `serializeReq_readback` (C01 on the text `serialize` returns), not from the
`readback`-relative theorems of `Props/C19Wire.lean`.  Guards, from C06 / C01: end tags are written; `WireText` of the
client's texts, the password, the account numbers and the uuids; `dtUtcMs` of the converted dates and of DTCLIENT.
-/
import OfxProofs.Props.C19Wire
import OfxProofs.Gen.Compose
import OfxProofs.Gen.Ofxget

namespace Ofx.Gen
open Ofx Ofx.Ofxget Ofx.Compose Ofx.Spec.Ofxget Ofx.OfxgetWire Ofx.Spec.Request Ofx.C06

/-- the request text of `request_statements` (either setting of `gen_newfileuid`), encoded as `serialize` does (utf-8),
    is read by `OFXTree.parse` + `convert` to a header of the configured version and to an instance that satisfies
    `RequestSpec` for exactly that request list. -/
theorem requestBytes_readback (cfg : Cfg) (password : Str) (reqs : List Req) (gen : Bool) (uuidStream : Nat → Str)
    (dtclient : DT) (hclose : cfg.closeElements = true)
    (htexts : ∀ s ∈ cfg.texts, WireText s) (hpw : WireText password)
    (hreqs : ∀ r ∈ reqs, ∀ s ∈ r.texts, WireText s)
    (hdates : ∀ r ∈ reqs, ∀ d ∈ r.dates, Ofx.DateTime.dtUtcMs d) (hdt : Ofx.DateTime.dtUtcMs dtclient)
    (huuid : ∀ i j, uuidStream i = uuidStream j → i = j) (hne : ∀ i, uuidStream i ≠ [])
    (huP : ∀ i, WireText (uuidStream i))
    (hn1 : Ofx.Header.UidOk genEnv.p1.newLen (some (uuidStream reqs.length)))
    (hn2 : Ofx.Header.UidOk genEnv.p2.newLen (some (uuidStream reqs.length)))
    {text : Str}
    (h : requestBytes Ofx.Generated.schema Types.conv (envOf genEnv) cfg password reqs gen uuidStream dtclient
      = .ok text) :
    ∃ file hdr root, Ofx.Codec.encode genEnv.cp1252 .utf8 text = .ok file ∧
      Ofx.Pipeline.readFile genEnv file = .ok (hdr, root) ∧
      hdrVersion hdr = Int.ofNat cfg.version ∧
      RequestSpec Ofx.Generated.schema cfg password dtclient reqs (hdrVersion hdr) root := by
  unfold requestBytes at h
  obtain ⟨root, hroot, hser⟩ := PyM.bind_ok h
  obtain ⟨hm, hs⟩ := made_requestStatements schema_reqWF conv_ok_wire cfg password reqs uuidStream dtclient htexts hpw
    hreqs hdates hdt huP hroot
  obtain ⟨file, hdr, hw, hr, hver⟩ := serializeReq_readback cfg (newFileUid gen uuidStream reqs.length) hclose
    (by cases gen; exact uid1n; exact hn1) (by cases gen; exact uid2n; exact hn2)
    (Made.valid conv_ok_wire gen_wire hm).1 hser
  exact ⟨file, hdr, root, hw, hr, hver, by rw [hver]; exact hs huuid hne⟩

theorem bankTypes_wire : ∀ ty ∈ requestableBankTypes, WireText ty := by decide +kernel

/-- `ofxget stmt`.  For every mapping without `--all` whose account-type options
    hold lists `a`: the text `ofxget stmt` prints on a dry run / posts, utf-8 encoded and read back by the pipeline
    reader, has the header of the configured version and is an `OFX` request that satisfies `RequestSpec` for the client
    `init_client` builds, the password `get_passwd` delivers and the list `wireStmt a …`: exactly one `STMTTRNRQ` per
    configured bank account (account type = the option it is listed under, the configured bank id), one `CCSTMTTRNRQ`
    per credit card, one `INVSTMTTRNRQ` per investment account (the configured broker id), in the order of the
    configuration, each with the converted dates and the flags — no other account, no other message set. -/
theorem C19_wire_configured_generated (args : Chain) (x : Ext) (a : Accounts)
    (t oo pos bal v : CfgVal) (tb oob posb balb : Option Bool)
    (hall : args.get? "all".toList = some v) (hnot : truthy v = false)
    (ha : HasAccounts args a) (hf : HasFlags args t oo pos bal)
    (ht : optBoolArg t = .ok tb) (hoo : optBoolArg oo = .ok oob) (hpos : optBoolArg pos = .ok posb)
    (hbal : optBoolArg bal = .ok balb)
    (cfg : Cfg) (hcfg : clientCfg args = .ok cfg) (pw : Str) (hpw : getPasswd args x.typed = .ok pw)
    (dt : Dates DT) (hdt : convertDatetime dateConvert args = .ok dt)
    (hclose : cfg.closeElements = true)
    (htexts : ∀ s ∈ cfg.texts, WireText s) (hpwW : WireText pw) (hids : ∀ id ∈ a.ids, WireText id)
    (hdates : ∀ d ∈ dt.all, Ofx.DateTime.dtUtcMs d) (hdtc : Ofx.DateTime.dtUtcMs x.dtclient)
    (huuid : ∀ i j, x.uuid i = x.uuid j → i = j) (hne : ∀ i, x.uuid i ≠ []) (huP : ∀ i, WireText (x.uuid i))
    (hn1 : Ofx.Header.UidOk genEnv.p1.newLen (some (x.uuid a.ids.length)))
    (hn2 : Ofx.Header.UidOk genEnv.p2.newLen (some (x.uuid a.ids.length)))
    {text : Str} (h : stmtBytes Ofx.Generated.schema Types.conv (envOf genEnv) args x = .ok text) :
    ∃ file hdr root, Ofx.Codec.encode genEnv.cp1252 .utf8 text = .ok file ∧
      Ofx.Pipeline.readFile genEnv file = .ok (hdr, root) ∧
      hdrVersion hdr = Int.ofNat cfg.version ∧
      RequestSpec Ofx.Generated.schema cfg pw x.dtclient (wireStmt a dt.start dt.end dt.asof tb oob posb balb)
        (hdrVersion hdr) root := by
  obtain ⟨nonew, reqs, hreqs, hb⟩ := bytes_configured (closing := false) hall hnot hcfg hpw hdt h
  rw [ha.accountsOf, hf.optsOf] at hreqs
  cases (toReqs_specStmt a _ _ _ t oo pos bal tb oob posb balb ht hoo hpos hbal).symm.trans hreqs
  exact requestBytes_readback cfg pw _ _ x.uuid x.dtclient hclose htexts hpwW
    (toReqs_texts hreqs fun r hr s hs => (specOf_texts false a _ r hr s hs).elim (hids s) (bankTypes_wire s))
    (toReqs_dates hreqs fun r hr d hd => hdates d (specOf_dates false a dt args r (hf.optsOf dt ▸ hr) d hd)) hdtc huuid
    hne huP (by rw [wireStmt_length]; exact hn1) (by rw [wireStmt_length]; exact hn2) hb

/-- `C19_wire_configured_generated` with the date guard discharged: when the three
    date options are empty or texts of the OFX date-time notation denoting instants in the years 1000..9999, the text
    `ofxget stmt` prints reads back to a request for exactly the configured accounts whose dates *denote the instants of
    the command-line texts* (`Denotes`: `dtInstantUs d = 1000 · instant of the text`, `Spec.Instant`). -/
theorem C19_wire_configured_notation_generated (args : Chain) (x : Ext) (a : Accounts)
    (t oo pos bal v : CfgVal) (tb oob posb balb : Option Bool)
    (hall : args.get? "all".toList = some v) (hnot : truthy v = false)
    (ha : HasAccounts args a) (hf : HasFlags args t oo pos bal)
    (ht : optBoolArg t = .ok tb) (hoo : optBoolArg oo = .ok oob) (hpos : optBoolArg pos = .ok posb)
    (hbal : optBoolArg bal = .ok balb)
    (ps pe pa : Option Spec.Instant.Parts)
    (hs : args.get? "dtstart".toList = some (.str (match ps with | some p => p.render | none => [])))
    (he : args.get? "dtend".toList = some (.str (match pe with | some p => p.render | none => [])))
    (hasof : args.get? "dtasof".toList = some (.str (match pa with | some p => p.render | none => [])))
    (hok : ∀ p, ps = some p ∨ pe = some p ∨ pa = some p →
      p.wf false = true ∧ Ofx.DateTime.lenOk p = true ∧ Ofx.DateTime.us1000 ≤ 1000 * p.instant ∧
        1000 * p.instant < Ofx.DateTime.usEnd)
    (cfg : Cfg) (hcfg : clientCfg args = .ok cfg) (pw : Str) (hpw : getPasswd args x.typed = .ok pw)
    (hclose : cfg.closeElements = true)
    (htexts : ∀ s ∈ cfg.texts, WireText s) (hpwW : WireText pw) (hids : ∀ id ∈ a.ids, WireText id)
    (hdtc : Ofx.DateTime.dtUtcMs x.dtclient)
    (huuid : ∀ i j, x.uuid i = x.uuid j → i = j) (hne : ∀ i, x.uuid i ≠ []) (huP : ∀ i, WireText (x.uuid i))
    (hn1 : Ofx.Header.UidOk genEnv.p1.newLen (some (x.uuid a.ids.length)))
    (hn2 : Ofx.Header.UidOk genEnv.p2.newLen (some (x.uuid a.ids.length)))
    {text : Str} (h : stmtBytes Ofx.Generated.schema Types.conv (envOf genEnv) args x = .ok text) :
    ∃ (dt : Dates DT) (file : Ofx.Codec.Bytes) (hdr : Ofx.Header.Hdr) (root : Node),
      convertDatetime dateConvert args = .ok dt ∧ Denotes ps dt.start ∧ Denotes pe dt.end ∧ Denotes pa dt.asof ∧
      Ofx.Codec.encode genEnv.cp1252 .utf8 text = .ok file ∧
      Ofx.Pipeline.readFile genEnv file = .ok (hdr, root) ∧
      hdrVersion hdr = Int.ofNat cfg.version ∧
      RequestSpec Ofx.Generated.schema cfg pw x.dtclient (wireStmt a dt.start dt.end dt.asof tb oob posb balb)
        (hdrVersion hdr) root := by
  obtain ⟨dt, hdt, hdates, d1, d2, d3⟩ := C19_wire_dates args ps pe pa hs he hasof hok
  obtain ⟨file, hdr, root, h1, h2, h3, h4⟩ :=
    C19_wire_configured_generated args x a t oo pos bal v tb oob posb balb hall hnot ha hf ht hoo hpos hbal cfg hcfg pw
      hpw dt hdt hclose htexts hpwW hids hdates hdtc huuid hne huP hn1 hn2 h
  exact ⟨dt, file, hdr, root, hdt, d1, d2, d3, h1, h2, h3, h4⟩

theorem C19_wire_configured_stmtend_generated (args : Chain) (x : Ext) (a : Accounts) (v : CfgVal)
    (hall : args.get? "all".toList = some v) (hnot : truthy v = false) (ha : HasAccounts args a)
    (cfg : Cfg) (hcfg : clientCfg args = .ok cfg) (pw : Str) (hpw : getPasswd args x.typed = .ok pw)
    (dt : Dates DT) (hdt : convertDatetime dateConvert args = .ok dt)
    (hclose : cfg.closeElements = true)
    (htexts : ∀ s ∈ cfg.texts, WireText s) (hpwW : WireText pw) (hids : ∀ id ∈ a.ids, WireText id)
    (hdates : ∀ d ∈ dt.all, Ofx.DateTime.dtUtcMs d) (hdtc : Ofx.DateTime.dtUtcMs x.dtclient)
    (huuid : ∀ i j, x.uuid i = x.uuid j → i = j) (hne : ∀ i, x.uuid i ≠ []) (huP : ∀ i, WireText (x.uuid i))
    (hn1 : Ofx.Header.UidOk genEnv.p1.newLen (some (x.uuid (wireStmtend a dt.start dt.end).length)))
    (hn2 : Ofx.Header.UidOk genEnv.p2.newLen (some (x.uuid (wireStmtend a dt.start dt.end).length)))
    {text : Str} (h : stmtendBytes Ofx.Generated.schema Types.conv (envOf genEnv) args x = .ok text) :
    ∃ file hdr root, Ofx.Codec.encode genEnv.cp1252 .utf8 text = .ok file ∧
      Ofx.Pipeline.readFile genEnv file = .ok (hdr, root) ∧
      hdrVersion hdr = Int.ofNat cfg.version ∧
      RequestSpec Ofx.Generated.schema cfg pw x.dtclient (wireStmtend a dt.start dt.end) (hdrVersion hdr) root := by
  obtain ⟨nonew, reqs, hreqs, hb⟩ := bytes_configured (closing := true) hall hnot hcfg hpw hdt h
  rw [ha.accountsOf] at hreqs
  cases (toReqs_specStmtend a _ _ _ _ _ _ _).symm.trans hreqs
  exact requestBytes_readback cfg pw _ _ x.uuid x.dtclient hclose htexts hpwW
    (toReqs_texts hreqs fun r hr s hs => (specOf_texts true a _ r hr s hs).elim (hids s) (bankTypes_wire s))
    (toReqs_dates hreqs fun r hr d hd => hdates d (specOf_dates true a dt args r (hr) d hd)) hdtc huuid hne huP hn1 hn2 hb

/-- `--all` set, no account named on the command line, any
    configuration underneath, any account-information response within the guard of `C19_all_active`: the request text,
    read back by the pipeline reader, satisfies `RequestSpec` for a request list whose accounts are, as a multiset,
    exactly the accounts the response lists as ACTIVE (bank accounts of the four requestable types with their type,
    credit cards, investment accounts) — one wrapper for each, none for an account listed with another status. -/
theorem C19_wire_all_generated (cli : Map) (rest : Chain) (infos : List AcctInfo) (x : Ext) (v : CfgVal)
    (hacct : x.acct = .ok infos)
    (hall : Chain.get? (cli :: rest) "all".toList = some v) (ht : truthy v = true)
    (hcli : ∀ t ∈ acctKeys, cli.lookup t = none) (hv : ValidInfos infos) (hg : NoFallback rest infos)
    (plan : Plan DT) (hplan : requestStmt dateConvert (cli :: rest) x.acct = .ok plan)
    (cfg : Cfg) (hcfg : clientCfg plan.args = .ok cfg) (pw : Str) (hpw : getPasswd (cli :: rest) x.typed = .ok pw)
    (dt : Dates DT) (hdt : convertDatetime dateConvert (cli :: rest) = .ok dt)
    (hclose : cfg.closeElements = true)
    (htexts : ∀ s ∈ cfg.texts, WireText s) (hpwW : WireText pw) (hact : ∀ s ∈ activeTexts false infos, WireText s)
    (hdates : ∀ d ∈ dt.all, Ofx.DateTime.dtUtcMs d) (hdtc : Ofx.DateTime.dtUtcMs x.dtclient)
    (huuid : ∀ i j, x.uuid i = x.uuid j → i = j) (hne : ∀ i, x.uuid i ≠ []) (huP : ∀ i, WireText (x.uuid i))
    (hn1 : Ofx.Header.UidOk genEnv.p1.newLen (some (x.uuid plan.requests.length)))
    (hn2 : Ofx.Header.UidOk genEnv.p2.newLen (some (x.uuid plan.requests.length)))
    {text : Str} (h : stmtBytes Ofx.Generated.schema Types.conv (envOf genEnv) (cli :: rest) x = .ok text) :
    ∃ reqs file hdr root, toReqs plan.requests = .ok reqs ∧
      (reqs.map reqKey).Perm ((specActive false infos).map some) ∧
      Ofx.Codec.encode genEnv.cp1252 .utf8 text = .ok file ∧
      Ofx.Pipeline.readFile genEnv file = .ok (hdr, root) ∧
      hdrVersion hdr = Int.ofNat cfg.version ∧
      RequestSpec Ofx.Generated.schema cfg pw x.dtclient reqs (hdrVersion hdr) root := by
  obtain ⟨pw', plan', _, cfg', _, reqs, hpw', hplan', -, -, hcfg', -, hreqs, hb⟩ := bytesWith_ok h
  cases hplan.symm.trans hplan'
  cases hcfg.symm.trans hcfg'
  cases hpw.symm.trans hpw'
  have hperm := C19_all_active dateConvert cli rest infos plan v hall ht hcli hv hg (hacct ▸ hplan)
  rw [← toReqs_length _ _ hreqs] at hn1 hn2
  obtain ⟨file, hdr, root, hrest⟩ := requestBytes_readback cfg pw reqs _ x.uuid x.dtclient hclose htexts hpwW
    (toReqs_texts hreqs (texts_of_perm hperm hact))
    (toReqs_dates hreqs (plan_dates (closing := false) hplan hdt hdates)) hdtc huuid hne huP hn1 hn2 hb
  exact ⟨reqs, file, hdr, root, hreqs, perm_keys hperm hreqs, hrest⟩

theorem C19_wire_all_stmtend_generated (cli : Map) (rest : Chain) (infos : List AcctInfo) (x : Ext) (v : CfgVal)
    (hacct : x.acct = .ok infos)
    (hall : Chain.get? (cli :: rest) "all".toList = some v) (ht : truthy v = true)
    (hcli : ∀ t ∈ closingKeys, cli.lookup t = none) (hv : ValidInfos infos) (hg : NoFallbackClosing rest infos)
    (plan : Plan DT) (hplan : requestStmtend dateConvert (cli :: rest) x.acct = .ok plan)
    (cfg : Cfg) (hcfg : clientCfg plan.args = .ok cfg) (pw : Str) (hpw : getPasswd (cli :: rest) x.typed = .ok pw)
    (dt : Dates DT) (hdt : convertDatetime dateConvert (cli :: rest) = .ok dt)
    (hclose : cfg.closeElements = true)
    (htexts : ∀ s ∈ cfg.texts, WireText s) (hpwW : WireText pw) (hact : ∀ s ∈ activeTexts true infos, WireText s)
    (hdates : ∀ d ∈ dt.all, Ofx.DateTime.dtUtcMs d) (hdtc : Ofx.DateTime.dtUtcMs x.dtclient)
    (huuid : ∀ i j, x.uuid i = x.uuid j → i = j) (hne : ∀ i, x.uuid i ≠ []) (huP : ∀ i, WireText (x.uuid i))
    (hn1 : Ofx.Header.UidOk genEnv.p1.newLen (some (x.uuid plan.requests.length)))
    (hn2 : Ofx.Header.UidOk genEnv.p2.newLen (some (x.uuid plan.requests.length)))
    {text : Str} (h : stmtendBytes Ofx.Generated.schema Types.conv (envOf genEnv) (cli :: rest) x = .ok text) :
    ∃ reqs file hdr root, toReqs plan.requests = .ok reqs ∧
      (reqs.map reqKey).Perm ((specActive true infos).map some) ∧
      Ofx.Codec.encode genEnv.cp1252 .utf8 text = .ok file ∧
      Ofx.Pipeline.readFile genEnv file = .ok (hdr, root) ∧
      hdrVersion hdr = Int.ofNat cfg.version ∧
      RequestSpec Ofx.Generated.schema cfg pw x.dtclient reqs (hdrVersion hdr) root := by
  obtain ⟨pw', plan', _, cfg', _, reqs, hpw', hplan', -, -, hcfg', -, hreqs, hb⟩ := bytesWith_ok h
  cases hplan.symm.trans hplan'
  cases hcfg.symm.trans hcfg'
  cases hpw.symm.trans hpw'
  have hperm := C19_all_active_stmtend dateConvert cli rest infos plan v hall ht hcli hv hg (hacct ▸ hplan)
  rw [← toReqs_length _ _ hreqs] at hn1 hn2
  obtain ⟨file, hdr, root, hrest⟩ := requestBytes_readback cfg pw reqs _ x.uuid x.dtclient hclose htexts hpwW
    (toReqs_texts hreqs (texts_of_perm hperm hact))
    (toReqs_dates hreqs (plan_dates (closing := true) hplan hdt hdates)) hdtc huuid hne huP hn1 hn2 hb
  exact ⟨reqs, file, hdr, root, hreqs, perm_keys hperm hreqs, hrest⟩

end Ofx.Gen
