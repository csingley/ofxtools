/-
`decide +kernel` obligations over the generated header tables (`Generated/Tables.lean`).  They tie the parameters the
driver runs with (`Drv.Header.genV1P/genV2P`, `cp1252High`) to the ones the C05/C12 witnesses and examples are stated
for, and check the shape the hand model assumes of the two header classes.
-/
import OfxModel.Generated.Tables
import OfxModel.Drv.Header
import OfxProofs.Props.C12
import OfxProofs.Lemmas.HeaderPipeline

namespace Ofx.Gen
open Ofx Ofx.Header Ofx.Generated Ofx.Drv.Header

def v1pEq (a b : V1P) : Bool :=
  a.ofxheader == b.ofxheader && a.data == b.data && a.versionLen == b.versionLen && a.security == b.security &&
  a.encoding == b.encoding && a.charset == b.charset && a.compression == b.compression && a.oldLen == b.oldLen &&
  a.newLen == b.newLen && a.codecs == b.codecs

def v2pEq (a b : V2P) : Bool :=
  a.ofxheader == b.ofxheader && a.version == b.version && a.security == b.security && a.oldLen == b.oldLen &&
  a.newLen == b.newLen

/-- the generated validator parameters of `OFXHeaderV1` (token lists, `Integer(3)`, `String(36)`, `codecs`) are
    the ones the examples under `C05_exact_full` and the witness of `C12_refuse_text_full_false` are stated for -/
theorem header_v1_params : v1pEq genV1P pinnedV1P = true := by decide +kernel

/-- for `OFXHeaderV2`, including the list of supported 2xx versions -/
theorem header_v2_params : v2pEq genV2P pinnedV2P = true := by decide +kernel

/-- validator kinds per attribute, in definition order: OneOf = 0, Integer = 1, String = 2 -/
theorem header_v1_kinds : kindsOf headerV1Fields =
    [("ofxheader".toList, 0), ("data".toList, 0), ("version".toList, 1), ("security".toList, 0),
     ("encoding".toList, 0), ("charset".toList, 0), ("compression".toList, 0), ("oldfileuid".toList, 2),
     ("newfileuid".toList, 2)] := by decide +kernel

theorem header_v2_kinds : kindsOf headerV2Fields =
    [("ofxheader".toList, 0), ("version".toList, 0), ("security".toList, 0), ("oldfileuid".toList, 2),
     ("newfileuid".toList, 2)] := by decide +kernel

/-- every CHARSET the class admits has a codec the model knows, and every token of the generated lists is spelt
    in the character class of its pattern group (so membership alone makes a field `ValidV1`/`ValidV2`) -/
theorem header_tokens_in_class :
    (genV1P.charset.all fun c => ((genV1P.codecs.lookup c).bind Codec.Name.ofPy).isSome) &&
    (genV1P.ofxheader.all fun t => !t.isEmpty && t.all isDigit) && (genV1P.data.all fun t => !t.isEmpty && t.all isUpper) &&
    (genV1P.security.all fun t => !t.isEmpty && t.all isWord) &&
    (genV1P.encoding.all fun t => !t.isEmpty && t.all isUpDigDash) &&
    (genV1P.charset.all fun t => !t.isEmpty && t.all isWordDash) &&
    (genV1P.compression.all fun t => !t.isEmpty && t.all isUpper) &&
    (genV2P.ofxheader.all fun t => !t.isEmpty && t.all isDigit) && (genV2P.version.all fun t => !t.isEmpty && t.all isDigit) &&
    (genV2P.security.all fun t => !t.isEmpty && t.all isWord) = true := by decide +kernel

/-- one entry per byte 0x80..0x9F, only scalar values -/
theorem cp1252_table_shape :
    cp1252High.length = 32 ∧ cp1252High.all (fun e => match e with | some n => (Codec.chr? n).isSome | none => true) = true := by
  decide +kernel

/-- the generated tables admit the constructor defaults `make_header` relies on (`WFV1`, `WFV2` of
    `Lemmas/HeaderPipeline.lean`), in particular CHARSET NONE ↦ utf_8 -/
theorem header_wf : WFV1 genV1P ∧ WFV2 genV2P := by
  refine ⟨⟨by decide +kernel, by decide +kernel, ?_, by decide +kernel, by decide +kernel, by decide +kernel,
    by decide +kernel, by decide +kernel⟩, ⟨by decide +kernel, by decide +kernel⟩⟩
  intro n hn
  have : genV1P.versionLen = some 3 := by decide +kernel
  rw [this] at hn
  cases hn
  exact Nat.le_refl 3

end Ofx.Gen
