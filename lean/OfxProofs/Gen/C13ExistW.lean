/-
Non-vacuity witnesses for the C13 constructibility theorems (class-specific: STATUS, MAIL, MFINFO as they are
today; see Gen/C01W.lean for the convention).
-/
import OfxProofs.Gen.C13Exist
import OfxProofs.Gen.C01W
import OfxProofs.Gen.ByName

namespace Ofx.Gen
open Ofx Ofx.Agg Ofx.Generated Ofx.Types Ofx.Spec.Wire Ofx.Spec.Witness

/-- the premises of `C13_generated_constructible` are satisfiable: STATUS declares the supported child `message`
    (optional — the description has to add it to the required `code` and `severity`) -/
example : ∃ d fields items,
    mkWith schema defaultFuel ByName.idx_STATUS ⟨"message".toList, .string (some 255) true, false⟩ = some d ∧
    build schema Types.conv d = .ok (.agg ByName.idx_STATUS fields items) ∧
    (∃ v, lookup "message".toList fields = some v ∧ v ≠ .val .none) ∧
    ValidFull schema (.agg ByName.idx_STATUS fields items) ∧
    ∃ x tl children,
      toEtree schema Types.conv (.agg ByName.idx_STATUS fields items) = .ok (.node "STATUS".toList x tl children) ∧
      (∃ ch ∈ children, ch.tag = "MESSAGE".toList) ∧
      fromEtree schema Types.conv (mapText escapeCdata (.node "STATUS".toList x tl children)) =
        .ok (.agg ByName.idx_STATUS fields items) := by
  obtain ⟨d, fields, items, h1, h2, h3, h4, x, tl, children, h5, h6, h7⟩ :=
    C13_generated_constructible ByName.idx_STATUS ByName.cls_STATUS
      ⟨"message".toList, .string (some 255) true, false⟩ cls_STATUS_at (by rfl) (by rfl) (List.mem_of_getElem? (i := 2) (by rfl)) (by rfl)
  have hn : ByName.cls_STATUS.name = "STATUS".toList := by decide +kernel
  have hw : wireTag ByName.cls_STATUS ⟨"message".toList, .string (some 255) true, false⟩ = "MESSAGE".toList := by
    decide +kernel
  rw [hn] at h5 h7
  rw [hw] at h6
  exact ⟨d, fields, items, h1, h2, (holds_iff _ _ _ _).mp h3, h4, x, tl, children, h5, h6, h7⟩

/-- … and the description is the one the specification describes: the two required children plus the wanted one -/
example : mkWith schema defaultFuel ByName.idx_STATUS ⟨"message".toList, .string (some 255) true, false⟩ =
    some (.agg ByName.idx_STATUS [("code".toList, .val (.int 1)), ("severity".toList, .val (.str "INFO".toList)),
      ("message".toList, .val (.str "A".toList))] []) := by rfl

/-- a renamed child through the table: `MFINFO.yld` is built, written as `<YIELD>` and read back -/
example : ∃ ci c a, schema.cls? ci = some c ∧ c.name = "MFINFO".toList ∧ a ∈ c.spec ∧ a.name = "yld".toList ∧
    wireTag c a = "YIELD".toList ∧
    ∃ d fields items, mkWith schema defaultFuel ci a = some d ∧
      build schema Types.conv d = .ok (.agg ci fields items) ∧ holds a (.agg ci fields items) = true ∧
      ∃ x tl children, toEtree schema Types.conv (.agg ci fields items) = .ok (.node c.name x tl children) ∧
        (∃ ch ∈ children, ch.tag = "YIELD".toList) ∧
        fromEtree schema Types.conv (mapText escapeCdata (.node c.name x tl children)) =
          .ok (.agg ci fields items) := by
  have ha : (⟨"yld".toList, .decimal none, false⟩ : Attr) ∈ ByName.cls_MFINFO.spec :=
    List.mem_of_getElem? (i := 2) (by rfl)
  have hw : wireTag ByName.cls_MFINFO ⟨"yld".toList, .decimal none, false⟩ = "YIELD".toList := by
    decide +kernel
  obtain ⟨d, fields, items, h1, h2, h3, _, x, tl, children, h5, h6, h7⟩ :=
    C13_generated_constructible ByName.idx_MFINFO ByName.cls_MFINFO _ cls_MFINFO_at (by rfl) (by rfl) ha (by rfl)
  rw [hw] at h6
  exact ⟨_, _, _, cls_MFINFO_at, by decide +kernel, ha, rfl, hw, d, fields, items, h1, h2, h3, x, tl, children, h5, h6,
    h7⟩

/-- non-vacuity of `C13_generated_child_written_under_tag`: `exMail` (valid, Gen/C01W) holds `frm`, which is
    written as `<FROM>` and read back -/
example : ∃ tx tl children, toEtree genEnv.S genEnv.cv exMail = .ok (.node "MAIL".toList tx tl children) ∧
    fromEtree genEnv.S genEnv.cv (mapText escapeCdata (.node "MAIL".toList tx tl children)) = .ok exMail ∧
    ∃ ch ∈ children, ch.tag = "FROM".toList := by
  have hu : ByName.cls_MAIL.ungroom = some ⟨"FRM".toList, "FROM".toList⟩ := by decide +kernel
  have hn : ByName.cls_MAIL.name = "MAIL".toList := by decide +kernel
  have := C13_generated_child_written_under_tag ByName.idx_MAIL exMailFields [] exMail_valid ByName.cls_MAIL
    cls_MAIL_at ⟨"FRM".toList, "FROM".toList⟩ hu (.str "me & you".toList) (by rfl) (by simp)
  rw [hn] at this
  exact this

end Ofx.Gen
