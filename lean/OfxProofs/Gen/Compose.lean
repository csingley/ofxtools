/-
C06 on the generated schema and the real converters `Ofx.Types.conv`, with the guard `EntityFree` on every
caller-supplied text (without it the statement is false: known finding string-entity-unescaped); and the composed
requests on the wire, stated on `Pipeline.writeFile`/`readFile`: each builder's `made_*` theorem gives a valid instance
that says what was asked, `wire_of_valid` (C01 for the generated schema) reads it back.  Classes are looked up by name
(`findIdx?`), never by position in the generated table.
-/
import OfxProofs.Props.C06
import OfxProofs.Lemmas.Str
import OfxProofs.Gen.C01
import OfxModel.Generated.Schema

namespace Ofx.Gen
open Ofx Ofx.Compose Ofx.Spec.Request Ofx.C06

/-- the facts about the generated schema that C06 rests on, evaluated together (the class look-ups are shared) -/
theorem schema_c06 :
    (reqTable.all (fun p => rowB Ofx.Generated.schema roundTripExceptions p.1 p.2) && taxWFB Ofx.Generated.schema &&
      taxRowB Ofx.Generated.schema roundTripExceptions) = true := by decide +kernel

theorem schema_wireWF : WireWF Ofx.Generated.schema := ⟨_, schema_roundTripOk, schema_c06⟩

theorem schema_reqWF : ReqWF Ofx.Generated.schema = true := wireWF_reqWF schema_wireWF

/-- `C06_compose` for the code as generated from /repo -/
theorem C06_compose_generated (cfg : Cfg) (password : Str) (reqs : List Req) (uuidStream : Nat → Str)
    (dtclient : DT) (htexts : ∀ s ∈ cfg.texts, EntityFree s) (hpw : EntityFree password)
    (hreqs : ∀ r ∈ reqs, ∀ s ∈ r.texts, EntityFree s)
    (huuid : ∀ i j, uuidStream i = uuidStream j → i = j) (hne : ∀ i, uuidStream i ≠ [])
    (huP : ∀ i, EntityFree (uuidStream i)) {root : Node}
    (h : requestStatements Ofx.Generated.schema Types.conv cfg password reqs uuidStream dtclient = .ok root) :
    RequestSpec Ofx.Generated.schema cfg password dtclient reqs (Int.ofNat cfg.version) root :=
  C06_compose schema_reqWF conv_ok cfg password reqs uuidStream dtclient htexts hpw hreqs huuid hne huP h

theorem C06_accounts_generated (cfg : Cfg) (password : Str) (dtacctup : Option DT) (uuidStream : Nat → Str)
    (dtclient : DT) (htexts : ∀ s ∈ cfg.texts, EntityFree s) (hpw : EntityFree password)
    (hu : EntityFree (uuidStream 0)) (hne : uuidStream 0 ≠ []) {root : Node}
    (h : requestAccounts Ofx.Generated.schema Types.conv cfg password dtacctup uuidStream dtclient = .ok root) :
    checkAccounts Ofx.Generated.schema cfg password dtclient dtacctup (Int.ofNat cfg.version) root = [] :=
  C06_accounts schema_reqWF conv_ok cfg password dtacctup uuidStream dtclient htexts hpw hu hne h

theorem C06_profile_generated (cfg : Cfg) (dtprofup : Option DT) (uuidStream : Nat → Str)
    (dtclient : DT) (htexts : ∀ s ∈ cfg.texts, EntityFree s)
    (hu : EntityFree (uuidStream 0)) (hne : uuidStream 0 ≠ []) {root : Node}
    (h : requestProfile Ofx.Generated.schema Types.conv cfg dtprofup uuidStream dtclient = .ok root) :
    checkProfile Ofx.Generated.schema cfg dtclient dtprofup none (Int.ofNat cfg.version) root = [] :=
  C06_profile schema_reqWF conv_ok cfg dtprofup uuidStream dtclient htexts (by decide +kernel) (by decide +kernel)
    hu hne h

def wUuid (i : Nat) : Str := List.replicate (i + 1) 'u'

theorem wUuid_inj : ∀ i j, wUuid i = wUuid j → i = j := by
  intro i j h
  have := congrArg List.length h
  simpa [wUuid] using this

theorem wUuid_ne (i : Nat) : wUuid i ≠ [] := by simp [wUuid]

theorem wUuid_wire (i : Nat) : WireText (wUuid i) := by
  refine ⟨unescape_no_amp _ (by simp [wUuid, List.mem_replicate]), ?_⟩
  simp only [Spec.Wire.trimmedB, wUuid, List.replicate_succ, List.head?_cons]
  have : (List.replicate i 'u' ++ ['u']).getLast? = some 'u' := by simp
  rw [show 'u' :: List.replicate i 'u' = List.replicate i 'u' ++ ['u'] from by
    rw [← List.replicate_succ, List.replicate_succ']]
  rw [this]
  decide

theorem wUuid_uid (n : Nat) (hn : n < 36) :
    Ofx.Header.UidOk genEnv.p1.newLen (some (wUuid n)) ∧ Ofx.Header.UidOk genEnv.p2.newLen (some (wUuid n)) := by
  have h : ∀ len, len = some 36 → Ofx.Header.UidOk len (some (wUuid n)) := by
    intro len hlen
    refine ⟨⟨wUuid_ne n, ?_⟩, ?_⟩
    · intro c hc
      simp only [wUuid, List.mem_replicate] at hc
      rw [hc.2]; decide
    · intro m hm
      rw [hlen] at hm; injection hm with hm; subst hm
      simp [wUuid]; omega
  exact ⟨h _ uid_lens.2.1, h _ uid_lens.2.2.2⟩

def wDt : DT := ⟨2020, 1, 2, 3, 4, 5, 0, some ⟨0, some "UTC".toList⟩⟩

theorem wDt_wire : Ofx.DateTime.dtUtcMs wDt :=
  ⟨by decide +kernel, rfl, by decide +kernel, by decide +kernel, by decide +kernel⟩

def wCfg : Cfg :=
  { url := [], userid := "user".toList, clientuid := none, org := none, fid := none, version := 203,
    appid := "QWIN".toList, appver := "2700".toList, language := "ENG".toList, prettyprint := false,
    closeElements := true, bankid := none, brokerid := none }

/-- the full-strength statement: `C06_compose_generated` without the `EntityFree` guard on the caller's texts -/
def C06_compose_full : Prop :=
  ∀ (cfg : Cfg) (password : Str) (reqs : List Req) (uuidStream : Nat → Str) (dtclient : DT) (root : Node),
    (∀ i j, uuidStream i = uuidStream j → i = j) → (∀ i, uuidStream i ≠ []) → (∀ i, EntityFree (uuidStream i)) →
    requestStatements Ofx.Generated.schema Types.conv cfg password reqs uuidStream dtclient = .ok root →
    RequestSpec Ofx.Generated.schema cfg password dtclient reqs (Int.ofNat cfg.version) root

/-- password `&amp;`: the request composes, and exactly the clause `signon.userpass` fails -/
theorem entity_witness :
    (match requestStatements Ofx.Generated.schema Types.conv wCfg "&amp;".toList [] wUuid wDt with
      | .ok root => decide (check Ofx.Generated.schema wCfg "&amp;".toList wDt [] 203 root = ["signon.userpass"])
      | .error _ => false) = true := by decide +kernel

theorem C06_compose_full_false : ¬ C06_compose_full := by
  intro hfull
  have hw := entity_witness
  cases hr : requestStatements Ofx.Generated.schema Types.conv wCfg "&amp;".toList [] wUuid wDt with
  | error e => rw [hr] at hw; simp at hw
  | ok root =>
    rw [hr] at hw
    simp only [decide_eq_true_eq] at hw
    have := hfull wCfg "&amp;".toList [] wUuid wDt root wUuid_inj wUuid_ne (fun i => (wUuid_wire i).1) hr
    simp only [RequestSpec] at this
    rw [show (Int.ofNat wCfg.version) = 203 from rfl, hw] at this
    cases this

theorem schema_taxWF : taxWFB Ofx.Generated.schema = true := wireWF_taxWF schema_wireWF

/-- `C06_tax` for the code as generated from /repo -/
theorem C06_tax_generated (cfg : Cfg) (password : Str) (taxyears : List Str) (acctnum recid : Option Str)
    (uuidStream : Nat → Str) (dtclient : DT) (htexts : ∀ s ∈ cfg.texts, EntityFree s) (hpw : EntityFree password)
    (hacct : ∀ s, acctnum = some s → EntityFree s) (hrec : ∀ s, recid = some s → EntityFree s)
    (hyears : ∀ y ∈ taxyears, ∃ j : Int, y = pyStrInt j)
    (hu : EntityFree (uuidStream 0)) (hne : uuidStream 0 ≠ []) {root : Node}
    (h : requestTax Ofx.Generated.schema Types.conv cfg password taxyears acctnum recid uuidStream dtclient
      = .ok root) :
    checkTax Ofx.Generated.schema cfg password dtclient taxyears acctnum recid (Int.ofNat cfg.version) root = [] :=
  C06_tax schema_reqWF schema_taxWF conv_ok conv_year cfg password taxyears acctnum recid uuidStream dtclient htexts
    hpw hacct hrec hyears hu hne h

theorem schema_enumsPlain : enumsPlainB Ofx.Generated.schema.enums = true :=
  enumsPlainB_of_plainChars _ schema_enumsPlainChars

/-- what `OFXClient.serialize` takes from outside the client, as the round-trip environment has it -/
def envOf (E : Ofx.Pipeline.Env) : Ofx.Compose.Env := { p1 := E.p1, p2 := E.p2, htmlEmpty := E.htmlEmpty }

theorem writeFile_serializeReq (E : Ofx.Pipeline.Env) (cfg : Cfg) (root : Node) (new : Option Str) :
    Ofx.Pipeline.writeFile E cfg.version none new cfg.prettyprint cfg.closeElements root =
      (serializeReq E.S E.cv (envOf E) cfg root none none new none none >>=
        fun text => Ofx.Codec.encode E.cp1252 .utf8 text) := by
  simp only [Ofx.Pipeline.writeFile, serializeReq, envOf, orDefault, bind_assoc]

theorem gen_wire : Wire Ofx.Generated.schema Types.conv Ofx.escapeCdata
    (Ofx.Types.typesDomWire Ofx.Generated.schema.enums) WireText Ofx.DateTime.dtUtcMs :=
  ⟨schema_wireWF, types_convInto _ schema_enumsPlain, Ofx.Types.typesConv_laws_wire _, conv_year, conv_yearDom _⟩

theorem C06_request_valid (cfg : Cfg) (password : Str) (reqs : List Req) (uuidStream : Nat → Str) (dtclient : DT)
    (htexts : ∀ s ∈ cfg.texts, WireText s) (hpw : WireText password)
    (hreqs : ∀ r ∈ reqs, ∀ s ∈ r.texts, WireText s)
    (hdates : ∀ r ∈ reqs, ∀ d ∈ r.dates, Ofx.DateTime.dtUtcMs d) (hdt : Ofx.DateTime.dtUtcMs dtclient)
    (huP : ∀ i, WireText (uuidStream i)) {root : Node}
    (h : requestStatements Ofx.Generated.schema Types.conv cfg password reqs uuidStream dtclient = .ok root) :
    Ofx.Agg.Valid genEnv.S genEnv.cv Ofx.escapeCdata (Ofx.Types.typesDomWire genEnv.S.enums) root :=
  (Made.valid conv_ok_wire gen_wire
    (made_requestStatements schema_reqWF conv_ok_wire cfg password reqs uuidStream dtclient htexts hpw hreqs hdates hdt
      huP h).1).1

/-- C01 for a `Valid` root in the form the client is configured for (`hform` as in `Pipeline.file_roundtrip`) -/
theorem wire_of_valid (cfg : Cfg) (new : Option Str) {root : Node}
    (hform : cfg.closeElements = true ∨ cfg.version < 200 ∧
      ∀ t, Ofx.Agg.toEtree genEnv.S genEnv.cv root = .ok t → Ofx.Serialize.unclosedGuard t = true)
    (hn1 : Ofx.Header.UidOk genEnv.p1.newLen new) (hn2 : Ofx.Header.UidOk genEnv.p2.newLen new)
    (hv : Ofx.Agg.Valid genEnv.S genEnv.cv Ofx.escapeCdata (Ofx.Types.typesDomWire genEnv.S.enums) root)
    {hdr : Ofx.Header.Hdr}
    (hmk : Ofx.Header.makeHeader genEnv.p1 genEnv.p2 (.int (cfg.version : Nat)) none none new = .ok hdr) :
    ∃ file, Ofx.Pipeline.writeFile genEnv cfg.version none new cfg.prettyprint cfg.closeElements root = .ok file ∧
      Ofx.Pipeline.readFile genEnv file = .ok (hdr, root) ∧ hdrVersion hdr = Int.ofNat cfg.version := by
  obtain ⟨file, hw, hr⟩ := C01_generated cfg.version none new uid1o hn1 uid2o hn2 cfg.prettyprint cfg.closeElements
    root hv hdr hmk hform
  exact ⟨file, hw, hr, makeHeader_version _ _ _ _ _ _ _ hmk⟩

theorem serializeReq_readback (cfg : Cfg) (new : Option Str) (hclose : cfg.closeElements = true)
    (hn1 : Ofx.Header.UidOk genEnv.p1.newLen new) (hn2 : Ofx.Header.UidOk genEnv.p2.newLen new) {root : Node}
    (hv : Ofx.Agg.Valid genEnv.S genEnv.cv Ofx.escapeCdata (Ofx.Types.typesDomWire genEnv.S.enums) root) {text : Str}
    (h : serializeReq genEnv.S genEnv.cv (envOf genEnv) cfg root none none new none none = .ok text) :
    ∃ file hdr, Ofx.Codec.encode genEnv.cp1252 .utf8 text = .ok file ∧
      Ofx.Pipeline.readFile genEnv file = .ok (hdr, root) ∧ hdrVersion hdr = Int.ofNat cfg.version := by
  have h' := h
  simp only [serializeReq] at h'
  obtain ⟨hdr, hmk, _⟩ := PyM.bind_ok h'
  obtain ⟨file, hw, hr, hver⟩ := wire_of_valid cfg new (Or.inl hclose) hn1 hn2 hv hmk
  rw [writeFile_serializeReq genEnv cfg root new, h] at hw
  exact ⟨file, hdr, hw, hr, hver⟩

/-- The closed forms (`close_elements=True`, every supported version, plain or pretty): for every configuration and
    request list for which composition succeeds, the file
    `request_statements(dryrun=True)` returns (header of `cfg.version` with the n-th uuid as NEWFILEUID, body by
    `ET.tostring(method="html")`, utf-8) is read back by `OFXTree.parse` + `convert` to exactly that header and exactly
    the composed instance — which satisfies `RequestSpec`.  Guards: caller texts `WireText` (entity-free, trimmed),
    dates UTC at millisecond resolution (what the OFX notation can carry), NEWFILEUID within the header's limits. -/
theorem C06_wire_closed (cfg : Cfg) (password : Str) (reqs : List Req) (uuidStream : Nat → Str) (dtclient : DT)
    (hclose : cfg.closeElements = true)
    (htexts : ∀ s ∈ cfg.texts, WireText s) (hpw : WireText password)
    (hreqs : ∀ r ∈ reqs, ∀ s ∈ r.texts, WireText s)
    (hdates : ∀ r ∈ reqs, ∀ d ∈ r.dates, Ofx.DateTime.dtUtcMs d) (hdt : Ofx.DateTime.dtUtcMs dtclient)
    (huuid : ∀ i j, uuidStream i = uuidStream j → i = j) (hne : ∀ i, uuidStream i ≠ [])
    (huP : ∀ i, WireText (uuidStream i))
    (hn1 : Ofx.Header.UidOk genEnv.p1.newLen (some (uuidStream reqs.length)))
    (hn2 : Ofx.Header.UidOk genEnv.p2.newLen (some (uuidStream reqs.length)))
    {root : Node}
    (h : requestStatements Ofx.Generated.schema Types.conv cfg password reqs uuidStream dtclient = .ok root)
    {hdr : Ofx.Header.Hdr}
    (hmk : Ofx.Header.makeHeader genEnv.p1 genEnv.p2 (.int (cfg.version : Nat)) none none
      (some (uuidStream reqs.length)) = .ok hdr) :
    ∃ file, Ofx.Pipeline.writeFile genEnv cfg.version none (some (uuidStream reqs.length)) cfg.prettyprint
        cfg.closeElements root = .ok file ∧
      Ofx.Pipeline.readFile genEnv file = .ok (hdr, root) ∧
      hdrVersion hdr = Int.ofNat cfg.version ∧
      RequestSpec Ofx.Generated.schema cfg password dtclient reqs (hdrVersion hdr) root := by
  obtain ⟨hm, hs⟩ := made_requestStatements schema_reqWF conv_ok_wire cfg password reqs uuidStream dtclient htexts hpw
    hreqs hdates hdt huP h
  obtain ⟨file, hw, hr, hver⟩ := wire_of_valid cfg _ (Or.inl hclose) hn1 hn2 (Made.valid conv_ok_wire gen_wire hm).1
    hmk
  exact ⟨file, hw, hr, hver, by rw [hver]; exact hs huuid hne⟩

/-- `request_accounts(password, dtacctup, dryrun=True)`: the file is read
    back to the header written (version `cfg.version`, NEWFILEUID the second uuid) and exactly the composed instance,
    which satisfies the account-info spec.  Same guards as `C06_wire_closed`. -/
theorem C06_wire_closed_accounts (cfg : Cfg) (password : Str) (dtacctup : Option DT) (uuidStream : Nat → Str)
    (dtclient : DT) (hclose : cfg.closeElements = true)
    (htexts : ∀ s ∈ cfg.texts, WireText s) (hpw : WireText password)
    (hd : ∀ d, dtacctup = some d → Ofx.DateTime.dtUtcMs d) (hdt : Ofx.DateTime.dtUtcMs dtclient)
    (hu : WireText (uuidStream 0)) (hne : uuidStream 0 ≠ [])
    (hn1 : Ofx.Header.UidOk genEnv.p1.newLen (some (uuidStream 1)))
    (hn2 : Ofx.Header.UidOk genEnv.p2.newLen (some (uuidStream 1))) {root : Node}
    (h : requestAccounts Ofx.Generated.schema Types.conv cfg password dtacctup uuidStream dtclient = .ok root)
    {hdr : Ofx.Header.Hdr}
    (hmk : Ofx.Header.makeHeader genEnv.p1 genEnv.p2 (.int (cfg.version : Nat)) none none (some (uuidStream 1))
      = .ok hdr) :
    ∃ file, Ofx.Pipeline.writeFile genEnv cfg.version none (some (uuidStream 1)) cfg.prettyprint cfg.closeElements
        root = .ok file ∧
      Ofx.Pipeline.readFile genEnv file = .ok (hdr, root) ∧ hdrVersion hdr = Int.ofNat cfg.version ∧
      checkAccounts Ofx.Generated.schema cfg password dtclient dtacctup (hdrVersion hdr) root = [] := by
  obtain ⟨hm, hs⟩ := made_requestAccounts schema_reqWF conv_ok_wire cfg password dtacctup uuidStream dtclient htexts hpw
    hd hdt hu h
  obtain ⟨file, hw, hr, hver⟩ := wire_of_valid cfg _ (Or.inl hclose) hn1 hn2 (Made.valid conv_ok_wire gen_wire hm).1
    hmk
  exact ⟨file, hw, hr, hver, by rw [hver]; exact hs hne⟩

/-- `_request_profile(dtprofup, dryrun=True)` (no per-call overrides).
    Further guard: the DTPROFUP actually sent (the given one, else 1990-01-01 UTC) is `dtUtcMs` -/
theorem C06_wire_closed_profile (cfg : Cfg) (dtprofup : Option DT) (uuidStream : Nat → Str)
    (dtclient : DT) (hclose : cfg.closeElements = true)
    (htexts : ∀ s ∈ cfg.texts, WireText s)
    (hd : Ofx.DateTime.dtUtcMs (orDefault dtprofup defaultDtprofup)) (hdt : Ofx.DateTime.dtUtcMs dtclient)
    (hu : WireText (uuidStream 0)) (hne : uuidStream 0 ≠ [])
    (hn1 : Ofx.Header.UidOk genEnv.p1.newLen (some (uuidStream 1)))
    (hn2 : Ofx.Header.UidOk genEnv.p2.newLen (some (uuidStream 1))) {root : Node}
    (h : requestProfile Ofx.Generated.schema Types.conv cfg dtprofup uuidStream dtclient = .ok root)
    {hdr : Ofx.Header.Hdr}
    (hmk : Ofx.Header.makeHeader genEnv.p1 genEnv.p2 (.int (cfg.version : Nat)) none none (some (uuidStream 1))
      = .ok hdr) :
    ∃ file, Ofx.Pipeline.writeFile genEnv cfg.version none (some (uuidStream 1)) cfg.prettyprint cfg.closeElements
        root = .ok file ∧
      Ofx.Pipeline.readFile genEnv file = .ok (hdr, root) ∧ hdrVersion hdr = Int.ofNat cfg.version ∧
      checkProfile Ofx.Generated.schema cfg dtclient dtprofup none (hdrVersion hdr) root = [] := by
  obtain ⟨hm, hs⟩ := made_requestProfile schema_reqWF conv_ok_wire cfg dtprofup uuidStream dtclient htexts
    (by decide +kernel) (by decide +kernel) hd hdt hu h
  obtain ⟨file, hw, hr, hver⟩ := wire_of_valid cfg _ (Or.inl hclose) hn1 hn2 (Made.valid conv_ok_wire gen_wire hm).1
    hmk
  exact ⟨file, hw, hr, hver, by rw [hver]; exact hs hne⟩

/-- hence the guard of `C06_wire_closed_profile` only concerns a date that is given -/
theorem defaultDtprofup_wire : Ofx.DateTime.dtUtcMs defaultDtprofup :=
  ⟨by decide +kernel, rfl, by decide +kernel, by decide +kernel, by decide +kernel⟩

/-- `request_tax1099(password, *taxyears, acctnum=…, recid=…, dryrun=True)`;
    `TAX1099RQ` (an `ElementList`) is covered through `construct_valid_any`.  Guards as before plus: the account
    number and record id are `WireText`, the tax years are canonical decimal texts -/
theorem C06_wire_closed_tax (cfg : Cfg) (password : Str) (taxyears : List Str) (acctnum recid : Option Str)
    (uuidStream : Nat → Str) (dtclient : DT) (hclose : cfg.closeElements = true)
    (htexts : ∀ s ∈ cfg.texts, WireText s) (hpw : WireText password)
    (hacct : ∀ s, acctnum = some s → WireText s) (hrec : ∀ s, recid = some s → WireText s)
    (hyears : ∀ y ∈ taxyears, ∃ j : Int, y = pyStrInt j) (hdt : Ofx.DateTime.dtUtcMs dtclient)
    (hu : WireText (uuidStream 0)) (hne : uuidStream 0 ≠ [])
    (hn1 : Ofx.Header.UidOk genEnv.p1.newLen (some (uuidStream 1)))
    (hn2 : Ofx.Header.UidOk genEnv.p2.newLen (some (uuidStream 1))) {root : Node}
    (h : requestTax Ofx.Generated.schema Types.conv cfg password taxyears acctnum recid uuidStream dtclient
      = .ok root) {hdr : Ofx.Header.Hdr}
    (hmk : Ofx.Header.makeHeader genEnv.p1 genEnv.p2 (.int (cfg.version : Nat)) none none (some (uuidStream 1))
      = .ok hdr) :
    ∃ file, Ofx.Pipeline.writeFile genEnv cfg.version none (some (uuidStream 1)) cfg.prettyprint cfg.closeElements
        root = .ok file ∧
      Ofx.Pipeline.readFile genEnv file = .ok (hdr, root) ∧ hdrVersion hdr = Int.ofNat cfg.version ∧
      checkTax Ofx.Generated.schema cfg password dtclient taxyears acctnum recid (hdrVersion hdr) root = [] := by
  obtain ⟨hm, hs⟩ := made_requestTax schema_reqWF schema_taxWF conv_ok_wire conv_year cfg password taxyears acctnum
    recid uuidStream dtclient htexts hpw hacct hrec hyears hdt hu h
  obtain ⟨file, hw, hr, hver⟩ := wire_of_valid cfg _ (Or.inl hclose) hn1 hn2 (Made.valid conv_ok_wire gen_wire hm).1
    hmk
  exact ⟨file, hw, hr, hver, by rw [hver]; exact hs hne⟩

end Ofx.Gen
