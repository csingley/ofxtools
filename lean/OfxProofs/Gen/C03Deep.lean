/-
C03, whole documents, instantiated for the schema generated from /repo's model classes and the modelled converters
(`Types.conv`), and composed with the type rules' denotation (`Spec.denote`) where "convert = denotation" is a
theorem: character data, booleans, enumerations (every non-empty text), integers and decimals (every text of the
type's lexical space, both separators, signs, any declared scale), and — through C09 — date-times and times (every
text of the four notations with valid fields and offset: the model holds the UTC value of the instant denoted).
-/
import OfxProofs.Props.C03Deep
import OfxProofs.Gen.C03
import OfxProofs.Lemmas.Types
import OfxProofs.Lemmas.C03DeepDec
import OfxProofs.Props.C09

namespace Ofx.Gen
open Ofx Ofx.Agg Ofx.Generated Ofx.Types Ofx.Spec

/-- the modelled converters refuse an object of a type none of them registers (an aggregate where text is due) -/
theorem typesConv_other (enums : List (List Str)) : ∀ (k : Kind) (r : Bool) (s : String) (v : Val),
    Types.conv.convert enums k r (.other s) ≠ .ok v :=
  fun k r _ v h => (reads_of_convert enums k r _ v h).of_other

/-- **C03 for the generated schema, whole documents: nothing dropped, right value, right place** (any depth, every
    class; the value may be `None` only if the converter maps a non-empty text to `None`, which
    `C03_deep_generated_holds` excludes). -/
theorem C03_deep_generated_value (t : Tree) (inst : Node) (h : fromEtree schema Types.conv t = .ok inst) :
    ∀ e ∈ docElems schema t, ∃ v, Types.convert schema.enums e.kind e.required (.str e.text) = .ok v ∧
      (v ≠ .none → (e.path, v) ∈ instValues inst) :=
  C03_deep_value schema Types.conv gen_spec_nodup t inst h

/-- **C03 for the generated schema, whole documents: nothing invented** (any depth, every class). -/
theorem C03_deep_generated_nothing_invented (t : Tree) (inst : Node)
    (h : fromEtree schema Types.conv t = .ok inst) :
    ∀ p v, (p, v) ∈ instValues inst →
      ∃ e ∈ docElems schema t, e.path = p ∧
        Types.convert schema.enums e.kind e.required (.str e.text) = .ok v :=
  C03_deep_nothing_invented schema Types.conv gen_spec_nodup (typesConv_none schema.enums)
    (typesConv_other schema.enums) t inst h

/-- **C03 for the generated schema, whole documents: one value per path.** -/
theorem C03_deep_generated_paths_distinct (t : Tree) (inst : Node) (h : fromEtree schema Types.conv t = .ok inst) :
    ((instValues inst).map (·.1)).Nodup :=
  C03_deep_paths_distinct schema Types.conv gen_spec_nodup t inst h

/-- the element kinds and texts for which "convert = the type rule's denotation" is a theorem -/
def ruleProved : Kind → Str → Bool
  | .bool, _ => true
  | .string .., _ => true
  | .oneOf _, _ => true
  | .integer _, s => lexInteger s
  | .decimal _, s => lexDecimal s
  | _, _ => false

theorem convert_ok_denotes (ext : DenoteExt) (enums : List (List Str)) (k : Kind) (r : Bool) (s : Str) (v : Val)
    (hs : s ≠ []) (hp : ruleProved k s = true) (h : Types.convert enums k r (.str s) = .ok v) :
    denote ext enums k s = some v := by
  have key : ∀ o : Option Val, denoteResult o = .ok v → o = some v := by
    intro o ho; cases o <;> simp_all [denoteResult]
  cases k with
  | bool => exact key _ (by rw [← convert_denotes_bool ext enums r s hs]; exact h)
  | string l st => exact key _ (by rw [← convert_denotes_string ext enums l st r s hs]; exact h)
  | oneOf e =>
    cases he : enums[e]? with
    | none => simp [Types.convert, he] at h
    | some valid => exact key _ (by rw [← convert_denotes_oneof ext enums e valid he r s hs]; exact h)
  | integer l => exact key _ (by rw [← convert_denotes_integer ext enums l r s hp]; exact h)
  | decimal q =>
    have := convert_denotes_decimal_denote ext enums q r s hp
    rw [h] at this
    cases hd : denote ext enums (.decimal q) s with
    | none => simp [hd] at this
    | some w => rw [hd] at this; injection this with this; rw [this]
  | _ => simp [ruleProved] at hp

/-- The modelled converters never read a non-empty text as `None`, so the proviso of `C03_deep_generated_value` is
    met: every addressed data element of an accepted document is in the model. -/
theorem C03_deep_generated_holds (t : Tree) (inst : Node) (h : fromEtree schema Types.conv t = .ok inst) :
    ∀ e ∈ docElems schema t, ∃ v, Types.convert schema.enums e.kind e.required (.str e.text) = .ok v ∧
      (e.path, v) ∈ instValues inst := by
  intro e he
  obtain ⟨v, hcv, hmem⟩ := C03_deep_generated_value t inst h e he
  obtain ⟨c, cs, hs⟩ := List.exists_cons_of_ne_nil (docElems_text_ne schema t e he)
  rw [hs] at hcv
  exact ⟨v, hs ▸ hcv, hmem (reads_of_convert _ _ _ _ _ hcv).of_text⟩

/-- **C03 for the generated schema, whole documents, in terms of the type rules.**  Every addressed data element of an
    accepted document whose type rule is covered (`ruleProved`) has a denotation, and the converted model holds
    exactly that denotation at the element's path. -/
theorem C03_deep_generated_denotes (ext : DenoteExt) (t : Tree) (inst : Node)
    (h : fromEtree schema Types.conv t = .ok inst) :
    ∀ e ∈ docElems schema t, ruleProved e.kind e.text = true →
      ∃ v, denote ext schema.enums e.kind e.text = some v ∧ (e.path, v) ∈ instValues inst := by
  intro e he hp
  obtain ⟨v, hcv, hmem⟩ := C03_deep_generated_holds t inst h e he
  exact ⟨v, convert_ok_denotes ext schema.enums e.kind e.required e.text v (docElems_text_ne schema t e he) hp hcv, hmem⟩

/-- … and conversely every leaf value of the model whose element's type rule is covered is the denotation of the
    addressed data element at its path. -/
theorem C03_deep_generated_only_denotations (ext : DenoteExt) (t : Tree) (inst : Node)
    (h : fromEtree schema Types.conv t = .ok inst) :
    ∀ p v, (p, v) ∈ instValues inst →
      ∃ e ∈ docElems schema t, e.path = p ∧ e.text ≠ [] ∧
        (ruleProved e.kind e.text = true → denote ext schema.enums e.kind e.text = some v) := by
  intro p v hpv
  obtain ⟨e, he, hp, hcv⟩ := C03_deep_generated_nothing_invented t inst h p v hpv
  have hne := docElems_text_ne schema t e he
  exact ⟨e, he, hp, hne, fun hr => convert_ok_denotes ext schema.enums e.kind e.required e.text v hne hr hcv⟩

open Ofx.DateTime Ofx.Spec.Instant in
/-- **C03 for the generated schema, whole documents, date-times.**  An addressed date-time element of an accepted
    document whose text is a rendering of the OFX date-time notation (`Parts`: date, optional time of day, optional
    milliseconds, optional `[offset:name]`; valid fields; instant within years 1..9999) is in the model at its path as
    the UTC value denoting exactly the instant the notation denotes (`instantOf`, C09). -/
theorem C03_deep_generated_datetime (t : Tree) (inst : Node) (h : fromEtree schema Types.conv t = .ok inst) :
    ∀ e ∈ docElems schema t, e.kind = .datetime → ∀ p : Parts, p.wf false = true → lenOk p = true →
      minInstant ≤ p.instant ∧ p.instant < endInstant → p.render = e.text →
      ∃ v, (e.path, v) ∈ instValues inst ∧ IsUtcOf v (1000 * p.instant) := by
  intro e he hk p hwf hg hrange hr
  obtain ⟨v, hcv, hmem⟩ := C03_deep_generated_holds t inst h e he
  obtain ⟨v', hv', hutc⟩ := C09_read Ofx.Generated.tzs e.required p hwf hg hrange
  rw [hk, ← hr] at hcv
  obtain rfl : v' = v := Except.ok.inj (hv'.symm.trans hcv)
  exact ⟨v', hmem, hutc⟩

open Ofx.DateTime Ofx.Spec.Instant in
/-- … and times (`HHMMSS[.XXX][[offset]]`, instants modulo 24 h). -/
theorem C03_deep_generated_time (t : Tree) (inst : Node) (h : fromEtree schema Types.conv t = .ok inst) :
    ∀ e ∈ docElems schema t, e.kind = .time → ∀ p : Parts, p.wf true = true → lenOk p = true →
      p.render = e.text →
      ∃ v, (e.path, v) ∈ instValues inst ∧ IsUtcTimeOf v (1000 * p.instant) := by
  intro e he hk p hwf hg hr
  obtain ⟨v, hcv, hmem⟩ := C03_deep_generated_holds t inst h e he
  obtain ⟨v', hv', hutc⟩ := C09_time_read Ofx.Generated.tzs e.required p hwf hg
  rw [hk, ← hr] at hcv
  obtain rfl : v' = v := Except.ok.inj (hv'.symm.trans hcv)
  exact ⟨v', hmem, hutc⟩

/-- every generated class with a rename hook (`groom`) renames towards an attribute of an element kind — a data
    element, never a sub-aggregate.  (The model converts a renamed child that is itself an aggregate under its
    original tag, the code under the new one; this obligation says the difference is outside the generated domain.) -/
theorem gen_groom_targets_elements :
    schema.classes.all (fun c => match c.groom with
      | none => true
      | some r => match c.spec.find? (fun a => a.name = lower r.toTag) with
        | some a => isElemKind a.kind
        | none => false) = true := by
  decide +kernel

/-- **C03 for the generated schema, documents as text, in terms of the type rules.**  For every tree `t` and every
    strict rendering `s` of it: if the library converts `s` to a model, every addressed data element of `t` whose type
    rule is covered has a denotation and the model holds exactly that denotation at the element's path … -/
theorem C03_document_generated_denotes (ext : DenoteExt) (t : Tree) (s : Str) (hr : RendersDoc true t s) (inst : Node)
    (h : parseConvert schema Types.conv s = .ok inst) :
    ∀ e ∈ docElems schema t, ruleProved e.kind e.text = true →
      ∃ v, denote ext schema.enums e.kind e.text = some v ∧ (e.path, v) ∈ instValues inst :=
  C03_deep_generated_denotes ext t inst (by rw [← parseConvert_rendering schema Types.conv t s hr]; exact h)

/-- … and every leaf value the model holds is the conversion (the denotation, where the rule is covered) of the
    addressed data element of `t` at that path. -/
theorem C03_document_generated_only_denotations (ext : DenoteExt) (t : Tree) (s : Str) (hr : RendersDoc true t s)
    (inst : Node) (h : parseConvert schema Types.conv s = .ok inst) :
    ∀ p v, (p, v) ∈ instValues inst →
      ∃ e ∈ docElems schema t, e.path = p ∧ e.text ≠ [] ∧
        (ruleProved e.kind e.text = true → denote ext schema.enums e.kind e.text = some v) :=
  C03_deep_generated_only_denotations ext t inst (by rw [← parseConvert_rendering schema Types.conv t s hr]; exact h)

end Ofx.Gen
