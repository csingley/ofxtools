/-
C13 constructibility for the schema generated from /repo's model classes and the real converters.

Each `Gen/C13ExistT*.lean` closes the per-(class, child) obligation `rangeOk` by kernel evaluation on one range of
class indices: the description exists, is accepted by the constructors, the instance holds the child and is checked
to be valid, from which the written form and the read-back follow by theorem; only below a class of
`roundTripExceptions` are writer and reader run.  The four ranges only balance the evaluation time (within one
evaluation the kernel shares the work on common sub-aggregates, so the ranges are few and wide).
-/
import OfxProofs.Gen.C13ExistT1
import OfxProofs.Gen.C13ExistT2
import OfxProofs.Gen.C13ExistT3
import OfxProofs.Gen.C13ExistT4
import OfxProofs.Props.C13Exist
import OfxProofs.Gen.C04Ext
import OfxProofs.Gen.C13

namespace Ofx.Gen
open Ofx Ofx.Agg Ofx.Generated Ofx.Types Ofx.Spec.Wire Ofx.Spec.Witness

/-- the cut points are those of `tbl_1` … `tbl_4` (Gen/C13ExistT1–T4), which the proof below matches term for term: they
    change together -/
def c13Cover : List (Nat × Nat) :=
  [(0, 133), (133, 104), (237, 103), (340, schema.classes.length - 340)]

theorem schema_constructible :
    Constructible schema Types.conv escapeCdata (typesDomB schema.enums) roundTripExceptions defaultFuel c13Cover := by
  refine ⟨by decide +kernel, fun p hp => ?_⟩
  simp only [c13Cover, List.mem_cons, List.not_mem_nil, or_false] at hp
  rcases hp with rfl | rfl | rfl | rfl
  · exact C13Table.tbl_1
  · exact C13Table.tbl_2
  · exact C13Table.tbl_3
  · exact C13Table.tbl_4

/-- **C13 for the generated schema**: every supported child declared by every concrete exported class has a
    description that the constructors accept, and the instance holds the child, satisfies every constraint of its class
    all the way down, is written with the child under its tag and is read back unchanged.  No class is excepted: the
    recorded C13 findings (`TAX1099*_V100` exclusivity groups naming a repeated child; `TAX1099INT_V100` list block
    interleaved) concern instances holding *two* particular children, not the constructibility of any single child. -/
theorem C13_generated_constructible (ci : Nat) (c : Cls) (a : Attr) (hc : schema.cls? ci = some c)
    (hab : c.abstract = false) (hex : c.exported = true) (ha : a ∈ c.spec) (hs : a.kind.isUnsupported = false) :
    ∃ d fields items,
      mkWith schema defaultFuel ci a = some d ∧
      build schema Types.conv d = .ok (.agg ci fields items) ∧
      holds a (.agg ci fields items) = true ∧
      ValidFull schema (.agg ci fields items) ∧
      ∃ x tl children,
        toEtree schema Types.conv (.agg ci fields items) = .ok (.node c.name x tl children) ∧
        (∃ ch ∈ children, ch.tag = wireTag c a) ∧
        fromEtree schema Types.conv (mapText escapeCdata (.node c.name x tl children)) = .ok (.agg ci fields items) :=
  C13_constructible schema schema_ok escapeCdata _ _ (schema_checkEnv (typesConv_laws_domB _)) defaultFuel c13Cover schema_constructible ci c a hc
    hab hex ha hs

theorem wireTag_plain (c : Cls) (a : Attr) (h : c.ungroom = none) : wireTag c a = upper a.name := by
  simp [wireTag, h]

theorem schema_ungroom_upper : schema.classes.all (fun c =>
    match c.ungroom with
    | some u => decide (upper (lower u.fromTag) = u.fromTag)
    | none => true) = true := by decide +kernel

/-- **C13 for the generated schema: a renamed child is written under its tag and read back** (`MAIL.frm` as
    `<FROM>`, `MFINFO.yld` / `STOCKINFO.yld` as `<YIELD>`). -/
theorem C13_generated_child_written_under_tag (ci : Nat) (fields : List (Str × Node)) (items : List Node)
    (hv : Valid genEnv.S genEnv.cv escapeCdata (typesDomWire genEnv.S.enums) (.agg ci fields items))
    (c : Cls) (hc : genEnv.S.cls? ci = some c) (u : Rename) (hu : c.ungroom = some u)
    (x : Val) (hx : lookup (lower u.fromTag) fields = some (.val x)) (hxn : x ≠ .none) :
    ∃ tx tl children, toEtree genEnv.S genEnv.cv (.agg ci fields items) = .ok (.node c.name tx tl children) ∧
      fromEtree genEnv.S genEnv.cv (mapText escapeCdata (.node c.name tx tl children)) = .ok (.agg ci fields items) ∧
      ∃ ch ∈ children, ch.tag = u.toTag := by
  have hup := List.all_getElem? schema_ungroom_upper hc
  simp only [hu, decide_eq_true_eq] at hup
  exact C13_child_written_under_tag genEnv.S genEnv.cv escapeCdata _ (typesConv_laws_wire _) ci fields items hv c hc u hu
    hup x hx hxn

end Ofx.Gen
