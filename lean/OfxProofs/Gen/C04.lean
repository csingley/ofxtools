/-
C04 (order) instantiated: in every generated class the list block is not interleaved around any non-repeated
position outside `blockExceptions` (three positions in two classes: the recorded finding and two never-stored
children of MSGSETLIST), so `C04_reject_out_of_order` applies to every pair of known non-repeated children.
-/
import OfxProofs.Props.C04Ext
import OfxProofs.Gen.C03

namespace Ofx.Gen
open Ofx Ofx.Agg Ofx.WF Ofx.Generated

def blockAtB (c : Cls) (j : Nat) : Bool :=
  !((List.range j).any (isListAt c)) ||
    (List.range c.spec.length).all (fun q => !isListAt c q || decide (q < j))

theorem blockAtB_blockAt (c : Cls) (j : Nat) (h : blockAtB c j = true) : BlockAt c j := by
  intro i q ai aq hi hil hij hq hql
  have hqn : q < c.spec.length := by
    rcases Nat.lt_or_ge q c.spec.length with h | h
    · exact h
    · rw [List.getElem?_eq_none h] at hq; simp at hq
  have hany : (List.range j).any (isListAt c) = true := by
    rw [List.any_eq_true]; exact ⟨i, by simpa using hij, by simp [isListAt, hi, hil]⟩
  simp only [blockAtB, hany, Bool.not_true, Bool.false_or] at h
  have := (List.all_eq_true.mp h) q (by simpa using hqn)
  simpa [isListAt, hq, hql] using this

/-- positions around which the list block *is* interleaved: the recorded finding (TAX1099INT_V100) and two
    unsupported (never stored) children of MSGSETLIST that sit inside its list block -/
def blockExceptions : List (Str × Nat) :=
  [("MSGSETLIST".toList, 10), ("MSGSETLIST".toList, 11), ("TAX1099INT_V100".toList, 13)]

def blockOkAt (c : Cls) (j : Nat) : Bool :=
  match c.spec[j]? with
  | some a => isListMember c a.name || blockExceptions.contains (c.name, j) || blockAtB c j
  | none => true

theorem blockOk_of_noList (c : Cls) (h : c.spec.all (fun a => !a.kind.isList) = true) :
    (List.range c.spec.length).all (blockOkAt c) = true := by
  have hno : ∀ i, isListAt c i = false := fun i => by
    unfold isListAt
    cases hi : c.spec[i]? with
    | none => rfl
    | some b => simpa using List.all_getElem? h hi
  rw [List.all_eq_true]
  intro j _
  have hany : (List.range j).any (isListAt c) = false := by
    rw [List.any_eq_false]; intro i _; rw [hno i]; exact Bool.false_ne_true
  unfold blockOkAt
  cases c.spec[j]? with
  | none => rfl
  | some a => simp [blockAtB, hany]

theorem schema_blockAt :
    schema.classes.all (fun c => (List.range c.spec.length).all (blockOkAt c)) = true := by
  -- only the classes that have a repeated child are evaluated position by position
  have h : schema.classes.all (fun c => c.spec.all (fun a => !a.kind.isList) ||
      (List.range c.spec.length).all (blockOkAt c)) = true := by decide +kernel
  rw [List.all_eq_true] at h ⊢
  intro c hc
  rcases Bool.or_eq_true _ _ ▸ h c hc with h1 | h1
  · exact blockOk_of_noList c h1
  · exact h1

theorem blockAt_of_schema (ci : Nat) (c : Cls) (hc : schema.cls? ci = some c) (j : Nat) (n : Str)
    (hj : specIndex c n = some j) (hnl : isListMember c n = false) (hx : (c.name, j) ∉ blockExceptions) :
    BlockAt c j := by
  have hall := List.all_getElem? schema_blockAt hc
  obtain ⟨aa, haa, han, _⟩ := specIndex_get c _ j hj
  have hlt : j < c.spec.length := by
    rcases Nat.lt_or_ge j c.spec.length with h | h
    · exact h
    · rw [List.getElem?_eq_none h] at haa; simp at haa
  have hjj := (List.all_eq_true.mp hall) j (by simpa using hlt)
  have hx' : blockExceptions.contains (c.name, j) = false := by simpa using hx
  simp only [blockOkAt, haa, han, hnl, hx', Bool.false_or] at hjj
  exact blockAtB_blockAt c j hjj

/-- **C04 (order) for the generated schema.** -/
theorem C04_generated_out_of_order (tag : Str) (x tl : Option Str) (pre mid post : List Tree) (a b : Tree)
    (ci : Nat) (c : Cls) (ia ib : Nat)
    (hf : schema.findIdx? tag = some ci) (hc : schema.cls? ci = some c) (hg : c.groom = none)
    (hx : (c.name, ia) ∉ blockExceptions)
    (hdota : '.' ∉ a.tag) (hia : specIndex c (lower a.tag) = some ia)
    (hnla : isListMember c (lower a.tag) = false)
    (hdotb : '.' ∉ b.tag) (hib : specIndex c (lower b.tag) = some ib)
    (hnlb : isListMember c (lower b.tag) = false) (hle : ib ≤ ia) :
    ∃ e, fromEtree schema Types.conv (.node tag x tl (pre ++ a :: (mid ++ b :: post))) = .error e :=
  C04_reject_out_of_order schema Types.conv tag x tl pre mid post a b ci c ia ib hf hc hg (gen_spec_nodup ci c hc)
    (blockAt_of_schema ci c hc ia _ hia hnla hx) hdota hia hnla hdotb hib hnlb hle

end Ofx.Gen
