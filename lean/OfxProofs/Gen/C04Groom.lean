/-
C04, tree-route rejections for every class (the three with a `groom` rename included), instantiated for the schema
generated from /repo's model classes and the real converters `Types.conv`: the `Nodup` premise is discharged by
`gen_spec_nodup`; no premise on `c.groom` remains.  Concrete witnesses on STOCKINFO / MFINFO (`YIELD→YLD`) and MAIL
(`FROM→FRM`) show the guards are met by the real classes.
-/
import OfxProofs.Props.C04Groom
import OfxProofs.Gen.C04Ext
import OfxProofs.Gen.ByName

namespace Ofx.Gen
open Ofx Ofx.Agg Ofx.Spec Ofx.WF Ofx.Generated Ofx.Generated.ByName

theorem schema_groom_classes :
    (schema.classes.filter (fun c => c.groom.isSome)).map (fun c => (c.name, c.groom)) =
      [("MAIL".toList, some ⟨"FROM".toList, "FRM".toList⟩), ("MFINFO".toList, some ⟨"YIELD".toList, "YLD".toList⟩),
       ("STOCKINFO".toList, some ⟨"YIELD".toList, "YLD".toList⟩)] := by decide +kernel

theorem C04_generated_reject_overlong_string_groom_tree (tag : Str) (x tl : Option Str) (pre post : List Tree)
    (ch : Tree) (ci : Nat) (c : Cls) (a : Attr) (n : Nat) (s etag : Str)
    (hf : schema.findIdx? tag = some ci) (hc : schema.cls? ci = some c)
    (het : (effTag c (renamedAfter c false pre) ch.tag).1 = etag)
    (ha : a ∈ c.spec) (hname : a.name = lower etag) (hdot : '.' ∉ etag)
    (hk : a.kind = .string (some n) true) (htext : ch.text = some s) (hlong : n < (unescape s).length) :
    ∃ e, fromEtree schema Types.conv (.node tag x tl (pre ++ ch :: post)) = .error e :=
  C04_reject_overlong_string_groom_tree schema tag x tl pre post ch ci c a n s etag hf hc (gen_spec_nodup ci c hc)
    het ha hname hdot hk htext hlong

theorem C04_generated_reject_overlimit_integer_groom_tree (tag : Str) (x tl : Option Str) (pre post : List Tree)
    (ch : Tree) (ci : Nat) (c : Cls) (a : Attr) (n : Nat) (s etag : Str) (i : Int)
    (hf : schema.findIdx? tag = some ci) (hc : schema.cls? ci = some c)
    (het : (effTag c (renamedAfter c false pre) ch.tag).1 = etag)
    (ha : a ∈ c.spec) (hname : a.name = lower etag) (hdot : '.' ∉ etag)
    (hk : a.kind = .integer (some n)) (htext : ch.text = some s) (hp : pyIntParse s = some i)
    (hover : 10 ^ n ≤ i.natAbs) :
    ∃ e, fromEtree schema Types.conv (.node tag x tl (pre ++ ch :: post)) = .error e :=
  C04_reject_overlimit_integer_groom_tree schema tag x tl pre post ch ci c a n s etag i hf hc
    (gen_spec_nodup ci c hc) het ha hname hdot hk htext hp hover

theorem C04_generated_reject_foreign_token_groom_tree (tag : Str) (x tl : Option Str) (pre post : List Tree)
    (ch : Tree) (ci : Nat) (c : Cls) (a : Attr) (e : Nat) (valid : List Str) (t0 : Char) (ts etag : Str)
    (hf : schema.findIdx? tag = some ci) (hc : schema.cls? ci = some c)
    (het : (effTag c (renamedAfter c false pre) ch.tag).1 = etag)
    (ha : a ∈ c.spec) (hname : a.name = lower etag) (hdot : '.' ∉ etag)
    (hk : a.kind = .oneOf e) (he : schema.enums[e]? = some valid) (htext : ch.text = some (t0 :: ts))
    (hforeign : (t0 :: ts) ∉ valid) :
    ∃ e, fromEtree schema Types.conv (.node tag x tl (pre ++ ch :: post)) = .error e :=
  C04_reject_foreign_token_groom_tree schema tag x tl pre post ch ci c a e valid t0 ts etag hf hc
    (gen_spec_nodup ci c hc) het ha hname hdot hk he htext hforeign

theorem C04_generated_reject_required_omitted_groom_tree (tag : Str) (x tl : Option Str) (children : List Tree)
    (ci : Nat) (c : Cls) (a : Attr) (hf : schema.findIdx? tag = some ci) (hc : schema.cls? ci = some c)
    (ha : a ∈ c.spec) (hl : a.kind.isList = false) (hu : a.kind.isUnsupported = false) (hreq : a.required = true)
    (hno : ∀ pre ch post, children = pre ++ ch :: post →
      lower (effTag c (renamedAfter c false pre) ch.tag).1 ≠ a.name) :
    ∃ e, fromEtree schema Types.conv (.node tag x tl children) = .error e :=
  C04_reject_required_omitted_conv_groom_tree schema tag x tl children ci c a hf hc ha hl hu hreq hno

theorem C04_generated_reject_duplicate_child_groom (tag : Str) (x tl : Option Str) (pre mid post : List Tree)
    (a b : Tree) (ci : Nat) (c : Cls) (idx : Nat) (etag : Str)
    (hf : schema.findIdx? tag = some ci) (hc : schema.cls? ci = some c)
    (heta : (effTag c (renamedAfter c false pre) a.tag).1 = etag)
    (hetb : (effTag c (renamedAfter c false (pre ++ a :: mid)) b.tag).1 = etag)
    (hdot : '.' ∉ etag) (hidx : specIndex c (lower etag) = some idx)
    (hnl : isListMember c (lower etag) = false) :
    ∃ e, fromEtree schema Types.conv (.node tag x tl (pre ++ a :: (mid ++ b :: post))) = .error e :=
  C04_reject_duplicate_child_groom schema Types.conv tag x tl pre mid post a b ci c idx etag hf hc heta hetb hdot
    hidx hnl

theorem C04_generated_adjacent_out_of_order_groom (tag : Str) (x tl : Option Str) (pre mid post : List Tree)
    (a b : Tree) (ci : Nat) (c : Cls) (ia ib : Nat) (eta etb : Str)
    (hf : schema.findIdx? tag = some ci) (hc : schema.cls? ci = some c)
    (hmid : ∀ t ∈ mid, Unknown c t.tag)
    (heta : (effTag c (renamedAfter c false pre) a.tag).1 = eta)
    (hetb : (effTag c (renamedAfter c false (pre ++ a :: mid)) b.tag).1 = etb)
    (hdota : '.' ∉ eta) (hia : specIndex c (lower eta) = some ia)
    (hdotb : '.' ∉ etb) (hib : specIndex c (lower etb) = some ib) (hle : ib ≤ ia)
    (hnb : ¬ (isListMember c (lower eta) = true ∧ isListMember c (lower etb) = true)) :
    ∃ e, fromEtree schema Types.conv (.node tag x tl (pre ++ a :: (mid ++ b :: post))) = .error e :=
  C04_reject_adjacent_out_of_order_groom schema Types.conv tag x tl pre mid post a b ci c ia ib eta etb hf hc hmid
    heta hetb hdota hia hdotb hib hle hnb

def lf (t : String) (v : Str) : Tree := .node t.toList (some v) none []

/-- MAIL: the `FROM` child is read as `frm : String(32)`; 33 characters are refused -/
example : ∃ e, fromEtree schema Types.conv
    (.node "MAIL".toList none none ([lf "USERID" "u".toList] ++ lf "FROM" (List.replicate 33 'x') :: [])) = .error e :=
  C04_generated_reject_overlong_string_groom_tree _ none none [lf "USERID" "u".toList] []
    (lf "FROM" (List.replicate 33 'x')) idx_MAIL cls_MAIL ⟨"frm".toList, .string (some 32) true, true⟩ 32 _
    "FRM".toList findIdx_MAIL cls_MAIL_at (by decide +kernel)
    (List.mem_of_getElem? (i := 2) rfl) (by decide +kernel) (by decide +kernel) rfl rfl (by decide +kernel)

/-- MAIL: without a `FROM` (or `FRM`) child the required `frm` is missing -/
example : ∃ e, fromEtree schema Types.conv
    (.node "MAIL".toList none none [lf "USERID" "u".toList]) = .error e :=
  C04_generated_reject_required_omitted_groom_tree _ none none _ idx_MAIL cls_MAIL
    ⟨"frm".toList, .string (some 32) true, true⟩ findIdx_MAIL cls_MAIL_at (List.mem_of_getElem? (i := 2) rfl)
    rfl rfl rfl (by
      intro pre ch post h
      cases pre with
      | nil =>
        simp only [List.nil_append, List.cons.injEq] at h
        obtain ⟨rfl, _⟩ := h
        decide +kernel
      | cons p pre => simp at h)

/-- MAIL: a `FROM` child (read as `FRM`) and a `FRM` child -/
example : ∃ e, fromEtree schema Types.conv
    (.node "MAIL".toList none none ([] ++ lf "FROM" "a".toList :: ([] ++ lf "FRM" "b".toList :: []))) = .error e :=
  C04_generated_reject_duplicate_child_groom _ none none [] [] [] (lf "FROM" "a".toList) (lf "FRM" "b".toList)
    idx_MAIL cls_MAIL 2 "FRM".toList findIdx_MAIL cls_MAIL_at (by decide +kernel) (by decide +kernel)
    (by decide +kernel) (by decide +kernel) (by decide +kernel)

/-- STOCKINFO: a `YIELD` child (read as `YLD`) and a `YLD` child -/
example : ∃ e, fromEtree schema Types.conv
    (.node "STOCKINFO".toList none none ([] ++ lf "YIELD" "1".toList :: ([] ++ lf "YLD" "2".toList :: []))) = .error e :=
  C04_generated_reject_duplicate_child_groom _ none none [] [] [] (lf "YIELD" "1".toList) (lf "YLD" "2".toList)
    idx_STOCKINFO cls_STOCKINFO 2 "YLD".toList findIdx_STOCKINFO cls_STOCKINFO_at (by decide +kernel) (by decide +kernel)
    (by decide +kernel) (by decide +kernel) (by decide +kernel)

/-- STOCKINFO: the `YIELD` child (read as `YLD`, position 2) before `STOCKTYPE` (position 1) -/
example : ∃ e, fromEtree schema Types.conv
    (.node "STOCKINFO".toList none none ([] ++ lf "YIELD" "1".toList :: ([] ++ lf "STOCKTYPE" "COMMON".toList :: [])))
      = .error e :=
  C04_generated_adjacent_out_of_order_groom _ none none [] [] [] (lf "YIELD" "1".toList)
    (lf "STOCKTYPE" "COMMON".toList) idx_STOCKINFO cls_STOCKINFO 2 1 "YLD".toList "STOCKTYPE".toList
    findIdx_STOCKINFO cls_STOCKINFO_at (by simp) (by decide +kernel) (by decide +kernel) (by decide +kernel) (by decide +kernel)
    (by decide +kernel) (by decide +kernel) (by decide +kernel) (by decide +kernel)

/-- STOCKINFO: a foreign `STOCKTYPE` token after a `YIELD` child (the rename has been used up before it) -/
example : ∃ e, fromEtree schema Types.conv
    (.node "STOCKINFO".toList none none ([lf "YIELD" "1".toList] ++ lf "STOCKTYPE" "BOGUS".toList :: [])) = .error e :=
  C04_generated_reject_foreign_token_groom_tree _ none none [lf "YIELD" "1".toList] []
    (lf "STOCKTYPE" "BOGUS".toList) idx_STOCKINFO cls_STOCKINFO ⟨"stocktype".toList, .oneOf 45, false⟩ 45 _ 'B'
    "OGUS".toList "STOCKTYPE".toList findIdx_STOCKINFO cls_STOCKINFO_at (by decide +kernel)
    (List.mem_of_getElem? (i := 1) rfl) (by decide +kernel) (by decide +kernel) rfl rfl rfl (by decide +kernel)

/-- MFINFO: a `YIELD` child (read as `YLD`) and a `YLD` child -/
example : ∃ e, fromEtree schema Types.conv
    (.node "MFINFO".toList none none ([] ++ lf "YIELD" "1".toList :: ([] ++ lf "YLD" "2".toList :: []))) = .error e :=
  C04_generated_reject_duplicate_child_groom _ none none [] [] [] (lf "YIELD" "1".toList) (lf "YLD" "2".toList)
    idx_MFINFO cls_MFINFO 2 "YLD".toList findIdx_MFINFO cls_MFINFO_at (by decide +kernel) (by decide +kernel)
    (by decide +kernel) (by decide +kernel) (by decide +kernel)

end Ofx.Gen
