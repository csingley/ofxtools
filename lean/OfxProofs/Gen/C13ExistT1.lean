/- C13 constructibility table, part 1 of 4 (see `Gen/C13Exist.lean`). -/
import OfxProofs.Defs.C13Table
import OfxModel.Generated.Schema
import OfxModel.Ofx.Types

namespace Ofx.Gen.C13Table
open Ofx Ofx.Agg Ofx.Generated Ofx.Spec.Witness

theorem tbl_1 :
    rangeOk schema Types.conv escapeCdata (Types.typesDomB schema.enums) roundTripExceptions defaultFuel
      0 133 = true := by
  decide +kernel

end Ofx.Gen.C13Table
