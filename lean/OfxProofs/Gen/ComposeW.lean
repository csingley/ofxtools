/-
C06 — class-specific non-vacuity witnesses (kernel evaluations of concrete requests over the generated schema).
Built separately (`witness_modules`): a failure here is a note about a changed class, not a broken obligation.
-/
import OfxProofs.Gen.Compose

namespace Ofx.Gen
open Ofx Ofx.Compose Ofx.Spec.Request Ofx.C06

/-- `request_tax1099("pw", "2019", acctnum="777")` composes and satisfies the whole tax spec (ACCTNUM 777 placed):
    the input of finding tax1099-acctnum-dropped -/
theorem tax_witness :
    (match requestTax Ofx.Generated.schema Types.conv wCfg "pw".toList ["2019".toList] (some "777".toList) none
        wUuid wDt with
      | .ok root => decide (checkTax Ofx.Generated.schema wCfg "pw".toList wDt ["2019".toList] (some "777".toList)
          none 203 root = [])
      | .error _ => false) = true := by decide +kernel

/-- an account-info and a profile request for the witness configuration compose and satisfy their specs -/
theorem accounts_witness :
    (match requestAccounts Ofx.Generated.schema Types.conv wCfg "pw".toList (some wDt) wUuid wDt with
      | .ok root => decide (checkAccounts Ofx.Generated.schema wCfg "pw".toList wDt (some wDt) 203 root = [])
      | .error _ => false) = true := by decide +kernel

theorem profile_witness :
    (match requestProfile Ofx.Generated.schema Types.conv wCfg none wUuid wDt with
      | .ok root => decide (checkProfile Ofx.Generated.schema wCfg wDt none none 203 root = [])
      | .error _ => false) = true := by decide +kernel

/-- the guards of `C06_wire_closed` are satisfiable: the witness configuration, a password, a UTC instant, the uuid
    stream, and a request list for which composition succeeds -/
example : (∀ s ∈ wCfg.texts, WireText s) ∧ WireText "pass".toList ∧ Ofx.DateTime.dtUtcMs wDt ∧
    (∀ i, WireText (wUuid i)) ∧ Ofx.Header.UidOk genEnv.p1.newLen (some (wUuid 1)) ∧
    (requestStatements Ofx.Generated.schema Types.conv wCfg "pass".toList
      [.ccStmt (some "123".toList) (some wDt) none (some true)] wUuid wDt).toBool = true := by
  exact ⟨by decide +kernel, by decide +kernel, wDt_wire, wUuid_wire, (wUuid_uid 1 (by omega)).1,
    by decide +kernel⟩

end Ofx.Gen
