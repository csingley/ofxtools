/- `decide +kernel` obligations over `Generated/Tables.lean`. -/
import OfxModel.Generated.Tables
import OfxModel.Ofx.SecId
import OfxModel.Spec.SecId
import OfxModel.Py.Str

namespace Ofx.Gen
open Ofx Ofx.Generated

/-- every numbering-agency key is alphanumeric (so an ISIN built from it has a base-36 expansion) -/
theorem agencies_alnum :
    numberingAgencies.all (fun a => (Spec.SecId.valsOf b36 a).isSome) = true := by decide +kernel

theorem agencies_nodup : numberingAgencies.Nodup ∧ numberingAgencies.all (fun a => !a.isEmpty) = true := by
  decide +kernel

/-- the hand-written `isspace` table is the running interpreter's -/
theorem isspace_table : pySpaceCodepoints = isspaceCodepoints := by decide +kernel

end Ofx.Gen
