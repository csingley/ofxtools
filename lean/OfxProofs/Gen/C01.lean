/-
C01 instantiated: the whole-file round trip for the schema generated from /repo's model classes, the
modelled element converters (`Ofx.Types.conv`) and the generated header tables.  Every premise of the generic
theorem that is about the *code's data* is discharged here by kernel evaluation over `Generated/*`; what
remains is about the file written: the validity of the instance (`Valid`, with values in `typesDomWire`), file ids
within the header's lengths (`UidOk`), a header `makeHeader` accepts, and end tags or the guard of the unclosed form.
For the modules that build on this one the file also holds the environment of the `validB` check for this schema
(`schema_checkEnv`, `valid_of_validB`) and `UidOk` of absent file ids (`uid_lens`, `uid1o` … `uid2n`).
-/
import OfxProofs.Props.C01File
import OfxProofs.Lemmas.ConvLawsWire
import OfxProofs.Gen.WF
import OfxProofs.Gen.Header
import OfxModel.Drv.Pipeline

namespace Ofx.Gen
open Ofx Ofx.Agg Ofx.Pipeline Ofx.Header Ofx.Generated Ofx.Types Ofx.Spec.Wire

/-- the environment the driver (and the correspondence) runs: generated schema, converters, tables -/
abbrev genEnv : Env := Ofx.Drv.Pipeline.env

theorem gen_tagWF : ∀ ci c, genEnv.S.cls? ci = some c → c.abstract = false → TagWF genEnv.htmlEmpty c := by
  intro ci c hc ha
  have := List.all_getElem? schema_tagWF hc
  rw [ha, Bool.false_or] at this
  exact tagWFb_tagWF _ c this

theorem C01_generated (v : Nat) (old new : Option Str)
    (ho1 : UidOk genEnv.p1.oldLen old) (hn1 : UidOk genEnv.p1.newLen new)
    (ho2 : UidOk genEnv.p2.oldLen old) (hn2 : UidOk genEnv.p2.newLen new)
    (pretty close : Bool) (i : Node)
    (hv : Valid genEnv.S genEnv.cv escapeCdata (Ofx.Types.typesDomWire genEnv.S.enums) i) (hdr : Hdr)
    (hmk : makeHeader genEnv.p1 genEnv.p2 (.int v) none old new = .ok hdr)
    (hform : close = true ∨
      v < 200 ∧ ∀ t, toEtree genEnv.S genEnv.cv i = .ok t → Serialize.unclosedGuard t = true) :
    ∃ file, writeFile genEnv v old new pretty close i = .ok file ∧ readFile genEnv file = .ok (hdr, i) :=
  file_roundtrip genEnv _ (Ofx.Types.typesConv_laws_wire _) (Ofx.Types.typesConv_textOk _)
    gen_tagWF header_wf.1 header_wf.2 v old new ho1 hn1 ho2 hn2 pretty close i hv hdr hmk hform

/-- **C01 for the generated schema, closed forms.** -/
theorem C01_generated_closed (v : Nat) (old new : Option Str)
    (ho1 : UidOk genEnv.p1.oldLen old) (hn1 : UidOk genEnv.p1.newLen new)
    (ho2 : UidOk genEnv.p2.oldLen old) (hn2 : UidOk genEnv.p2.newLen new)
    (pretty : Bool) (i : Node)
    (hv : Valid genEnv.S genEnv.cv escapeCdata (Ofx.Types.typesDomWire genEnv.S.enums) i) (hdr : Hdr)
    (hmk : makeHeader genEnv.p1 genEnv.p2 (.int v) none old new = .ok hdr) :
    ∃ file, writeFile genEnv v old new pretty true i = .ok file ∧ readFile genEnv file = .ok (hdr, i) :=
  C01_generated v old new ho1 hn1 ho2 hn2 pretty true i hv hdr hmk (Or.inl rfl)

/-- **C01 for the generated schema, unclosed SGML form** (no childless aggregate in the written tree). -/
theorem C01_generated_unclosed_partial (v : Nat) (old new : Option Str)
    (ho1 : UidOk genEnv.p1.oldLen old) (hn1 : UidOk genEnv.p1.newLen new)
    (ho2 : UidOk genEnv.p2.oldLen old) (hn2 : UidOk genEnv.p2.newLen new)
    (pretty : Bool) (i : Node)
    (hv : Valid genEnv.S genEnv.cv escapeCdata (Ofx.Types.typesDomWire genEnv.S.enums) i) (hdr : Hdr)
    (hmk : makeHeader genEnv.p1 genEnv.p2 (.int v) none old new = .ok hdr) (hv200 : v < 200)
    (hguard : ∀ t, toEtree genEnv.S genEnv.cv i = .ok t → Serialize.unclosedGuard t = true) :
    ∃ file, writeFile genEnv v old new pretty false i = .ok file ∧ readFile genEnv file = .ok (hdr, i) :=
  C01_generated v old new ho1 hn1 ho2 hn2 pretty false i hv hdr hmk (Or.inr ⟨hv200, hguard⟩)

theorem schema_checkEnv {domB : Kind → Bool → Val → Bool}
    (laws : ConvLaws Types.conv schema.enums escapeCdata (domOf domB)) :
    CheckEnv schema Types.conv escapeCdata domB roundTripExceptions where
  laws := laws
  sorted := schema_names_sorted
  clsOk := fun c hc hx => ⟨schema_clsWF c hc (by simpa using hx), gen_groomOk c hc⟩

theorem valid_of_validB (n : Node)
    (h : validB schema Types.conv escapeCdata (typesDomWireB schema.enums) roundTripExceptions n = true) :
    Valid genEnv.S genEnv.cv escapeCdata (typesDomWire genEnv.S.enums) n :=
  Valid.mono _ _ _ (typesDomWireB_sound schema.enums) n
    (validB_sound _ _ _ _ _ (schema_checkEnv ((typesConv_laws_wire _).mono (typesDomWireB_sound _))) n h)

theorem uid_lens : genEnv.p1.oldLen = some 36 ∧ genEnv.p1.newLen = some 36 ∧
    genEnv.p2.oldLen = some 36 ∧ genEnv.p2.newLen = some 36 := by decide +kernel

theorem uid1o : UidOk genEnv.p1.oldLen none := uidOk_none uid_lens.1 (by omega)
theorem uid1n : UidOk genEnv.p1.newLen none := uidOk_none uid_lens.2.1 (by omega)
theorem uid2o : UidOk genEnv.p2.oldLen none := uidOk_none uid_lens.2.2.1 (by omega)
theorem uid2n : UidOk genEnv.p2.newLen none := uidOk_none uid_lens.2.2.2 (by omega)

end Ofx.Gen
