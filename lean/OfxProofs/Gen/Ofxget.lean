/-
`decide +kernel` obligations over `Generated/OfxgetTables.lean` (DEFAULTS, CONFIGURABLE, argparse defaults,
configparser constants).
-/
import OfxModel.Generated.OfxgetTables
import OfxProofs.Lemmas.Ofxget
import OfxProofs.Lemmas.OfxgetStmt

namespace Ofx.Gen
open Ofx Ofx.Ofxget Ofx.Generated

/-- the facts about `ofxgetTables` projected below, evaluated in one pass -/
theorem tables_facts :
    ofxgetTables.WF = true ∧ (ofxgetTables.configurable.map (·.1)).Nodup ∧
    (bankTypes ++ ["creditcard".toList, "investment".toList]).all (fun k =>
      ofxgetTables.configurable.lookup k == some CfgTy.list && ofxgetTables.defaults.lookup k == some (CfgVal.list [])) = true ∧
    ofxgetTables.BoolOk = true ∧ ofxgetTables.OhDefaultsEmpty = true := by
  decide +kernel

theorem ofxgetTables_wf : ofxgetTables.WF = true := tables_facts.1

theorem password_not_persistable : ¬ "password".toList ∈ ofxgetTables.configurable.map (·.1) :=
  Tables.wf_noPassword ofxgetTables_wf

theorem configurable_nodup : (ofxgetTables.configurable.map (·.1)).Nodup := tables_facts.2.1

/-- the account-type options `request_stmt` loops over are CONFIGURABLE lists with default `[]` -/
theorem acct_types_are_lists :
    (bankTypes ++ ["creditcard".toList, "investment".toList]).all (fun k =>
      ofxgetTables.configurable.lookup k == some CfgTy.list && ofxgetTables.defaults.lookup k == some (CfgVal.list [])) = true :=
  tables_facts.2.2.1

theorem ofxgetTables_boolOk : ofxgetTables.BoolOk = true := tables_facts.2.2.2.1

theorem ofxgetTables_ohDefaultsEmpty : ofxgetTables.OhDefaultsEmpty = true := tables_facts.2.2.2.2

/-- configparser: the spellings of booleans the model was written for -/
theorem configparser_constants :
    ofxgetTables.booleanStates = [("1".toList, true), ("yes".toList, true), ("true".toList, true), ("on".toList, true),
      ("0".toList, false), ("no".toList, false), ("false".toList, false), ("off".toList, false)] := by
  decide +kernel

/-- the account types a response can carry are the ones the C19 theorems assume (`ValidInfos`), and ACTIVE is a status -/
theorem acct_enums :
    ofxgetTables.acctTypes = validAcctTypes ∧ "ACTIVE".toList ∈ ofxgetTables.svcStatuses := by decide +kernel

end Ofx.Gen
