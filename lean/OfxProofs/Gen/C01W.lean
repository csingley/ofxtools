/-
Non-vacuity witnesses for C01 (and, through them, C13): concrete instances of the generated schema that satisfy
`Valid`, and the end-to-end theorem instantiated on them.  These depend on what particular classes look like
(STATUS, TAX1099RQ, MAIL); if a class changes they may stop checking although every theorem still holds — the
framework builds this module separately and reports its failure as a note, not as a broken obligation.
-/
import OfxProofs.Gen.C01

namespace Ofx.Gen
open Ofx Ofx.Agg Ofx.Pipeline Ofx.Header Ofx.Generated Ofx.Types Ofx.Spec.Wire

def exStatus : Node :=
  .agg ByName.idx_STATUS [("code".toList, .val (.int 0)), ("severity".toList, .val (.str "INFO".toList)),
            ("message".toList, .val .none)] []

theorem exStatus_valid :
    Valid genEnv.S genEnv.cv escapeCdata (typesDomWire genEnv.S.enums) exStatus :=
  valid_of_validB _ (by decide +kernel)

def exTaxRq : Node :=
  .agg ByName.idx_TAX1099RQ [("acctnum".toList, .val .none), ("recid".toList, .val .none)] [.val (.int 2019), .val (.int 2020)]

theorem exTaxRq_valid :
    Valid genEnv.S genEnv.cv escapeCdata (typesDomWire genEnv.S.enums) exTaxRq :=
  valid_of_validB _ (by decide +kernel)

def exMailFields : List (Str × Node) :=
  [("userid".toList, .val (.str "u".toList)),
   ("dtcreated".toList, .val (.dt ⟨2024, 2, 29, 23, 59, 59, 999000, some Ofx.Spec.Instant.utc⟩)),
   ("frm".toList, .val (.str "me & you".toList)), ("to".toList, .val (.str "bank".toList)),
   ("subject".toList, .val (.str "hi".toList)), ("msgbody".toList, .val (.str "a < b".toList)),
   ("incimages".toList, .val (.bool false)), ("usehtml".toList, .val (.bool true))]

def exMail : Node := .agg ByName.idx_MAIL exMailFields []

theorem exMail_valid :
    Valid genEnv.S genEnv.cv escapeCdata (typesDomWire genEnv.S.enums) exMail :=
  valid_of_validB _ (by decide +kernel)

theorem closed_of_valid (v : Nat) (pretty : Bool) (i : Node)
    (hv : Valid genEnv.S genEnv.cv escapeCdata (typesDomWire genEnv.S.enums) i)
    (h : (makeHeader genEnv.p1 genEnv.p2 (.int v) none none none).toBool = true) :
    ∃ file hdr, writeFile genEnv v none none pretty true i = .ok file ∧ readFile genEnv file = .ok (hdr, i) := by
  obtain ⟨hdr, hmk⟩ := PyM.ok_of_toBool h
  obtain ⟨file, h1, h2⟩ := C01_generated_closed v none none uid1o uid1n uid2o uid2n pretty i hv hdr hmk
  exact ⟨file, hdr, h1, h2⟩

/-- non-vacuity of `C01_generated_closed`: a concrete instance, version 102, pretty-printed -/
example : ∃ file hdr, writeFile genEnv 102 none none true true exStatus = .ok file ∧
    readFile genEnv file = .ok (hdr, exStatus) :=
  closed_of_valid 102 true exStatus exStatus_valid (by decide +kernel)

/-- … and an `ElementList` instance, version 220 (XML) -/
example : ∃ file hdr, writeFile genEnv 220 none none false true exTaxRq = .ok file ∧
    readFile genEnv file = .ok (hdr, exTaxRq) :=
  closed_of_valid 220 false exTaxRq exTaxRq_valid (by decide +kernel)

/-- … and an instance of a class whose writer renames a child (MAIL: FRM is written as FROM), SGML version 103
    with end tags, pretty-printed -/
example : ∃ file hdr, writeFile genEnv 103 none none true true exMail = .ok file ∧
    readFile genEnv file = .ok (hdr, exMail) :=
  closed_of_valid 103 true exMail exMail_valid (by decide +kernel)

end Ofx.Gen
