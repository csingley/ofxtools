/- C13 constructibility table, part 4 of 4 (see `Gen/C13Exist.lean`). -/
import OfxProofs.Defs.C13Table
import OfxModel.Generated.Schema
import OfxModel.Ofx.Types

namespace Ofx.Gen.C13Table
open Ofx Ofx.Agg Ofx.Generated Ofx.Spec.Witness

theorem tbl_4 :
    rangeOk schema Types.conv escapeCdata (Types.typesDomB schema.enums) roundTripExceptions defaultFuel
      340 (schema.classes.length - 340) = true := by
  decide +kernel

end Ofx.Gen.C13Table
