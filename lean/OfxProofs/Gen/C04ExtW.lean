/-
Class-specific witnesses for the C04 extension on the generated schema (built apart from the obligations, like
Gen/C01W.lean: they depend on what MAILSYNCRQ, BANKTRANLIST and STATUS look like): the empty token of MAILSYNCRQ is
rejected; non-vacuity of the generated order theorems and of `C04_generated_sound_full_tree` / `_kw`.
-/
import OfxProofs.Gen.C04Ext

namespace Ofx.Gen
open Ofx Ofx.Agg Ofx.Generated

def accept (r : PyM Node) (p : Node → Bool) : Bool :=
  match r with
  | .ok n => p n
  | .error _ => false

theorem ok_of_accept (r : PyM Node) (p : Node → Bool) (h : accept r p = true) : ∃ n, r = .ok n ∧ p n = true := by
  cases r with
  | error e => simp [accept] at h
  | ok n => exact ⟨n, rfl, h⟩

def mailsyncKw : List (Str × Node) :=
  [("token".toList, .val (.str [])), ("rejectifmissing".toList, .val (.bool true)),
   ("incimages".toList, .val (.bool false)), ("usehtml".toList, .val (.bool false))]

def syncGroup : List Str := ["token".toList, "tokenonly".toList, "refresh".toList]

theorem mailsync_cls : schema.cls? ByName.idx_MAILSYNCRQ = some ByName.cls_MAILSYNCRQ := by rfl

theorem mailsync_group : syncGroup ∈ ByName.cls_MAILSYNCRQ.reqMutex := by decide +kernel

/-- `MAILSYNCRQ(token="", rejectifmissing=True, incimages=False, usehtml=False)` is rejected: the empty text is the
    only member of the exactly-one group token/tokenonly/refresh that is passed -/
theorem C04_generated_reject_mailsync_empty_token :
    ∃ e, construct schema Types.conv ByName.idx_MAILSYNCRQ [] mailsyncKw = .error e :=
  C04_reject_reqmutex_empty_text_kw schema Types.conv ByName.idx_MAILSYNCRQ ByName.cls_MAILSYNCRQ [] mailsyncKw
    syncGroup "token".toList mailsync_cls mailsync_group rfl
    (by
      intro m hm hne
      simp only [syncGroup, List.mem_cons, List.not_mem_nil, or_false] at hm
      rcases hm with rfl | rfl | rfl
      · exact absurd rfl hne
      · rintro ⟨v, h, _⟩
        rw [show lookup "tokenonly".toList mailsyncKw = none from by decide +kernel] at h; cases h
      · rintro ⟨v, h, _⟩
        rw [show lookup "refresh".toList mailsyncKw = none from by decide +kernel] at h; cases h)

def isError (r : PyM Node) : Bool := match r with | .ok _ => false | .error _ => true

theorem mailsync_rejected_eval :
    isError (construct schema Types.conv ByName.idx_MAILSYNCRQ [] mailsyncKw) = true := by decide +kernel

/-- … while the same description with a non-empty token is accepted, and what it returns is valid -/
def mailsyncKwOk : List (Str × Node) :=
  [("token".toList, .val (.str "0".toList)), ("rejectifmissing".toList, .val (.bool true)),
   ("incimages".toList, .val (.bool false)), ("usehtml".toList, .val (.bool false))]

theorem mailsync_ok_accepted :
    accept (construct schema Types.conv ByName.idx_MAILSYNCRQ [] mailsyncKwOk) Node.isAgg = true := by
  decide +kernel

example : ∃ n, construct schema Types.conv ByName.idx_MAILSYNCRQ [] mailsyncKwOk = .ok n ∧ ValidFull schema n := by
  obtain ⟨n, hn, _⟩ := ok_of_accept _ _ mailsync_ok_accepted
  refine ⟨n, hn, C04_generated_sound_full_kw _ [] mailsyncKwOk n hn (by intro m hm; cases hm) ?_⟩
  intro k v hm hagg
  simp only [mailsyncKwOk, List.mem_cons, Prod.mk.injEq, List.not_mem_nil, or_false] at hm
  rcases hm with ⟨_, rfl⟩ | ⟨_, rfl⟩ | ⟨_, rfl⟩ | ⟨_, rfl⟩ <;> cases hagg

def leafT (t v : String) : Tree := .node t.toList (some v.toList) none []

/-- a repeated STMTTRN child before the non-repeated DTSTART of BANKTRANLIST -/
def badTranList : List Tree := [] ++ (.node "STMTTRN".toList none none [leafT "TRNTYPE" "CHECK"]) ::
  ([leafT "VENDOR.TAG" "x"] ++ leafT "DTSTART" "20200101" :: [])

theorem banktranlist_cls : schema.cls? ByName.idx_BANKTRANLIST = some ByName.cls_BANKTRANLIST := by rfl

theorem banktranlist_idx : schema.findIdx? "BANKTRANLIST".toList = some ByName.idx_BANKTRANLIST :=
  gen_findIdx ByName.cls_BANKTRANLIST banktranlist_cls rfl

theorem banktranlist_groom : ByName.cls_BANKTRANLIST.groom = none := by decide +kernel

example : ∃ e, fromEtree schema Types.conv (.node "BANKTRANLIST".toList none none badTranList) = .error e :=
  C04_generated_adjacent_out_of_order _ none none [] [leafT "VENDOR.TAG" "x"] [] _ _
    ByName.idx_BANKTRANLIST ByName.cls_BANKTRANLIST 2 0 banktranlist_idx banktranlist_cls banktranlist_groom
    (by
      intro t ht
      simp only [List.mem_singleton] at ht; subst ht
      refine ⟨fun r hr => ?_, Or.inl (by decide)⟩
      rw [banktranlist_groom] at hr; cases hr)
    (by decide) (by decide +kernel) (by decide) (by decide +kernel) (by decide) (by decide +kernel)

example : ∃ e, fromEtree schema Types.conv (.node "BANKTRANLIST".toList none none badTranList) = .error e :=
  C04_generated_out_of_order_mixed _ none none [] [leafT "VENDOR.TAG" "x"] [] _ _
    ByName.idx_BANKTRANLIST ByName.cls_BANKTRANLIST 2 0 banktranlist_idx banktranlist_cls banktranlist_groom
    (by decide) (by decide +kernel) (by decide) (by decide +kernel) (by decide)
    (Or.inr ⟨by decide +kernel, by decide +kernel⟩)

/-- a document the reader accepts; what it returns is valid all the way down -/
def statusDoc : Tree :=
  .node "STATUS".toList none none [leafT "CODE" "0012", leafT "SEVERITY" "INFO"]

theorem statusDoc_accepted :
    accept (fromEtree schema Types.conv statusDoc) Node.isAgg = true := by
  decide +kernel

example : ∃ n, fromEtree schema Types.conv statusDoc = .ok n ∧ ValidFull schema n := by
  obtain ⟨n, hn, _⟩ := ok_of_accept _ _ statusDoc_accepted
  exact ⟨n, hn, C04_generated_sound_full_tree statusDoc n hn⟩

end Ofx.Gen
