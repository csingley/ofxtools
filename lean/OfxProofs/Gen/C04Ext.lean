/-
C04 extension, instantiated for the schema generated from /repo's model classes and the real converters
`Types.conv`.  Every premise that is about the code's data is discharged here by kernel evaluation over
`Generated/Schema.lean`; the recorded exceptions of the order theorem (`Gen.blockExceptions`) stay explicit.
-/
import OfxProofs.Props.C04Ext
import OfxProofs.Gen.C04

namespace Ofx.Gen
open Ofx Ofx.Agg Ofx.WF Ofx.Generated

theorem schema_reqGroupsSupported : schema.classes.all reqGroupsSupportedB = true := by decide +kernel

/-- every group declared anywhere in a generated class's bases is in force for the class (no group is shadowed) -/
theorem schema_declared_in_force :
    schema.classes.all (fun c => c.declOptMutex.all (fun g => c.optMutex.contains g) &&
      c.declReqMutex.all (fun g => c.reqMutex.contains g)) = true := by decide +kernel

theorem schema_ok : SchemaOk schema := fun ci c hc =>
  ⟨gen_spec_nodup ci c hc, reqGroupsSupportedB_sound c (List.all_getElem? schema_reqGroupsSupported hc)⟩

/-- **C04 for the generated schema, tree route**: every instance `from_etree` returns is valid, all the way down -/
theorem C04_generated_sound_full_tree (t : Tree) (n : Node) (h : fromEtree schema Types.conv t = .ok n) :
    ValidFull schema n :=
  C04_sound_full_tree schema schema_ok t n h

/-- **C04 for the generated schema, keyword route**: every instance `Cls(*args, **kwargs)` returns is valid, all the
    way down, given that the instances handed in are (no guard on the arguments) -/
theorem C04_generated_sound_full_kw (ci : Nat) (args : List Node) (kw : List (Str × Node)) (n : Node)
    (h : construct schema Types.conv ci args kw = .ok n)
    (hargs : ∀ m ∈ args, m.isAgg = true → ValidFull schema m)
    (hkw : ∀ k v, (k, v) ∈ kw → v.isAgg = true → ValidFull schema v) : ValidFull schema n :=
  C04_sound_full_kw schema schema_ok ci args kw n h hargs hkw

theorem C04_generated_declared_groups (ci : Nat) (c : Cls) (fields : List (Str × Node)) (items : List Node)
    (h : ValidFull schema (.agg ci fields items)) (hc : schema.cls? ci = some c) :
    (∀ g ∈ c.declOptMutex, mutexCount fields g ≤ 1) ∧ (∀ g ∈ c.declReqMutex, mutexCount fields g = 1) := by
  have hd := List.all_getElem? schema_declared_in_force hc
  simp only [Bool.and_eq_true, List.all_eq_true] at hd
  exact C04_validFull_declared_groups schema ci c fields items h hc
    (fun g hg => by simpa using hd.1 g hg) (fun g hg => by simpa using hd.2 g hg)

/-- **C04 (order, adjacent known children) for the generated schema**: no exception. -/
theorem C04_generated_adjacent_out_of_order (tag : Str) (x tl : Option Str) (pre mid post : List Tree) (a b : Tree)
    (ci : Nat) (c : Cls) (ia ib : Nat)
    (hf : schema.findIdx? tag = some ci) (hc : schema.cls? ci = some c) (hg : c.groom = none)
    (hmid : ∀ t ∈ mid, Unknown c t.tag)
    (hdota : '.' ∉ a.tag) (hia : specIndex c (lower a.tag) = some ia)
    (hdotb : '.' ∉ b.tag) (hib : specIndex c (lower b.tag) = some ib) (hle : ib ≤ ia)
    (hnb : ¬ (isListMember c (lower a.tag) = true ∧ isListMember c (lower b.tag) = true)) :
    ∃ e, fromEtree schema Types.conv (.node tag x tl (pre ++ a :: (mid ++ b :: post))) = .error e :=
  C04_reject_adjacent_out_of_order schema Types.conv tag x tl pre mid post a b ci c ia ib hf hc hg hmid
    hdota hia hdotb hib hle hnb

/-- **C04 (order, any distance) for the generated schema, one of the two children repeated.**  A known child `b`
    anywhere after a known child `a` whose spec position is not smaller is rejected whenever at least one of the two is
    a non-repeated child — the position of that non-repeated child (of `a` if both are) not being one of the three
    recorded exceptions. -/
theorem C04_generated_out_of_order_mixed (tag : Str) (x tl : Option Str) (pre mid post : List Tree) (a b : Tree)
    (ci : Nat) (c : Cls) (ia ib : Nat)
    (hf : schema.findIdx? tag = some ci) (hc : schema.cls? ci = some c) (hg : c.groom = none)
    (hdota : '.' ∉ a.tag) (hia : specIndex c (lower a.tag) = some ia)
    (hdotb : '.' ∉ b.tag) (hib : specIndex c (lower b.tag) = some ib) (hle : ib ≤ ia)
    (hcase : (isListMember c (lower a.tag) = false ∧ (c.name, ia) ∉ blockExceptions) ∨
             (isListMember c (lower b.tag) = false ∧ (c.name, ib) ∉ blockExceptions)) :
    ∃ e, fromEtree schema Types.conv (.node tag x tl (pre ++ a :: (mid ++ b :: post))) = .error e := by
  have hnd := gen_spec_nodup ci c hc
  rcases hcase with ⟨hnla, hxa⟩ | ⟨hnlb, hxb⟩
  · -- `lo = ia`
    refine C04_reject_out_of_order_gen schema Types.conv tag x tl pre mid post a b ci c ia ib ia hf hc hg hnd
      (blockAt_of_schema ci c hc ia _ hia hnla hxa) hle (Nat.le_refl _) hdota hia hdotb hib ?_
    intro hbl
    rcases Nat.lt_or_ge ib ia with h | h
    · exact h
    · -- same position ⇒ same attribute ⇒ same repeatedness
      have heq : ib = ia := by omega
      subst heq
      obtain ⟨a1, h1, hn1, _⟩ := specIndex_get c _ ib hia
      obtain ⟨a2, h2, hn2, _⟩ := specIndex_get c _ ib hib
      rw [h1] at h2; injection h2 with h2; subst h2
      rw [← hn1] at hnla; rw [← hn2] at hbl
      rw [hnla] at hbl; cases hbl
  · -- `lo = ib`
    exact C04_reject_out_of_order_gen schema Types.conv tag x tl pre mid post a b ci c ia ib ib hf hc hg hnd
      (blockAt_of_schema ci c hc ib _ hib hnlb hxb) (Nat.le_refl _) hle hdota hia hdotb hib
      (fun hbl => by rw [hnlb] at hbl; cases hbl)

theorem C04_generated_reject_overlong_string_tree (tag : Str) (x tl : Option Str) (pre post : List Tree)
    (ch : Tree) (ci : Nat) (c : Cls) (a : Attr) (n : Nat) (s : Str)
    (hf : schema.findIdx? tag = some ci) (hc : schema.cls? ci = some c) (hg : c.groom = none)
    (ha : a ∈ c.spec) (hname : a.name = lower ch.tag) (hdot : '.' ∉ ch.tag)
    (hk : a.kind = .string (some n) true) (htext : ch.text = some s) (hlong : n < (unescape s).length) :
    ∃ e, fromEtree schema Types.conv (.node tag x tl (pre ++ ch :: post)) = .error e :=
  C04_reject_overlong_string_tree schema tag x tl pre post ch ci c a n s hf hc hg (gen_spec_nodup ci c hc) ha hname
    hdot hk htext hlong

theorem C04_generated_reject_overlimit_integer_tree (tag : Str) (x tl : Option Str) (pre post : List Tree)
    (ch : Tree) (ci : Nat) (c : Cls) (a : Attr) (n : Nat) (s : Str) (i : Int)
    (hf : schema.findIdx? tag = some ci) (hc : schema.cls? ci = some c) (hg : c.groom = none)
    (ha : a ∈ c.spec) (hname : a.name = lower ch.tag) (hdot : '.' ∉ ch.tag)
    (hk : a.kind = .integer (some n)) (htext : ch.text = some s) (hp : pyIntParse s = some i)
    (hover : 10 ^ n ≤ i.natAbs) :
    ∃ e, fromEtree schema Types.conv (.node tag x tl (pre ++ ch :: post)) = .error e :=
  C04_reject_overlimit_integer_tree schema tag x tl pre post ch ci c a n s i hf hc hg (gen_spec_nodup ci c hc) ha
    hname hdot hk htext hp hover

theorem C04_generated_reject_foreign_token_tree (tag : Str) (x tl : Option Str) (pre post : List Tree)
    (ch : Tree) (ci : Nat) (c : Cls) (a : Attr) (e : Nat) (valid : List Str) (t0 : Char) (ts : Str)
    (hf : schema.findIdx? tag = some ci) (hc : schema.cls? ci = some c) (hg : c.groom = none)
    (ha : a ∈ c.spec) (hname : a.name = lower ch.tag) (hdot : '.' ∉ ch.tag)
    (hk : a.kind = .oneOf e) (he : schema.enums[e]? = some valid) (htext : ch.text = some (t0 :: ts))
    (hforeign : (t0 :: ts) ∉ valid) :
    ∃ e, fromEtree schema Types.conv (.node tag x tl (pre ++ ch :: post)) = .error e :=
  C04_reject_foreign_token_tree schema tag x tl pre post ch ci c a e valid t0 ts hf hc hg (gen_spec_nodup ci c hc) ha
    hname hdot hk he htext hforeign

theorem C04_generated_accept_at_limit_string_kw (ci : Nat) (c : Cls) (args : List Node) (kw : List (Str × Node))
    (a : Attr) (n : Nat) (s : Str) (hc : schema.cls? ci = some c) (ha : a ∈ c.spec)
    (hk : a.kind = .string (some n) true) (hlook : lookup a.name kw = some (.val (.str s))) (hs : s ≠ [])
    (hfit : (unescape s).length ≤ n) (ho : OthersOk schema Types.conv c args kw a) :
    ∃ fields items, construct schema Types.conv ci args kw = .ok (.agg ci fields items) ∧
      lookup a.name fields = some (.val (.str (unescape s))) :=
  C04_accept_at_limit_string_kw schema ci c args kw a n s hc (gen_spec_nodup ci c hc) ha hk hlook hs hfit ho

theorem C04_generated_accept_at_limit_integer_kw (ci : Nat) (c : Cls) (args : List Node) (kw : List (Str × Node))
    (a : Attr) (n : Nat) (i : Int) (w : Node) (hc : schema.cls? ci = some c)
    (ha : a ∈ c.spec) (hk : a.kind = .integer (some n)) (hlook : lookup a.name kw = some w)
    (hw : w = .val (.int i) ∨ ∃ s, w = .val (.str s) ∧ s ≠ [] ∧ pyIntParse s = some i)
    (hfit : i.natAbs < 10 ^ n) (ho : OthersOk schema Types.conv c args kw a) :
    ∃ fields items, construct schema Types.conv ci args kw = .ok (.agg ci fields items) ∧
      lookup a.name fields = some (.val (.int i)) :=
  C04_accept_at_limit_integer_kw schema ci c args kw a n i w hc (gen_spec_nodup ci c hc) ha hk hlook hw hfit ho

theorem C04_generated_accept_member_token_kw (ci : Nat) (c : Cls) (args : List Node) (kw : List (Str × Node))
    (a : Attr) (e : Nat) (valid : List Str) (s : Str) (hc : schema.cls? ci = some c)
    (ha : a ∈ c.spec) (hk : a.kind = .oneOf e) (he : schema.enums[e]? = some valid)
    (hlook : lookup a.name kw = some (.val (.str s))) (hs : s ≠ []) (hmem : s ∈ valid)
    (ho : OthersOk schema Types.conv c args kw a) :
    ∃ fields items, construct schema Types.conv ci args kw = .ok (.agg ci fields items) ∧
      lookup a.name fields = some (.val (.str s)) :=
  C04_accept_member_token_kw schema ci c args kw a e valid s hc (gen_spec_nodup ci c hc) ha hk he hlook hs hmem ho

/-- no class with a hand-coded `validate_args` has a `groom` rename (so `C04_reject_no_member_tree` and the other
    tree-route rule theorems, which assume `groom = none`, apply to all sixteen) -/
theorem schema_extra_no_groom :
    schema.classes.all (fun c => c.extra == .none || (c.groom.isNone && c.extra != .unknown)) = true := by
  decide +kernel

end Ofx.Gen
