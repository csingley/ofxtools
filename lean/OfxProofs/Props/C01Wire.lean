/-
C01 — serialize-then-parse returns the same model: the body-level composition
   from_etree (parse (write (to_etree i))) = i
of C01_agg_roundtrip (with esc = _escape_cdata), `written_wire` (the written tree meets the wire premises),
SER_*_renders_parser (the writers render the escaped tree in the parser's grammar) and C02_complete_doc (the
tokenizer/builder reads every rendering back).
-/
import OfxProofs.Lemmas.Written
import OfxProofs.Props.C02
import OfxModel.Ofx.Pipeline

namespace Ofx.Pipeline
open Ofx Ofx.Agg Ofx.Spec.Wire Ofx.Serialize

theorem escapeTree_eq_mapText : ∀ t, escapeTree t = mapText escapeCdata t := by
  intro t
  induction t using Tree.induct with
  | node tag x tl cs ih =>
    rw [escapeTree, mapText, escapeTreeList_eq_map, mapTextList_eq_map, List.map_congr_left ih]

/-- what `OFXTree.parse` + `convert` do with a message body -/
def readBody (S : Schema) (cv : Conv) (body : Str) : PyM Node :=
  Builder.parse body >>= fun r =>
    match r with
    | none => .error .value
    | some t => fromEtree S cv t

section
variable (S : Schema) (cv : Conv) (he : List Str) (Dom : Kind → Bool → Val → Prop)

theorem readBody_renders (t : Tree) (s : Str) (hr : Spec.RendersDoc true t s) : readBody S cv s = fromEtree S cv t := by
  simp only [readBody, C02.C02_complete_doc t s hr, PyM.ok_bind]

/-- the body half of C01 for every form the library writes -/
theorem written_readBody (laws : ConvLaws cv S.enums escapeCdata Dom) (htext : TextOk S cv Dom)
    (htag : ∀ ci c, S.cls? ci = some c → c.abstract = false → TagWF he c)
    (i : Node) (hv : Valid S cv escapeCdata Dom i) :
    ∃ t, toEtree S cv i = .ok t ∧ wireTree t = true ∧ htmlSafe he t = true ∧ g3Ok t = true ∧
      ∀ s, Spec.RendersDoc true (escapeTree t) s → readBody S cv s = .ok i := by
  obtain ⟨t, ht, hback⟩ := C01_agg_roundtrip S cv escapeCdata Dom laws i hv
  obtain ⟨hw, hs, hg⟩ := written_wire S cv escapeCdata Dom he laws htext htag i hv t ht
  exact ⟨t, ht, hw, hs, hg, fun s hr => by rw [readBody_renders S cv _ s hr, escapeTree_eq_mapText]; exact hback⟩

/-- C01, closed forms (XML / SGML with end tags; plain and pretty-printed): the body the library writes
    for a valid instance reads back to that instance. -/
theorem C01_body_roundtrip_closed (laws : ConvLaws cv S.enums escapeCdata Dom) (htext : TextOk S cv Dom)
    (htag : ∀ ci c, S.cls? ci = some c → c.abstract = false → TagWF he c)
    (i : Node) (hv : Valid S cv escapeCdata Dom i) (pretty : Bool) :
    ∃ t, toEtree S cv i = .ok t ∧ readBody S cv (serializeBody he true pretty t) = .ok i := by
  obtain ⟨t, ht, hw, hs, hg, hread⟩ := written_readBody S cv he Dom laws htext htag i hv
  exact ⟨t, ht, hread _ (SER_html_renders_parser_strict he t pretty hw hs hg)⟩

/-- C01, unclosed SGML form (`tostring_unclosed_elements`, `close_elements=False`; plain and pretty-printed), for
    instances whose written tree has no childless aggregate (known finding `unclosed-empty-aggregate-no-end-tag`). -/
theorem C01_body_roundtrip_unclosed_partial (laws : ConvLaws cv S.enums escapeCdata Dom)
    (htext : TextOk S cv Dom) (htag : ∀ ci c, S.cls? ci = some c → c.abstract = false → TagWF he c)
    (i : Node) (hv : Valid S cv escapeCdata Dom i) (pretty : Bool) :
    ∃ t, toEtree S cv i = .ok t ∧
      (unclosedGuard t = true → readBody S cv (serializeBody he false pretty t) = .ok i) := by
  obtain ⟨t, ht, hw, _, hg, hread⟩ := written_readBody S cv he Dom laws htext htag i hv
  exact ⟨t, ht, fun hu => hread _ (SER_unclosed_renders_parser_partial he t pretty true hw hu (fun _ => hg))⟩

end
end Ofx.Pipeline
