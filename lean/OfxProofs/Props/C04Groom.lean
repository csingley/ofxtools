/-
C04 — the tree-route rejections for every class, the three whose reader renames a child included
(`groom`: STOCKINFO / MFINFO `YIELD→YLD`, MAIL `FROM→FRM`).

The rejection theorems here have no premise on `c.groom`.  A child `ch` standing after the children `pre` is read
under its *effective tag* `(effTag c (renamedAfter c false pre) ch.tag).1` (`Spec/DocValues.lean`): the class's rename
target for the first child carrying the source tag, its own tag otherwise.  The statements name that tag `etag`.  With
`c.groom = none` the effective tag is the child's own (`C04_effTag_noGroom`): the per-type rejections and the
required-child, duplicate-child and order theorems of Props/C04Ext.lean that assume `c.groom = none` are the special
case (its acceptance and group theorems, and those about single hand-coded rules, are proved there directly).
-/
import OfxProofs.Lemmas.C04Ext

namespace Ofx.Agg
open Ofx Ofx.Spec Ofx.Types

/-- no rename hook: every child is read under its own tag -/
theorem C04_effTag_noGroom (c : Cls) (hg : c.groom = none) (pre : List Tree) (ch : Tree) :
    (effTag c (renamedAfter c false pre) ch.tag).1 = ch.tag := by
  rw [effTag_noGroom c hg]

/-- the first child carrying the source tag of the class's rename is read under the target tag -/
theorem C04_effTag_renamed (c : Cls) (r : Rename) (hg : c.groom = some r) (pre : List Tree) (ch : Tree)
    (hpre : ∀ t ∈ pre, t.tag ≠ r.fromTag) (hch : ch.tag = r.fromTag) :
    (effTag c (renamedAfter c false pre) ch.tag).1 = r.toTag :=
  effTag_hit c r hg pre ch hpre hch

/-- a child not carrying the source tag is read under its own tag -/
theorem C04_effTag_not_source (c : Cls) (r : Rename) (hg : c.groom = some r) (pre : List Tree) (ch : Tree)
    (hch : ch.tag ≠ r.fromTag) : (effTag c (renamedAfter c false pre) ch.tag).1 = ch.tag :=
  effTag_other c r hg _ _ hch

/-- **C04 (maximum string length, tree route, any class).**  A child read under the tag `etag` of a strict
    `String(n)` attribute whose text — after entity decoding — is longer than `n` makes the document rejected. -/
theorem C04_reject_overlong_string_groom_tree (S : Schema) (tag : Str) (x tl : Option Str) (pre post : List Tree)
    (ch : Tree) (ci : Nat) (c : Cls) (a : Attr) (n : Nat) (s etag : Str)
    (hf : S.findIdx? tag = some ci) (hc : S.cls? ci = some c) (hnd : (c.spec.map (·.name)).Nodup)
    (het : (effTag c (renamedAfter c false pre) ch.tag).1 = etag)
    (ha : a ∈ c.spec) (hname : a.name = lower etag) (hdot : '.' ∉ etag)
    (hk : a.kind = .string (some n) true) (htext : ch.text = some s) (hlong : n < (unescape s).length) :
    ∃ e, fromEtree S Types.conv (.node tag x tl (pre ++ ch :: post)) = .error e := by
  subst het
  cases s with
  | nil => simp [unescape_nil] at hlong
  | cons t0 ts =>
    apply fromEtree_error_of_setAttr_eff S Types.conv tag x tl pre post ch ci c a t0 ts hf hc hnd ha hname hdot
      (by simp [hk, Kind.isList]) (by simp [hk, Kind.isUnsupported]) htext
    rw [setAttr_string_text S a _ _ _ hk (by simp)]
    exact ⟨.spec, by simp [fits]; omega⟩

theorem C04_reject_overlimit_integer_groom_tree (S : Schema) (tag : Str) (x tl : Option Str)
    (pre post : List Tree) (ch : Tree) (ci : Nat) (c : Cls) (a : Attr) (n : Nat) (s etag : Str) (i : Int)
    (hf : S.findIdx? tag = some ci) (hc : S.cls? ci = some c) (hnd : (c.spec.map (·.name)).Nodup)
    (het : (effTag c (renamedAfter c false pre) ch.tag).1 = etag)
    (ha : a ∈ c.spec) (hname : a.name = lower etag) (hdot : '.' ∉ etag)
    (hk : a.kind = .integer (some n)) (htext : ch.text = some s) (hp : pyIntParse s = some i)
    (hover : 10 ^ n ≤ i.natAbs) :
    ∃ e, fromEtree S Types.conv (.node tag x tl (pre ++ ch :: post)) = .error e := by
  subst het
  cases s with
  | nil => rw [show pyIntParse ([] : Str) = none from by decide] at hp; cases hp
  | cons t0 ts =>
    apply fromEtree_error_of_setAttr_eff S Types.conv tag x tl pre post ch ci c a t0 ts hf hc hnd ha hname hdot
      (by simp [hk, Kind.isList]) (by simp [hk, Kind.isUnsupported]) htext
    rw [setAttr_integer_text S a _ _ i hk (by simp) hp, setAttr_integer_int S a _ i hk]
    exact ⟨.spec, by simp [hover]⟩

theorem C04_reject_foreign_token_groom_tree (S : Schema) (tag : Str) (x tl : Option Str) (pre post : List Tree)
    (ch : Tree) (ci : Nat) (c : Cls) (a : Attr) (e : Nat) (valid : List Str) (t0 : Char) (ts etag : Str)
    (hf : S.findIdx? tag = some ci) (hc : S.cls? ci = some c) (hnd : (c.spec.map (·.name)).Nodup)
    (het : (effTag c (renamedAfter c false pre) ch.tag).1 = etag)
    (ha : a ∈ c.spec) (hname : a.name = lower etag) (hdot : '.' ∉ etag)
    (hk : a.kind = .oneOf e) (he : S.enums[e]? = some valid) (htext : ch.text = some (t0 :: ts))
    (hforeign : (t0 :: ts) ∉ valid) :
    ∃ e, fromEtree S Types.conv (.node tag x tl (pre ++ ch :: post)) = .error e := by
  subst het
  apply fromEtree_error_of_setAttr_eff S Types.conv tag x tl pre post ch ci c a t0 ts hf hc hnd ha hname hdot
    (by simp [hk, Kind.isList]) (by simp [hk, Kind.isUnsupported]) htext
  rw [setAttr_oneOf_text S a e valid _ hk he (by simp)]
  exact ⟨.spec, by simp [hforeign]⟩

/-- **C04 (required child omitted, tree route, any class).**  A document none of whose children is *read under* the
    tag of a required sub-aggregate, or of a required data element whose converter refuses `None`, is rejected. -/
theorem C04_reject_required_omitted_groom_tree (S : Schema) (cv : Conv) (tag : Str) (x tl : Option Str)
    (children : List Tree) (ci : Nat) (c : Cls) (a : Attr)
    (hf : S.findIdx? tag = some ci) (hc : S.cls? ci = some c)
    (ha : a ∈ c.spec) (hl : a.kind.isList = false) (hu : a.kind.isUnsupported = false) (hreq : a.required = true)
    (hcv : Kind.subTarget a.kind = none → ∃ e, cv.convert S.enums a.kind true .none = .error e)
    (hno : ∀ pre ch post, children = pre ++ ch :: post →
      lower (effTag c (renamedAfter c false pre) ch.tag).1 ≠ a.name) :
    ∃ e, fromEtree S cv (.node tag x tl children) = .error e := by
  apply fromEtree_error_of_construct S cv tag x tl children ci c hf hc
  intro acc hfold
  exact construct_error_of_required_absent S cv ci c acc.args acc.kwargs a hc ha hl hu hreq hcv
    (not_present_of_no_effTag S cv c children acc a.name hno hfold)

theorem C04_reject_required_omitted_conv_groom_tree (S : Schema) (tag : Str) (x tl : Option Str)
    (children : List Tree) (ci : Nat) (c : Cls) (a : Attr) (hf : S.findIdx? tag = some ci)
    (hc : S.cls? ci = some c) (ha : a ∈ c.spec) (hl : a.kind.isList = false)
    (hu : a.kind.isUnsupported = false) (hreq : a.required = true)
    (hno : ∀ pre ch post, children = pre ++ ch :: post →
      lower (effTag c (renamedAfter c false pre) ch.tag).1 ≠ a.name) :
    ∃ e, fromEtree S Types.conv (.node tag x tl children) = .error e :=
  C04_reject_required_omitted_groom_tree S Types.conv tag x tl children ci c a hf hc ha hl hu hreq
    (fun hst => conv_required_none S.enums a.kind hl hu hst) hno

/-- **C04 (at most one occurrence of a non-repeatable child, tree route, any class).**  A document in which two
    children are read under the same known, non-repeated tag is rejected — e.g. a `YIELD` and a `YLD` child of
    STOCKINFO, in either order. -/
theorem C04_reject_duplicate_child_groom (S : Schema) (cv : Conv) (tag : Str) (x tl : Option Str)
    (pre mid post : List Tree) (a b : Tree) (ci : Nat) (c : Cls) (idx : Nat) (etag : Str)
    (hf : S.findIdx? tag = some ci) (hc : S.cls? ci = some c)
    (heta : (effTag c (renamedAfter c false pre) a.tag).1 = etag)
    (hetb : (effTag c (renamedAfter c false (pre ++ a :: mid)) b.tag).1 = etag)
    (hdot : '.' ∉ etag) (hidx : specIndex c (lower etag) = some idx)
    (hnl : isListMember c (lower etag) = false) :
    ∃ e, fromEtree S cv (.node tag x tl (pre ++ a :: (mid ++ b :: post))) = .error e := by
  apply fromEtree_error_of_two S cv tag x tl pre mid post a b ci c hf hc
  intro acc0 acc2 acc1 hr0 hu hmid hr1
  rw [updateArgs_eff c acc0 a _ _ etag hr0 heta hdot] at hu
  rw [updateArgs_eff c acc1 b _ _ etag hr1 hetb hdot]
  exact stepCore_dup_error c _ etag _ idx hidx hnl
    (foldChildren_hasKey c mid _ acc2 acc1 hmid _ (stepCore_known_key c _ acc2 etag _ idx hidx hnl hu))

/-- **C04 (order, tree route, adjacent children, any class).**  Let `a` and `b` be two children read under known
    tags `eta`, `etb`, with only children the class does not know between them.  If `etb`'s spec position is not
    greater than `eta`'s, the document is rejected — unless both are repeated (list-member) children. -/
theorem C04_reject_adjacent_out_of_order_groom (S : Schema) (cv : Conv) (tag : Str) (x tl : Option Str)
    (pre mid post : List Tree) (a b : Tree) (ci : Nat) (c : Cls) (ia ib : Nat) (eta etb : Str)
    (hf : S.findIdx? tag = some ci) (hc : S.cls? ci = some c)
    (hmid : ∀ t ∈ mid, Unknown c t.tag)
    (heta : (effTag c (renamedAfter c false pre) a.tag).1 = eta)
    (hetb : (effTag c (renamedAfter c false (pre ++ a :: mid)) b.tag).1 = etb)
    (hdota : '.' ∉ eta) (hia : specIndex c (lower eta) = some ia)
    (hdotb : '.' ∉ etb) (hib : specIndex c (lower etb) = some ib) (hle : ib ≤ ia)
    (hnb : ¬ (isListMember c (lower eta) = true ∧ isListMember c (lower etb) = true)) :
    ∃ e, fromEtree S cv (.node tag x tl (pre ++ a :: (mid ++ b :: post))) = .error e := by
  apply fromEtree_error_of_two S cv tag x tl pre mid post a b ci c hf hc
  intro acc0 acc2 acc1 hr0 hu hm hr1
  rw [foldChildren_unknown c mid _ acc2 hmid] at hm
  injection hm with hm; subst hm
  rw [updateArgs_eff c acc0 a _ _ eta hr0 heta hdota] at hu
  obtain ⟨hp2, hl2⟩ := stepCore_prev c _ acc2 eta _ ia hia hu
  rw [updateArgs_eff c acc2 b _ _ etb hr1 hetb hdotb]
  exact ⟨.spec, stepCore_order_error c _ etb _ ib ia hib hp2 hle
    (fun ⟨h1, h2⟩ => hnb ⟨by rw [← hl2]; exact h2, h1⟩)⟩

/-- **C04 (order, tree route, any distance, any class).**  A child `b` read under a known tag anywhere after a child
    `a` read under a known tag whose spec position is not smaller is rejected — whatever stands before, between and
    after them — when some position `lo` between the two (`ib ≤ lo ≤ ia`) is one around which the class's list block
    is not interleaved, and `b`, if it is a repeated child, lies strictly before `lo`. -/
theorem C04_reject_out_of_order_groom (S : Schema) (cv : Conv) (tag : Str) (x tl : Option Str)
    (pre mid post : List Tree) (a b : Tree) (ci : Nat) (c : Cls) (ia ib lo : Nat) (eta etb : Str)
    (hf : S.findIdx? tag = some ci) (hc : S.cls? ci = some c)
    (hnd : (c.spec.map (·.name)).Nodup) (hblock : BlockAt c lo) (hlo1 : ib ≤ lo) (hlo2 : lo ≤ ia)
    (heta : (effTag c (renamedAfter c false pre) a.tag).1 = eta)
    (hetb : (effTag c (renamedAfter c false (pre ++ a :: mid)) b.tag).1 = etb)
    (hdota : '.' ∉ eta) (hia : specIndex c (lower eta) = some ia)
    (hdotb : '.' ∉ etb) (hib : specIndex c (lower etb) = some ib)
    (hbl : isListMember c (lower etb) = true → ib < lo) :
    ∃ e, fromEtree S cv (.node tag x tl (pre ++ a :: (mid ++ b :: post))) = .error e := by
  apply fromEtree_error_of_two S cv tag x tl pre mid post a b ci c hf hc
  intro acc0 acc2 acc1 hr0 hu hm hr1
  rw [updateArgs_eff c acc0 a _ _ eta hr0 heta hdota] at hu
  obtain ⟨hp2, hl2⟩ := stepCore_prev c _ acc2 eta _ ia hia hu
  obtain ⟨aa, haa, han, ham⟩ := specIndex_get c _ ia hia
  have hinv2 : PrevGe c lo acc2 :=
    ⟨ia, hp2, hlo2, fun hf => ⟨aa, haa, listMember_isList c aa ham hnd (by rw [han, ← hl2]; exact hf)⟩⟩
  obtain ⟨p, hp1, hlo, hpl⟩ := foldChildren_prevGe c hnd lo hblock mid _ acc2 acc1 hm hinv2
  rw [updateArgs_eff c acc1 b _ _ etb hr1 hetb hdotb]
  refine ⟨.spec, stepCore_order_error c _ etb _ ib p hib hp1 (by omega) ?_⟩
  rintro ⟨hbm, hpil⟩
  obtain ⟨ap, hap, hapl⟩ := hpl hpil
  obtain ⟨ab, hab, habn, habm⟩ := specIndex_get c _ ib hib
  have habl : ab.kind.isList = true := listMember_isList c ab habm hnd (by rw [habn]; exact hbm)
  have := hblock ib p ab ap hab habl (hbl hbm) hap hapl
  omega

end Ofx.Agg

/-! ## non-vacuity: the guards above are satisfiable by a class WITH a rename (`YIELD→YLD`); the any-distance order
    theorem `C04_reject_out_of_order_groom` has no example of its own, its instances without a rename are in
    Gen/C04ExtW.lean -/

namespace Ofx.Agg.C04GroomEx
open Ofx Ofx.Agg Ofx.Spec Ofx.Types Ofx.Agg.C04ExtEx

/-- `G k`: a required `String(3)` `a`, then `yld` of kind `k`, read from a `YIELD` child (as STOCKINFO does) -/
def clsG (k : Kind) : Cls :=
  { mkCls "G" [⟨"a".toList, .string (some 3) true, true⟩, ⟨"yld".toList, k, true⟩] [] .none with
    groom := some ⟨"YIELD".toList, "YLD".toList⟩, ungroom := some ⟨"YLD".toList, "YIELD".toList⟩ }

def exG (k : Kind) : Schema := { classes := [clsG k], enums := [["X".toList, "Y".toList]] }

example (k : Kind) : (clsG k).groom ≠ none := by simp [clsG]

example (k : Kind) : (effTag (clsG k) (renamedAfter (clsG k) false [leaf "A" "abc"]) "YIELD".toList).1 = "YLD".toList :=
  C04_effTag_renamed (clsG k) _ rfl [leaf "A" "abc"] (leaf "YIELD" "1") (by decide +kernel) rfl

example : ∃ e, fromEtree (exG (.string (some 2) true)) Types.conv
    (.node "G".toList none none ([leaf "A" "abc"] ++ leaf "YIELD" "abc" :: [])) = .error e :=
  C04_reject_overlong_string_groom_tree (exG (.string (some 2) true)) _ none none [leaf "A" "abc"] []
    (leaf "YIELD" "abc") 0 (clsG (.string (some 2) true)) ⟨"yld".toList, .string (some 2) true, true⟩ 2
    "abc".toList "YLD".toList rfl rfl (by decide +kernel) (by decide +kernel) (by simp [clsG, mkCls]) (by decide +kernel) (by decide +kernel)
    rfl rfl (by decide +kernel)

example : ∃ e, fromEtree (exG (.integer (some 2))) Types.conv
    (.node "G".toList none none ([leaf "A" "abc"] ++ leaf "YIELD" "100" :: [])) = .error e :=
  C04_reject_overlimit_integer_groom_tree (exG (.integer (some 2))) _ none none [leaf "A" "abc"] []
    (leaf "YIELD" "100") 0 (clsG (.integer (some 2))) ⟨"yld".toList, .integer (some 2), true⟩ 2
    "100".toList "YLD".toList 100 rfl rfl (by decide +kernel) (by decide +kernel) (by simp [clsG, mkCls]) (by decide +kernel) (by decide +kernel)
    rfl rfl (by decide +kernel) (by decide +kernel)

example : ∃ e, fromEtree (exG (.oneOf 0)) Types.conv
    (.node "G".toList none none ([leaf "A" "abc"] ++ leaf "YIELD" "W" :: [])) = .error e :=
  C04_reject_foreign_token_groom_tree (exG (.oneOf 0)) _ none none [leaf "A" "abc"] []
    (leaf "YIELD" "W") 0 (clsG (.oneOf 0)) ⟨"yld".toList, .oneOf 0, true⟩ 0 _ 'W' [] "YLD".toList
    rfl rfl (by decide +kernel) (by decide +kernel) (by simp [clsG, mkCls]) (by decide +kernel) (by decide +kernel) rfl rfl rfl (by decide +kernel)

/-- the guard of the required-child theorem: no child of `<G><A>abc</A></G>` is read under `YLD` -/
theorem noYld : ∀ pre ch post, [leaf "A" "abc"] = pre ++ ch :: post →
    lower (effTag (clsG (.integer (some 2))) (renamedAfter (clsG (.integer (some 2))) false pre) ch.tag).1 ≠
      "yld".toList := by
  intro pre ch post h
  cases pre with
  | nil =>
    simp only [List.nil_append, List.cons.injEq] at h
    obtain ⟨rfl, _⟩ := h
    decide
  | cons p pre => simp at h

/-- required child omitted: `<G><A>abc</A></G>` lacks the required `yld` (neither a `YIELD` nor a `YLD` child) -/
example : ∃ e, fromEtree (exG (.integer (some 2))) Types.conv
    (.node "G".toList none none [leaf "A" "abc"]) = .error e :=
  C04_reject_required_omitted_conv_groom_tree (exG (.integer (some 2))) _ none none _ 0 (clsG (.integer (some 2)))
    ⟨"yld".toList, .integer (some 2), true⟩ rfl rfl (by simp [clsG, mkCls]) rfl rfl rfl noYld

/-- duplicate: a `YIELD` child (read as `YLD`) and a `YLD` child -/
example : ∃ e, fromEtree (exG (.integer (some 2))) Types.conv
    (.node "G".toList none none ([leaf "A" "abc"] ++ leaf "YIELD" "1" :: ([] ++ leaf "YLD" "2" :: []))) = .error e :=
  C04_reject_duplicate_child_groom (exG (.integer (some 2))) Types.conv _ none none [leaf "A" "abc"] [] []
    (leaf "YIELD" "1") (leaf "YLD" "2") 0 (clsG (.integer (some 2))) 1 "YLD".toList rfl rfl (by decide +kernel) (by decide +kernel)
    (by decide +kernel) (by decide +kernel) (by decide +kernel)

/-- order: the `YIELD` child (read as `YLD`, position 1) before `A` (position 0) -/
example : ∃ e, fromEtree (exG (.integer (some 2))) Types.conv
    (.node "G".toList none none ([] ++ leaf "YIELD" "1" :: ([leaf "ZZ" "u"] ++ leaf "A" "abc" :: []))) = .error e :=
  C04_reject_adjacent_out_of_order_groom (exG (.integer (some 2))) Types.conv _ none none [] [leaf "ZZ" "u"] []
    (leaf "YIELD" "1") (leaf "A" "abc") 0 (clsG (.integer (some 2))) 1 0 "YLD".toList "A".toList rfl rfl
    (by
      intro t ht
      simp only [List.mem_singleton] at ht; subst ht
      exact ⟨fun r hr => by simp [clsG] at hr; subst hr; decide, Or.inr (by decide +kernel)⟩)
    (by decide +kernel) (by decide +kernel) (by decide +kernel) (by decide +kernel) (by decide +kernel) (by decide +kernel) (by decide +kernel) (by decide +kernel)

end Ofx.Agg.C04GroomEx
