/-
C13 — every child a model class declares is written under its tag and read back into the same attribute.

The property quantifies over a finite table (the generated classes); the static clauses are decided by kernel
evaluation (Gen/WF.lean) and the probe per declared child is exhaustive (harness/corr/C13.py).  The theorems here
connect the two: for every class that satisfies the static clauses, *every* valid instance writes every child it
holds under that child's tag and the library's reader returns the same instance — corollaries of the aggregate
round trip (C01) and of the origin theorems of C03.
-/
import OfxProofs.Props.C03Sub
import OfxProofs.Props.C01
namespace Ofx.Agg
open Ofx

theorem mem_mapTextList (f : Str → Str) (cs : List Tree) (ch' : Tree) (h : ch' ∈ mapTextList f cs) :
    ∃ ch ∈ cs, ch'.tag = ch.tag := by
  rw [mapTextList_eq_map, List.mem_map] at h
  obtain ⟨ch, hch, rfl⟩ := h
  exact ⟨ch, hch, by cases ch; rfl⟩

/-- **C13 (every child a valid instance holds is written under its tag and read back).** For a valid
    instance of a class that satisfies the static clauses, every non-`None` value held under a non-repeated
    attribute `n` is written as a child whose tag lower-cases to `n`, and the library's reader converts the
    written tree back into the very same instance (so the child is read back into the same attribute).  (`hplain`:
    the three classes with a `groom` rename write that one child under the renamed tag by design.) -/
theorem C13_child_written_and_read (S : Schema) (cv : Conv) (esc : Str → Str)
    (Dom : Kind → Bool → Val → Prop) (laws : ConvLaws cv S.enums esc Dom)
    (hnone : ∀ k r v, cv.convert S.enums k r .none = .ok v → v = .none)
    (ci : Nat) (fields : List (Str × Node)) (items : List Node)
    (hv : Valid S cv esc Dom (.agg ci fields items))
    (hplain : ∀ c, S.cls? ci = some c → c.groom = none)
    (n : Str) (w : Node) (hm : (n, w) ∈ fields) (hw : w ≠ .val .none) :
    ∃ tag x tl children, toEtree S cv (.agg ci fields items) = .ok (.node tag x tl children) ∧
      fromEtree S cv (mapText esc (.node tag x tl children)) = .ok (.agg ci fields items) ∧
      ∃ ch ∈ children, lower ch.tag = n ∧ '.' ∉ ch.tag := by
  obtain ⟨t, ht, hrt⟩ := C01_agg_roundtrip S cv esc Dom laws _ hv
  obtain ⟨⟨c, ok⟩, _, _⟩ := hv
  cases t with
  | node tag x tl children =>
    refine ⟨tag, x, tl, children, ht, hrt, ?_⟩
    have hshape := toEtree_shape S cv ci fields items c _ ok.hc ht
    simp only [Tree.tag] at hshape
    simp only [mapText] at hrt
    obtain ⟨a, _, _, ch', hch', hd, hl, _⟩ := C03_nothing_invented S cv tag (x.map esc) tl
      (mapTextList esc children) ci c fields items ci (by rw [hshape.1]; exact ok.hfind) ok.hc (hplain c ok.hc)
      ok.wf.nodup hnone hrt n w hm hw
    obtain ⟨ch, hch, htag⟩ := mem_mapTextList esc children ch' hch'
    exact ⟨ch, hch, by rw [← htag]; exact hl, by rw [← htag]; exact hd⟩

/-- **C13 (repeated members are written under a repeated attribute's tag and read back).** -/
theorem C13_member_written_and_read (S : Schema) (cv : Conv) (esc : Str → Str)
    (Dom : Kind → Bool → Val → Prop) (laws : ConvLaws cv S.enums esc Dom)
    (ci : Nat) (fields : List (Str × Node)) (items : List Node)
    (hv : Valid S cv esc Dom (.agg ci fields items))
    (hplain : ∀ c, S.cls? ci = some c → c.groom = none) (m : Node) (hm : m ∈ items) :
    ∃ c tag x tl children, S.cls? ci = some c ∧ toEtree S cv (.agg ci fields items) = .ok (.node tag x tl children) ∧
      fromEtree S cv (mapText esc (.node tag x tl children)) = .ok (.agg ci fields items) ∧
      ∃ ch ∈ children, isListMember c (lower ch.tag) = true ∧ '.' ∉ ch.tag := by
  obtain ⟨t, ht, hrt⟩ := C01_agg_roundtrip S cv esc Dom laws _ hv
  obtain ⟨⟨c, ok⟩, _, _⟩ := hv
  cases t with
  | node tag x tl children =>
    refine ⟨c, tag, x, tl, children, ok.hc, ht, hrt, ?_⟩
    have hshape := toEtree_shape S cv ci fields items c _ ok.hc ht
    simp only [Tree.tag] at hshape
    simp only [mapText] at hrt
    obtain ⟨ch', hch', hd, hl, _⟩ := C03_members_from_children S cv tag (x.map esc) tl
      (mapTextList esc children) ci c fields items ci (by rw [hshape.1]; exact ok.hfind) ok.hc (hplain c ok.hc)
      hrt m hm
    obtain ⟨ch, hch, htag⟩ := mem_mapTextList esc children ch' hch'
    exact ⟨ch, hch, by rw [← htag]; exact hl, by rw [← htag]; exact hd⟩

end Ofx.Agg
