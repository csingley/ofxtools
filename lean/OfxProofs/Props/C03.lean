/-
C03, one nesting level, by the children's tags: where every keyword and positional argument the reader's fold collects
comes from, for every class (`Spec.effTag` applies the class's one-off rename); for the classes that rename nothing
(`groom = none`) the repeated members exactly and in document order.  Generic in the schema and the converters.  Data
elements and sub-aggregates: Props/C03Sub.lean; every class and whole documents: Props/C03Deep.lean.  The C04 files
after Props/C04.lean rest on this one: `applyOne` (Lemmas/C03Deep.lean), `foldChildren_origin_eff`
(Lemmas/C04Groom.lean) and `SuppliedBy` (Props/C04Ext.lean) are taken from here.
-/
import OfxProofs.Props.C04
import OfxModel.Spec.DocValues
namespace Ofx.Agg
open Ofx
open Ofx.Spec (effTag)

/-- the child `ch` standing after `pre`, read under its effective tag, supplied `raw`: as a positional argument
    (`list = true`) or under the keyword `n` -/
def SuppliedBy (S : Schema) (cv : Conv) (c : Cls) (rn : Bool) (pre : List Tree) (ch : Tree) (raw : Node) (list : Bool)
    (n : Str) : Prop :=
  '.' ∉ (effTag c (renamedAfter c rn pre) ch.tag).1 ∧ lower (effTag c (renamedAfter c rn pre) ch.tag).1 = n ∧
    isListMember c n = list ∧ ∃ idx, specIndex c n = some idx ∧
      (if unsupportedAt c idx then raw = .val .none else childValue ch (fromEtree S cv ch) = .ok raw)

theorem foldChildren_origin_eff (S : Schema) (cv : Conv) (c : Cls) : ∀ (ts : List Tree) (acc acc' : Accum),
    foldChildren c ts (childInsts S cv ts) acc = .ok acc' →
    (∀ n raw, (n, raw) ∈ acc'.kwargs → (n, raw) ∈ acc.kwargs ∨
      ∃ pre ch post, ts = pre ++ ch :: post ∧ SuppliedBy S cv c acc.renamed pre ch raw false n) ∧
    (∀ m, m ∈ acc'.args → m ∈ acc.args ∨
      ∃ pre ch post n, ts = pre ++ ch :: post ∧ SuppliedBy S cv c acc.renamed pre ch m true n)
  | [], acc, acc', h => by
    injection h with h; subst h
    exact ⟨fun _ _ hm => Or.inl hm, fun _ hm => Or.inl hm⟩
  | t :: ts, acc, acc', h => by
    obtain ⟨acc1, hu, h⟩ := PyM.bind_ok (f := foldChildren c ts (childInsts S cv ts)) h
    obtain ⟨ihk, iha⟩ := foldChildren_origin_eff S cv c ts acc1 acc' h
    obtain ⟨hrn, hstep⟩ := updateArgs_eff_ok hu
    rw [hrn] at ihk iha
    have lift : ∀ {raw l n}, (∃ pre ch post, ts = pre ++ ch :: post ∧
        SuppliedBy S cv c (effTag c acc.renamed t.tag).2 pre ch raw l n) →
        ∃ pre ch post, t :: ts = pre ++ ch :: post ∧ SuppliedBy S cv c acc.renamed pre ch raw l n := by
      rintro _ _ _ ⟨pre, ch, post, rfl, hs⟩
      exact ⟨t :: pre, ch, post, rfl, hs⟩
    constructor
    · intro n raw hm
      rcases ihk n raw hm with h1 | h1
      · rcases hstep with ⟨hk, _⟩ | ⟨idx, r, hd, hidx, hv, ⟨_, hk, _⟩ | ⟨hl, _, hk, _⟩⟩
        · exact Or.inl (hk ▸ h1)
        · exact Or.inl (hk ▸ h1)
        · rw [hk] at h1
          rcases List.mem_append.mp h1 with h1 | h1
          · exact Or.inl h1
          · obtain ⟨rfl, rfl⟩ := Prod.mk.inj (List.mem_singleton.mp h1)
            exact Or.inr ⟨[], t, ts, rfl, hd, rfl, hl, idx, hidx, hv⟩
      · exact Or.inr (lift h1)
    · intro m hm
      rcases iha m hm with h1 | ⟨pre, ch, post, n, h1⟩
      · rcases hstep with ⟨_, ha, _⟩ | ⟨idx, r, hd, hidx, hv, ⟨hl, _, ha⟩ | ⟨_, _, _, ha⟩⟩
        · exact Or.inl (ha ▸ h1)
        · rw [ha] at h1
          rcases List.mem_append.mp h1 with h1 | h1
          · exact Or.inl h1
          · rw [List.mem_singleton.mp h1]
            exact Or.inr ⟨[], t, ts, _, rfl, hd, rfl, hl, idx, hidx, hv⟩
        · exact Or.inl (ha ▸ h1)
      · obtain ⟨pre', ch', post', he, hs⟩ := lift ⟨pre, ch, post, h1⟩
        exact Or.inr ⟨pre', ch', post', n, he, hs⟩

/-- what `_apply_args` makes of one positional argument: the member itself if it is an instance of a list
    class (plain aggregate), the list element's conversion of it (`ElementList`) -/
def applyOne (S : Schema) (cv : Conv) (c : Cls) (raw : Node) : PyM Node :=
  if c.elementList then
    match c.spec.filter (fun a => a.kind.isListElem) with
    | [a] =>
      match a.kind with
      | .listElem inner ireq => (cv.convert S.enums inner ireq (Node.toVal raw)).map Node.val
      | _ => .error .assert
    | _ => .error .assert
  else applyArg S c raw

theorem applyArgs_mapM (S : Schema) (cv : Conv) (c : Cls) (args items : List Node)
    (h : applyArgs S cv c args = .ok items) : args.mapM (m := PyM) (applyOne S cv c) = .ok items := by
  cases hel : c.elementList with
  | false =>
    have : applyOne S cv c = applyArg S c := by funext r; simp [applyOne, hel]
    rw [this, ← applyArgs_plain args hel]; exact h
  | true =>
    obtain ⟨a, inner, ireq, hf, hk, _⟩ := (applyArgs_ok h).2.2 hel
    have : applyOne S cv c = fun m => (cv.convert S.enums inner ireq (Node.toVal m)).map Node.val := by
      funext r; simp [applyOne, hel, hf, hk]
    rw [this, ← applyArgs_el args hel hf hk]; exact h

/-- C03 (repeated members: nothing invented): every member of an accepted document's instance is what `_apply_args`
    makes (`applyOne`) of the value of a child of the document carrying the tag of a repeated attribute — of `None`
    (`raw = .val .none`) where that attribute is in `cls.unsupported`. -/
theorem C03_members_from_children (S : Schema) (cv : Conv) (tag : Str) (x tl : Option Str)
    (children : List Tree) (ci : Nat) (c : Cls) (fields : List (Str × Node)) (items : List Node) (cj : Nat)
    (hfind : S.findIdx? tag = some ci) (hcls : S.cls? ci = some c) (hg : c.groom = none)
    (h : fromEtree S cv (.node tag x tl children) = .ok (.agg cj fields items)) (m : Node) (hm : m ∈ items) :
    ∃ ch ∈ children, '.' ∉ ch.tag ∧ isListMember c (lower ch.tag) = true ∧
      ∃ raw, (raw = .val .none ∨ childValue ch (fromEtree S cv ch) = .ok raw) ∧ applyOne S cv c raw = .ok m := by
  rw [fromEtree_node S cv tag x tl children ci c hfind hcls] at h
  obtain ⟨acc, hf, h⟩ := PyM.bind_ok h
  obtain ⟨_, _, _, _, happ, _, hn⟩ := construct_ok_cls hcls h
  injection hn with _ _ hi'; subst hi'
  obtain ⟨raw, hraw, hone⟩ := PyM.mapM_mem_right (applyArgs_mapM S cv c acc.args items happ) hm
  rcases (foldChildren_origin_eff S cv c children Accum.init acc hf).2 raw hraw with
    h0 | ⟨pre, ch, post, _, rfl, hd, rfl, hil, idx, _, hv⟩
  · cases h0
  · rw [effTag_noGroom c hg] at hd hil
    refine ⟨ch, by simp, hd, hil, raw, ?_, hone⟩
    split at hv
    · exact Or.inl hv
    · exact Or.inr hv

def argOf (c : Cls) (ch : Tree) (sub : PyM Node) : Option (PyM Node) :=
  if ch.tag.contains '.' then none
  else match specIndex c (lower ch.tag) with
    | none => none
    | some idx =>
      if isListMember c (lower ch.tag) then
        some (if unsupportedAt c idx then .ok (.val .none) else childValue ch sub)
      else none

def argsOf (c : Cls) : List Tree → List (PyM Node) → List (PyM Node)
  | t :: ts, s :: ss => (match argOf c t s with | some v => [v] | none => []) ++ argsOf c ts ss
  | _, _ => []

theorem updateArgs_args_exact (c : Cls) (hg : c.groom = none) (acc acc' : Accum) (ch : Tree) (sub : PyM Node)
    (h : updateArgs c acc ch sub = .ok acc') :
    match argOf c ch sub with
    | some v => ∃ m, v = .ok m ∧ acc'.args = acc.args ++ [m]
    | none => acc'.args = acc.args := by
  unfold argOf
  obtain ⟨_, hstep⟩ := updateArgs_eff_ok h
  rw [effTag_noGroom c hg] at hstep
  dsimp only at hstep
  rcases hstep with ⟨_, ha, hd | hi⟩ | ⟨idx, raw, hd, hidx, hv, ⟨hl, _, ha⟩ | ⟨hl, _, _, ha⟩⟩
  · rw [if_pos (by simpa using hd)]; exact ha
  · by_cases hd : ch.tag.contains '.' = true
    · rw [if_pos hd]; exact ha
    · rw [if_neg hd, hi]; exact ha
  · rw [if_neg (by simpa using hd), hidx]
    simp only [hl, if_true]
    refine ⟨raw, ?_, ha⟩
    by_cases hu : unsupportedAt c idx = true
    · rw [if_pos hu] at hv ⊢; rw [hv]
    · rw [if_neg hu] at hv ⊢; exact hv
  · rw [if_neg (by simpa using hd), hidx]
    simp only [hl, Bool.false_eq_true, if_false]
    exact ha

/-- C03 (repeated members, exactly and in order): the positional arguments the reader collects are the values
    of the children that carry a repeated attribute's tag, in document order. -/
theorem foldChildren_args_exact (c : Cls) (hg : c.groom = none) : ∀ (ts : List Tree) (ss : List (PyM Node))
    (acc acc' : Accum), foldChildren c ts ss acc = .ok acc' →
    ∃ vs, (argsOf c ts ss).mapM (m := PyM) id = .ok vs ∧ acc'.args = acc.args ++ vs
  | [], ss, acc, acc', h => by
    cases ss <;> (injection h with h; subst h; exact ⟨[], rfl, (List.append_nil _).symm⟩)
  | t :: ts, [], acc, acc', h => by
    injection h with h; subst h; exact ⟨[], rfl, (List.append_nil _).symm⟩
  | t :: ts, s :: ss, acc, acc', h => by
    obtain ⟨acc1, hu, h⟩ := PyM.bind_ok (f := foldChildren c ts ss) h
    obtain ⟨vs, hvs, hargs⟩ := foldChildren_args_exact c hg ts ss acc1 acc' h
    have hstep := updateArgs_args_exact c hg acc acc1 t s hu
    simp only [argsOf]
    cases ha : argOf c t s with
    | none =>
      rw [ha] at hstep
      exact ⟨vs, hvs, by rw [hargs, hstep]⟩
    | some v =>
      rw [ha] at hstep
      obtain ⟨m, rfl, hm⟩ := hstep
      refine ⟨m :: vs, ?_, by rw [hargs, hm, List.append_assoc]; rfl⟩
      simp only [List.singleton_append, List.mapM_cons, id, hvs, PyM.ok_bind, PyM.pure_eq]

/-- … hence the members of an accepted document's instance are what `_apply_args` makes of exactly those values, in
    order (for a plain aggregate: the children's own conversions, in document order). -/
theorem C03_members_exact (S : Schema) (cv : Conv) (tag : Str) (x tl : Option Str)
    (children : List Tree) (ci : Nat) (c : Cls) (fields : List (Str × Node)) (items : List Node) (cj : Nat)
    (hfind : S.findIdx? tag = some ci) (hcls : S.cls? ci = some c) (hg : c.groom = none)
    (hne : children.isEmpty = false)
    (h : fromEtree S cv (.node tag x tl children) = .ok (.agg cj fields items)) :
    ∃ vs, (argsOf c children (childInsts S cv children)).mapM (m := PyM) id = .ok vs ∧
      applyArgs S cv c vs = .ok items := by
  rw [fromEtree_node S cv tag x tl children ci c hfind hcls] at h
  obtain ⟨acc, hf, h⟩ := PyM.bind_ok h
  obtain ⟨_, _, _, _, happ, _, hn⟩ := construct_ok_cls hcls h
  injection hn with _ _ hi'; subst hi'
  obtain ⟨vs, hvs, hargs⟩ := foldChildren_args_exact c hg children _ Accum.init acc hf
  exact ⟨vs, hvs, by rw [hargs] at happ; exact happ⟩

end Ofx.Agg
