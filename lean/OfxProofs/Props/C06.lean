/-
C06 — a composed request says exactly what the caller asked, in every configuration.  Model: `OfxModel/Ofx/Compose.lean`
(`ofxtools/Client.py`, generic in the schema `S` and the converters `cv`); spec: `OfxModel/Spec/Request.lean`.
`ReqWF S` holds of the generated schema (`Ofx.Gen.schema_reqWF`); `ConvOK cv Ptext` holds of `Ofx.Types.conv` for
`Ptext := EntityFree` (`Ofx.Compose.conv_ok`; without that guard the statement is false: `C06_compose_full_false`);
`uuidStream` injective, never empty, `Ptext` is what `uuid4` is assumed to deliver.
-/
import OfxProofs.Lemmas.ComposeMade

namespace Ofx.C06
open Ofx Ofx.Compose Ofx.Agg Ofx.Spec.Request

/-- the list lemma behind the grouping into message sets, for any list, any key and any total order on keys:
    `groupby(sorted(l, key), key)` has one group per key that occurs, with strictly increasing keys, and the group of
    key `k` is the subsequence of `l` with key `k` in original order. -/
theorem C06_group {α κ : Type} [DecidableEq κ] (le : κ → κ → Bool) (key : α → κ) (h : IsOrder le) (l : List α) :
    ((groupBy key (sortBy le key l)).map (·.1)).Pairwise (fun a b => le a b = true ∧ a ≠ b) ∧
    (∀ k g, (k, g) ∈ groupBy key (sortBy le key l) → g ≠ [] ∧ g = l.filter (fun x => decide (key x = k))) ∧
    (∀ x ∈ l, ∃ g, (key x, g) ∈ groupBy key (sortBy le key l)) :=
  group_sort le key h l

example : sortBy RKind.le Req.kind [.stmt none none none none none, .ccStmt none none none none,
    .stmt (some ['x']) none none none none] =
    [.ccStmt none none none none, .stmt none none none none none, .stmt (some ['x']) none none none none] := by
  decide

/-- exact field placement of the sign-on, for every configuration: the `SIGNONMSGSRQV1` that
    `signon` returns holds one `SONRQ` with exactly the supplied user id, password, language, application id and
    version and DTCLIENT; FI iff ORG is set (with ORG and FID as configured); CLIENTUID iff configured and the version
    is ≥ 103; nothing else. -/
theorem C06_signon {S : Schema} {cv : Conv} {Ptext : Str → Prop} (hS : ReqWF S = true) (hcv : ConvOK cv Ptext)
    (cfg : Cfg) (userpass : Str) (userid : Option Str) (dtclient : DT)
    (htexts : ∀ s ∈ cfg.texts, Ptext s) (hpw : Ptext userpass) (huid : ∀ s, userid = some s → Ptext s)
    {so : Node} (h : signon S cv cfg userpass userid dtclient = .ok so) :
    signonClauses S cfg (orDefault userid cfg.userid) userpass dtclient so = [] :=
  signonClauses_eq_nil.mpr
    (made_signon (Pd := fun _ => True) hS hcv cfg userpass userid dtclient htexts hpw huid trivial h).2

/-- the two clauses named in the property, spelled out -/
theorem C06_signon_fi_clientuid (cfg : Cfg) :
    (wantFi cfg = .leaf .absent ↔ orgSet cfg = false) ∧
    (wantClientuid cfg = .absent ↔ ¬ (cfg.version ≥ 103)) := by
  constructor
  · unfold wantFi; cases orgSet cfg <;> simp
  · unfold wantClientuid; by_cases h : cfg.version ≥ 103 <;> simp [h]

/-- field placement of every request kind: the wrapper built for a request is of its kind's wrapper
    class, carries the uuid it consumed as TRNUID, and contains exactly the account ids, account type, bank/broker id,
    dates and include flags of that request (`expWrapper`). -/
theorem C06_wrap {S : Schema} {cv : Conv} {Ptext : Str → Prop} (hS : ReqWF S = true) (hcv : ConvOK cv Ptext)
    (cfg : Cfg) (rq : Req) (uuid : Str) (htexts : ∀ s ∈ cfg.texts, Ptext s) (hrq : ∀ s ∈ rq.texts, Ptext s)
    (hu : Ptext uuid) (hne : uuid ≠ []) {w : Node} (h : wrap S cv cfg rq uuid = .ok w) :
    (expWrapper cfg rq).ok S w = true ∧ isWrapper S rq.kind w = true ∧ fieldVal w "trnuid" = .val (.str uuid) := by
  obtain ⟨_, hk, hs⟩ := made_wrap (Pd := fun _ => True) hS hcv cfg rq uuid htexts hrq (fun _ _ => trivial) hu h
  exact ⟨(hs hne).1, hk, (hs hne).2⟩

/-- `OFXClient(version ≥ 200, close_elements=False)` raises `ValueError` -/
theorem C06_v2_closed_init (a : InitArgs) (hv : orDefault a.version 203 ≥ 200)
    (hc : orDefault a.closeElements true = false) : init a = .error .value := by
  simp [init, hc, hv]

/-- per-call override: `serialize(version ≥ 200, close_elements=False)` never returns bytes;
    when the header and the tree can be built the error is `ValueError` -/
theorem C06_v2_closed_serialize {S : Schema} {cv : Conv} (env : Env) (cfg : Cfg) (ofx : Node) (version : Option Nat)
    (old new : Option Str) (pretty close : Option Bool)
    (hv : orDefault version cfg.version ≥ 200) (hc : orDefault close cfg.closeElements = false) :
    (∀ s, serializeReq S cv env cfg ofx version old new pretty close ≠ .ok s) ∧
    (∀ hdr tree, Header.makeHeader env.p1 env.p2 (.int ((orDefault version cfg.version : Nat) : Int)) none old new = .ok hdr →
      toEtree S cv ofx = .ok tree →
      serializeReq S cv env cfg ofx version old new pretty close = .error .value) := by
  constructor
  · intro s hs
    simp only [serializeReq] at hs
    obtain ⟨hdr, _, hs⟩ := PyM.bind_ok hs
    obtain ⟨tree, _, hs⟩ := PyM.bind_ok hs
    simp [Serialize.serialize, hc, hv] at hs
  · intro hdr tree hh ht
    simp [serializeReq, hh, ht, Serialize.serialize, hc, hv]

example : init { url := [], version := some 203, closeElements := some false } = .error .value := rfl
example : (init { url := [], version := some 102, closeElements := some false }).toBool = true := rfl

/-- for every configuration and every request list: if `request_statements` composes a request,
    the `OFX` instance satisfies `RequestSpec`: one `SONRQ` with exactly the supplied identity (FI iff ORG, CLIENTUID
    iff configured ∧ version ≥ 103); a message set is present iff a request of one of its kinds was made and holds
    wrappers of its own kinds only; for each kind the wrappers of that kind, in order, are exactly the requests of
    that kind in request order, each with its own account ids, type, bank/broker id, dates and flags and nothing
    else (so: one wrapper per request); every wrapper consumed its own uuid index, hence the TRNUIDs are pairwise
    distinct when `uuidStream` is injective. -/
theorem C06_compose {S : Schema} {cv : Conv} {Ptext : Str → Prop} (hS : ReqWF S = true) (hcv : ConvOK cv Ptext)
    (cfg : Cfg) (password : Str) (reqs : List Req) (uuidStream : Nat → Str) (dtclient : DT)
    (htexts : ∀ s ∈ cfg.texts, Ptext s) (hpw : Ptext password) (hreqs : ∀ r ∈ reqs, ∀ s ∈ r.texts, Ptext s)
    (huuid : ∀ i j, uuidStream i = uuidStream j → i = j) (hne : ∀ i, uuidStream i ≠ [])
    (huP : ∀ i, Ptext (uuidStream i)) {root : Node}
    (h : requestStatements S cv cfg password reqs uuidStream dtclient = .ok root) :
    RequestSpec S cfg password dtclient reqs (Int.ofNat cfg.version) root :=
  (made_requestStatements (Pd := fun _ => True) hS hcv cfg password reqs uuidStream dtclient htexts hpw hreqs
    (fun _ _ _ _ => trivial) trivial huP h).2 huuid hne

/-- a non-trivial configuration: markup characters in the identity, CLIENTUID, no end tags -/
def exampleCfg : Cfg :=
  { url := [], userid := "us&er".toList, clientuid := some "c<1>".toList, org := some "ORG".toList, fid := none,
    version := 103, appid := "QWIN".toList, appver := "2700".toList, language := "ENG".toList, prettyprint := true,
    closeElements := false, bankid := some "123".toList, brokerid := none }

/-- the hypotheses of `C06_compose` are satisfiable by it, a password with markup, and an injective uuid stream -/
example : (∀ s ∈ exampleCfg.texts, EntityFree s) ∧ EntityFree "p&a<ss>w".toList ∧
    (∀ i j, List.replicate (i + 1) 'u' = List.replicate (j + 1) 'u' → i = j) := by
  refine ⟨by decide +kernel, by decide +kernel, ?_⟩
  intro i j h
  have := congrArg List.length h
  simpa using this

/-- the file starts with the header of the configured version (or of the version given in the call):
    whenever `serialize` returns bytes, they are `str(header) ++ body` for a header object carrying that version -/
theorem C06_header {S : Schema} {cv : Conv} (env : Env) (cfg : Cfg) (ofx : Node) (version : Option Nat)
    (old new : Option Str) (pretty close : Option Bool) (bytes : Str)
    (h : serializeReq S cv env cfg ofx version old new pretty close = .ok bytes) :
    ∃ hdr tree, hdrVersion hdr = Int.ofNat (orDefault version cfg.version) ∧ toEtree S cv ofx = .ok tree ∧
      bytes = Header.strHdr hdr ++ Serialize.serializeBody env.htmlEmpty (orDefault close cfg.closeElements)
        (orDefault pretty cfg.prettyprint) tree := by
  simp only [serializeReq] at h
  obtain ⟨hdr, hh, h⟩ := PyM.bind_ok h
  obtain ⟨tree, ht, h⟩ := PyM.bind_ok h
  refine ⟨hdr, tree, makeHeader_version _ _ _ _ _ _ _ hh, ht, ?_⟩
  simp only [Serialize.serialize] at h
  split at h
  · simp at h
  · simp only [Except.ok.injEq] at h; exact h.symm

/-- what C06 takes from the wire layers (C01: serializer, header parser, lexer, builder, `from_etree`): the bytes
    `serialize` made of an instance read back to the header version and that instance -/
def RoundTrip (readback : Str → PyM (Int × Node)) (bytes : Str) (version : Nat) (inst : Node) : Prop :=
  readback bytes = .ok (Int.ofNat version, inst)

/-- relative to the round-trip theorem of the wire layers: the bytes `request_statements(dryrun=True)`
    returns, parsed back, satisfy `RequestSpec` with the header version they carry -/
theorem C06_wire {S : Schema} {cv : Conv} {Ptext : Str → Prop} (hS : ReqWF S = true) (hcv : ConvOK cv Ptext)
    (env : Env) (cfg : Cfg) (password : Str) (reqs : List Req) (uuidStream : Nat → Str) (dtclient : DT)
    (htexts : ∀ s ∈ cfg.texts, Ptext s) (hpw : Ptext password) (hreqs : ∀ r ∈ reqs, ∀ s ∈ r.texts, Ptext s)
    (huuid : ∀ i j, uuidStream i = uuidStream j → i = j) (hne : ∀ i, uuidStream i ≠ [])
    (huP : ∀ i, Ptext (uuidStream i)) (readback : Str → PyM (Int × Node)) {bytes : Str}
    (h : statementsBytes S cv env cfg password reqs uuidStream dtclient = .ok bytes)
    (hrt : ∀ inst, requestStatements S cv cfg password reqs uuidStream dtclient = .ok inst →
      RoundTrip readback bytes cfg.version inst) :
    ∃ hv inst, readback bytes = .ok (hv, inst) ∧ RequestSpec S cfg password dtclient reqs hv inst := by
  simp only [statementsBytes] at h
  obtain ⟨inst, hinst, _⟩ := PyM.bind_ok h
  exact ⟨_, inst, hrt inst hinst,
    C06_compose hS hcv cfg password reqs uuidStream dtclient htexts hpw hreqs huuid hne huP hinst⟩

/-- `request_accounts(password, dtacctup)`: the sign-on as in `C06_signon`, one `SIGNUPMSGSRQV1`
    holding one `ACCTINFOTRNRQ` with its own TRNUID and exactly the DTACCTUP asked for -/
theorem C06_accounts {S : Schema} {cv : Conv} {Ptext : Str → Prop} (hS : ReqWF S = true) (hcv : ConvOK cv Ptext)
    (cfg : Cfg) (password : Str) (dtacctup : Option DT) (uuidStream : Nat → Str) (dtclient : DT)
    (htexts : ∀ s ∈ cfg.texts, Ptext s) (hpw : Ptext password) (hu : Ptext (uuidStream 0))
    (hne : uuidStream 0 ≠ []) {root : Node}
    (h : requestAccounts S cv cfg password dtacctup uuidStream dtclient = .ok root) :
    checkAccounts S cfg password dtclient dtacctup (Int.ofNat cfg.version) root = [] :=
  (made_requestAccounts (Pd := fun _ => True) hS hcv cfg password dtacctup uuidStream dtclient htexts hpw
    (fun _ _ => trivial) trivial hu h).2 hne

/-- `_request_profile(dtprofup)`: anonymous sign-on (user id and password are the placeholder; FI,
    CLIENTUID, language and application ids as configured), one `PROFMSGSRQV1` holding one `PROFTRNRQ` with
    CLIENTROUTING `NONE` and the given DTPROFUP (1990-01-01 UTC when none is given) -/
theorem C06_profile {S : Schema} {cv : Conv} {Ptext : Str → Prop} (hS : ReqWF S = true) (hcv : ConvOK cv Ptext)
    (cfg : Cfg) (dtprofup : Option DT) (uuidStream : Nat → Str) (dtclient : DT)
    (htexts : ∀ s ∈ cfg.texts, Ptext s) (hph : Ptext authPlaceholder) (hnone : Ptext "NONE".toList)
    (hu : Ptext (uuidStream 0)) (hne : uuidStream 0 ≠ []) {root : Node}
    (h : requestProfile S cv cfg dtprofup uuidStream dtclient = .ok root) :
    checkProfile S cfg dtclient dtprofup none (Int.ofNat cfg.version) root = [] :=
  (made_requestProfile (Pd := fun _ => True) hS hcv cfg dtprofup uuidStream dtclient htexts hph hnone trivial trivial
    hu h).2 hne

example : EntityFree authPlaceholder ∧ EntityFree "NONE".toList := by decide +kernel

/-- `request_tax1099(password, *taxyears, acctnum=…, recid=…)`: the sign-on as in `C06_signon`, one `TAX1099MSGSRQV1`
    holding one `TAX1099TRNRQ` whose `TAX1099RQ` carries exactly the account number and record id asked for (empty =
    absent) and the tax years in order.  Hypothesis `hyears`: the tax years are canonical decimal texts. -/
theorem C06_tax {S : Schema} {cv : Conv} {Ptext : Str → Prop} (hS : ReqWF S = true) (hT : taxWFB S = true)
    (hcv : ConvOK cv Ptext) (hy : ConvYear cv) (cfg : Cfg) (password : Str) (taxyears : List Str)
    (acctnum recid : Option Str) (uuidStream : Nat → Str) (dtclient : DT)
    (htexts : ∀ s ∈ cfg.texts, Ptext s) (hpw : Ptext password)
    (hacct : ∀ s, acctnum = some s → Ptext s) (hrec : ∀ s, recid = some s → Ptext s)
    (hyears : ∀ y ∈ taxyears, ∃ j : Int, y = pyStrInt j)
    (hu : Ptext (uuidStream 0)) (hne : uuidStream 0 ≠ []) {root : Node}
    (h : requestTax S cv cfg password taxyears acctnum recid uuidStream dtclient = .ok root) :
    checkTax S cfg password dtclient taxyears acctnum recid (Int.ofNat cfg.version) root = [] :=
  (made_requestTax (Pd := fun _ => True) hS hT hcv hy cfg password taxyears acctnum recid uuidStream dtclient htexts
    hpw hacct hrec hyears trivial hu h).2 hne

example : (∀ y ∈ ["2019".toList, "2020".toList], ∃ j : Int, y = pyStrInt j) := by
  intro y hy
  simp only [List.mem_cons, List.mem_nil_iff, or_false] at hy
  rcases hy with rfl | rfl
  · exact ⟨2019, by decide⟩
  · exact ⟨2020, by decide⟩

end Ofx.C06
