/-
C16, last clause — "… and a name nothing defines raises AttributeError, so hasattr, getattr with a default, copy,
deepcopy and pickle work on every instance and reproduce an equal model."

The model of the protocol (`OfxModel/Ofx/CopyProto.lean`) is parametric in the attribute access `G`; the theorems
instantiate it with `Getattr.getattr S P` and, for the negative twin, with the access that reads the sub-aggregate outside
the `try` (`getattrPinned S P`).  Premises of the positive theorems (both decidable, both evaluated by the driver on
every generated real instance, `copy.all`):
  * `probesUndefined S P n`: on every aggregate of the tree nothing defines `__deepcopy__`, `__setstate__`, `__slots__`;
    follows from `schemaQuiet S P` (`Gen.schema_quiet` for the generated schema) and `instQuiet S n` (known classes, no
    such dict key);
  * `dictsWF n`: no `__dict__` of the tree holds a key twice (`Node` uses association lists).
No premise says that the dicts are complete: the empty dict of `cls.__new__(cls)` and partial dicts are included.
Identity is outside `Node`: "equal model" is what these theorems say; that `copy.copy` shares the children is expressed as
`C16_copy_shallow`.
-/
import OfxProofs.Lemmas.C16Copy
import OfxProofs.Props.C16

namespace Ofx.C16
open Ofx Ofx.Agg Ofx.Getattr Ofx.Spec.Getattr Ofx.CopyProto

/-- the `__setstate__` probe on a freshly created instance, whatever members it already holds -/
theorem setstate_fresh (S : Schema) (P : Props) (ci : Nat) (fields : List (Str × Node)) (items its : List Node)
    (h : undefined S P (.agg ci fields items) nSetstate = true) :
    getattr S P (.agg ci [] its) nSetstate = .error .attr := by
  obtain ⟨c, hc, ha, hclean, _⟩ := (undefined_agg ..).mp h
  exact C16_probe_empty_dict S P ci its nSetstate c hc ha ((clean_agg hc fields items _).mp hclean).1

theorem quiet_of_undefined (S : Schema) (P : Props) (ci : Nat) (fields : List (Str × Node)) (items : List Node)
    (h : probeNames.all (fun nm => undefined S P (.agg ci fields items) nm) = true) :
    Quiet (getattr S P) ci fields items := by
  simp only [probeNames, List.all_cons, List.all_nil, Bool.and_true, Bool.and_eq_true] at h
  obtain ⟨hd, hs, hl⟩ := h
  exact ⟨C16_miss S P _ _ hd, C16_miss S P _ _ hl, fun its => setstate_fresh S P ci fields items its hs⟩

theorem probesUndefined_agg (S : Schema) (P : Props) (ci : Nat) (fields : List (Str × Node)) (items : List Node) :
    probesUndefined S P (.agg ci fields items) = true ↔
      probeNames.all (fun nm => undefined S P (.agg ci fields items) nm) = true ∧
        (∀ k v, (k, v) ∈ fields → probesUndefined S P v = true) ∧ ∀ v, v ∈ items → probesUndefined S P v = true := by
  rw [← allFieldsB (pf := probesUndefinedFields S P) rfl (fun _ _ _ => rfl),
    ← allItemsB (pl := probesUndefinedItems S P) rfl (fun _ _ => rfl)]
  simp only [probesUndefined, Bool.and_eq_true, and_assoc]

theorem quietAll_of_probesUndefined (S : Schema) (P : Props) :
    ∀ n, probesUndefined S P n = true → QuietAll (getattr S P) n := by
  intro n
  induction n using Node.induct with
  | val v => intro _; simp [QuietAll]
  | agg ci fields items ihf ihi =>
    intro h
    obtain ⟨hq, hf, hi⟩ := (probesUndefined_agg ..).mp h
    exact (QuietAll_agg ..).mpr ⟨quiet_of_undefined S P ci fields items hq,
      fun k v hm => ihf k v hm (hf k v hm), fun v hm => ihi v hm (hi v hm)⟩

/-- protocols 2–5 (and `copy`, `deepcopy`, which ask for 4): `(copyreg.__newobj__, (cls,), state, iter(x), None)` with
    `state` the instance dict, `None` when it is empty — for every `G`: no lookup reaches `__getattr__` -/
theorem C16_reduce_ex_newobj (G : GA) (proto ci : Nat) (fields : List (Str × Node)) (items : List Node)
    (hp : 2 ≤ proto) :
    reduceEx G proto (.agg ci fields items) =
      .ok ⟨.newobj, ci, [], if fields.isEmpty then none else some fields, some items⟩ :=
  reduceAgg_newobj G proto ci fields items hp

/-- protocols 0, 1: `(copyreg._reconstructor, (cls, list, list(x))[, state])` once the `__slots__` probe is answered -/
theorem C16_reduce_ex_reconstructor (S : Schema) (P : Props) (proto ci : Nat) (fields : List (Str × Node))
    (items : List Node) (hp : proto < 2) (h : undefined S P (.agg ci fields items) nSlots = true) :
    reduceEx (getattr S P) proto (.agg ci fields items) =
      .ok ⟨.reconstructor, ci, items, if fields.isEmpty then none else some fields, none⟩ :=
  reduceAgg_reconstructor _ proto ci fields items hp (C16_miss S P _ _ h)

/-- `copy.copy` for any attribute access: an instance with an empty dict is rebuilt without a single probe … -/
theorem C16_copy_empty_dict (G : GA) (ci : Nat) (items : List Node) :
    copyNode G (.agg ci [] items) = .ok (.agg ci [] items) := by
  simp [copyNode, reduceAgg, reconstruct, create, getstate, appendEach_eq]

/-- … and otherwise the only thing consulted is `G` on the fresh, empty instance: the dict pairs and the members are
    handed over as they are (the shallow copy shares them) -/
theorem C16_copy_shallow (G : GA) (ci : Nat) (kv : Str × Node) (r : List (Str × Node)) (items : List Node) :
    copyNode G (.agg ci (kv :: r) items) =
      (setstateProbe G (.agg ci [] [])).bind (fun _ => .ok (.agg ci (dictUpdate [] (kv :: r)) items)) := by
  simp only [copyNode, reduceAgg_newobj G 4 ci (kv :: r) items (by omega), reconstruct, create, getstate, build,
    appendEach_eq, PyM.ok_bind, PyM.pure_eq, List.isEmpty_cons, List.nil_append]
  cases setstateProbe G (.agg ci [] []) <;> rfl

/-- generic form of `C16_copy_eq`, for any attribute access -/
theorem C16_copy_of_clean_miss (G : GA) (ci : Nat) (fields : List (Str × Node)) (items : List Node)
    (hs : G (.agg ci [] []) nSetstate = .error .attr) (hn : nodupKeys fields = true) :
    copyNode G (.agg ci fields items) = .ok (.agg ci fields items) := by
  simp only [copyNode, reduceAgg_newobj G 4 ci fields items (by omega), PyM.ok_bind]
  exact reconstruct_newobj G ci fields items hs hn

/-- `copy.copy` reproduces every instance: any class, any members, any dict state -/
theorem C16_copy_eq (S : Schema) (P : Props) (ci : Nat) (fields : List (Str × Node)) (items : List Node)
    (h : undefined S P (.agg ci fields items) nSetstate = true) (hn : nodupKeys fields = true) :
    copyNode (getattr S P) (.agg ci fields items) = .ok (.agg ci fields items) :=
  C16_copy_of_clean_miss _ ci fields items (setstate_fresh S P ci fields items [] h) hn

theorem C16_deepcopy_of_clean_miss (G : GA) (n : Node) (hq : QuietAll G n) (hw : dictsWF n = true) :
    deepcopyNode G n = .ok n := deepcopy_of_quiet G n hq hw

/-- `copy.deepcopy` reproduces every instance, at any depth -/
theorem C16_deepcopy_eq (S : Schema) (P : Props) (n : Node)
    (h : probesUndefined S P n = true) (hw : dictsWF n = true) :
    deepcopyNode (getattr S P) n = .ok n :=
  deepcopy_of_quiet _ n (quietAll_of_probesUndefined S P n h) hw

theorem C16_dumps_eq (S : Schema) (P : Props) (proto : Nat) (n : Node) (h : probesUndefined S P n = true) :
    dumps (getattr S P) proto n = .ok (pkOf proto n) :=
  dumps_of_quiet _ proto n (quietAll_of_probesUndefined S P n h)

theorem C16_pickle_of_clean_miss (G : GA) (proto : Nat) (n : Node) (hq : QuietAll G n) (hw : dictsWF n = true) :
    pickleRoundtrip G proto n = .ok n := by
  simp only [pickleRoundtrip, dumps_of_quiet G proto n hq, PyM.ok_bind]
  exact loads_of_quiet G proto n hq hw

/-- `pickle.loads(pickle.dumps(x, proto))` reproduces every instance, for every protocol
    (0, 1: `_reconstructor` route; 2 and up: `__newobj__` route) -/
theorem C16_pickle_eq (S : Schema) (P : Props) (proto : Nat) (n : Node)
    (h : probesUndefined S P n = true) (hw : dictsWF n = true) :
    pickleRoundtrip (getattr S P) proto n = .ok n :=
  C16_pickle_of_clean_miss _ proto n (quietAll_of_probesUndefined S P n h) hw

theorem find_none_of_all (P : Props) (ci : Nat) (nm : Str) : P.all (fun e => e.name != nm) = true →
    P.find ci nm = none := by
  induction P with
  | nil => intro _; rfl
  | cons e r ih =>
    intro h
    simp only [List.all_cons, Bool.and_eq_true, bne_iff_ne, ne_eq] at h
    simp [Props.find, h.1, ih h.2]

theorem childDefiners_all_nil : ∀ (l : List Attr) (fd : List (Str × List Path)),
    (∀ k ps, Agg.lookup k fd = some ps → ps = []) → childDefiners l fd = []
  | [], _, _ => rfl
  | a :: rest, fd, h => by
    simp only [childDefiners, childDefiners_all_nil rest fd h, List.append_nil]
    by_cases hs : a.kind.isSub = true
    · simp only [hs, if_true]
      cases hl : Agg.lookup a.name fd with
      | none => rfl
      | some ps => simp [h a.name ps hl]
    · simp [hs]

theorem instQuiet_agg (S : Schema) (ci : Nat) (fields : List (Str × Node)) (items : List Node) :
    instQuiet S (.agg ci fields items) = true ↔
      (∃ c, S.cls? ci = some c) ∧ (∀ nm, nm ∈ probeNames → Agg.lookup nm fields = none) ∧
        (∀ k v, (k, v) ∈ fields → instQuiet S v = true) ∧ ∀ v, v ∈ items → instQuiet S v = true := by
  rw [← allFieldsB (pf := instQuietFields S) rfl (fun _ _ _ => rfl),
    ← allItemsB (pl := instQuietItems S) rfl (fun _ _ => rfl)]
  simp only [instQuiet, hasKey, Bool.and_eq_true, and_assoc, List.all_eq_true, Bool.not_eq_true',
    Option.isSome_iff_exists, Option.isSome_eq_false_iff, Option.isNone_iff_eq_none]

theorem clean_definers_of_schema (S : Schema) (P : Props) (nm : Str) (hnm : nm ∈ probeNames)
    (hS : ∀ c, c ∈ S.classes → c.attr? nm = none) (hP : P.all (fun e => e.name != nm) = true) :
    ∀ n, instQuiet S n = true → clean S P n nm = true ∧ definers S n nm = [] := by
  intro n
  induction n using Node.induct with
  | val v => intro _; simp [clean, definers]
  | agg ci fields items ihf _ =>
    intro h
    obtain ⟨⟨c, hcc⟩, hk, hf, _⟩ := (instQuiet_agg ..).mp h
    have hcd : childDefiners c.spec (fieldDefiners S fields nm) = [] := by
      apply childDefiners_all_nil
      intro k ps hl
      rw [lookup_fieldDefiners, Option.map_eq_some_iff] at hl
      obtain ⟨v, hv, rfl⟩ := hl
      exact (ihf k v (lookup_mem hv) (hf k v (lookup_mem hv))).2
    exact ⟨(clean_agg hcc ..).mpr ⟨find_none_of_all P ci nm hP, fun _ => hk nm hnm, fun k v hm => (ihf k v hm (hf k v hm)).1⟩,
      by simp [definers, hcc, hS c (List.mem_of_getElem? hcc), hcd]⟩

/-- the premise `probesUndefined` from the schema (`schemaQuiet`: no class declares a probe name, no property has one),
    on every tree of known classes whose dicts hold no probe name -/
theorem probesUndefined_of_schema (S : Schema) (P : Props) (hq : schemaQuiet S P = true) :
    ∀ n, instQuiet S n = true → probesUndefined S P n = true := by
  simp only [schemaQuiet, List.all_eq_true, Bool.and_eq_true, Option.isNone_iff_eq_none] at hq
  intro n
  induction n using Node.induct with
  | val v => intro _; simp [probesUndefined]
  | agg ci fields items ihf ihi =>
    intro h
    obtain ⟨⟨c, hcc⟩, _, hf, hi⟩ := (instQuiet_agg ..).mp h
    refine (probesUndefined_agg ..).mpr ⟨?_, fun k v hm => ihf k v hm (hf k v hm), fun v hm => ihi v hm (hi v hm)⟩
    rw [List.all_eq_true]
    intro nm hnm
    obtain ⟨hS, hP⟩ := hq nm hnm
    have hP' : P.all (fun e => e.name != nm) = true := by simpa [List.all_eq_true] using hP
    obtain ⟨hcl, hd⟩ := clean_definers_of_schema S P nm hnm hS hP' _ h
    exact (undefined_agg ..).mpr ⟨c, hcc, hS c (List.mem_of_getElem? hcc), hcl, hd⟩

/-! The negative twin.  With `subagg = getattr(self, subaggregate)` outside the `try`: on the instance `cls.__new__(cls)` that `_reconstruct` /
`BUILD` probe, the first sub-aggregate (or repeated aggregate: never in the dict) raises KeyError, which `hasattr` does
not swallow. Every instance with a non-empty dict of every class that has a sub-aggregate or a repeated aggregate
(`Kind.isSub`; a repeated `ListElement` does not count) is concerned. -/

theorem setstate_fresh_pinned (S : Schema) (P : Props) (ci : Nat) (c : Cls) (its : List Node) (name : Str)
    (hc : S.cls? ci = some c) (ha : c.attr? name = none) (hp : P.find ci name = none)
    (hsub : ∃ a, a ∈ c.spec ∧ a.kind.isSub = true) :
    getattrPinned S P (.agg ci [] its) name = .error .key := by
  simp [getattrPinned, getattrAtPinned, hc, ha, hp, fieldSubsPinned, Agg.lookup,
    getattrLoopPinned_empty name c.spec hsub]

/-- `copy.copy` raises KeyError on EVERY instance with a non-empty dict of such a class -/
theorem C16_copy_pinned_fails (S : Schema) (P : Props) (ci : Nat) (c : Cls) (kv : Str × Node) (r : List (Str × Node))
    (items : List Node) (hc : S.cls? ci = some c) (ha : c.attr? nSetstate = none) (hp : P.find ci nSetstate = none)
    (hsub : ∃ a, a ∈ c.spec ∧ a.kind.isSub = true) :
    copyNode (getattrPinned S P) (.agg ci (kv :: r) items) = .error .key := by
  rw [C16_copy_shallow]
  simp [setstateProbe, setstate_fresh_pinned S P ci c [] nSetstate hc ha hp hsub, Except.bind]

theorem reconstruct_fails (G : GA) (r : Reduced) (stC : PyM Dict) (itC : PyM (List Node)) (e : Err)
    (hs : r.state.isSome = true)
    (hprobe : setstateProbe G (.agg (create r).1 (create r).2.1 (create r).2.2) = .error e) :
    ∀ out, reconstruct G r stC itC ≠ .ok out := by
  intro out
  cases hst : r.state with
  | none => simp [hst] at hs
  | some st0 =>
    cases stC with
    | error e' => simp [reconstruct, hst]
    | ok st => simp [reconstruct, hst, build, hprobe]

/-- `copy.deepcopy` fails on every such instance (with whichever error came first) -/
theorem C16_deepcopy_pinned_fails (S : Schema) (P : Props) (ci : Nat) (c : Cls) (kv : Str × Node)
    (r : List (Str × Node)) (items : List Node) (hc : S.cls? ci = some c) (ha : c.attr? nSetstate = none)
    (hp : P.find ci nSetstate = none) (hsub : ∃ a, a ∈ c.spec ∧ a.kind.isSub = true) :
    ∀ out, deepcopyNode (getattrPinned S P) (.agg ci (kv :: r) items) ≠ .ok out := by
  intro out
  simp only [deepcopyNode, deepcopyAt, reduceAgg_newobj _ 4 ci (kv :: r) items (by omega), PyM.ok_bind]
  cases deepcopyProbe (getattrPinned S P) (.agg ci (kv :: r) items) with
  | error e => simp
  | ok _ =>
    rw [PyM.ok_bind]
    apply reconstruct_fails _ _ _ _ .key
    · simp [getstate]
    · simp [create, setstateProbe, setstate_fresh_pinned S P ci c [] nSetstate hc ha hp hsub]

theorem reduceAgg_shape (G : GA) (p ci : Nat) (fields : List (Str × Node)) (items : List Node) (red : Reduced)
    (h : reduceAgg G p ci fields items = .ok red) : red.cls = ci ∧ red.state = getstate fields := by
  unfold reduceAgg at h
  split at h
  · obtain ⟨_, _, h⟩ := PyM.bind_ok h
    cases h; exact ⟨rfl, rfl⟩
  · cases h; exact ⟨rfl, rfl⟩

/-- what `dumps` says of an instance with a non-empty dict, if it succeeds: its class and a `BUILD` -/
theorem dumpsAt_shape (G : GA) (p ci : Nat) (kv : Str × Node) (r : List (Str × Node)) (items : List Node)
    (stD : PyM (List (Str × Pk))) (itD : PyM (List Pk)) (pk : Pk)
    (h : dumpsAt G p ci (kv :: r) items stD itD = .ok pk) : ∃ f st its, pk = .obj f ci true st its := by
  unfold dumpsAt at h
  obtain ⟨red, hr, h⟩ := PyM.bind_ok h
  obtain ⟨h1, h2⟩ := reduceAgg_shape G p ci (kv :: r) items red hr
  obtain ⟨its, _, h⟩ := PyM.bind_ok h
  simp only [h1, h2, getstate, List.isEmpty_cons, Bool.false_eq_true, if_false] at h
  obtain ⟨st, _, h⟩ := PyM.bind_ok h
  cases h
  exact ⟨red.func, st, its, rfl⟩

/-- `pickle` (every protocol) fails on every such instance -/
theorem C16_pickle_pinned_fails (S : Schema) (P : Props) (ci : Nat) (c : Cls) (kv : Str × Node)
    (r : List (Str × Node)) (items : List Node) (hc : S.cls? ci = some c) (ha : c.attr? nSetstate = none)
    (hp : P.find ci nSetstate = none) (hsub : ∃ a, a ∈ c.spec ∧ a.kind.isSub = true) :
    ∀ proto out, pickleRoundtrip (getattrPinned S P) proto (.agg ci (kv :: r) items) ≠ .ok out := by
  intro proto out h
  obtain ⟨pk, hd, h⟩ := PyM.bind_ok h
  obtain ⟨f, st, its, rfl⟩ := dumpsAt_shape _ proto ci kv r items _ _ pk hd
  obtain ⟨its', _, h⟩ := PyM.bind_ok h
  obtain ⟨st', _, h⟩ := PyM.bind_ok h
  obtain ⟨d, hb, _⟩ := PyM.bind_ok h
  simp [build, setstateProbe, setstate_fresh_pinned S P ci c _ nSetstate hc ha hp hsub] at hb

/-- the full-strength statement for that attribute access; refuted below (`C16_copy_pinned_full_false`)
    by the instance `Example.iA` -/
def C16_copy_pinned_full : Prop :=
  ∀ (S : Schema) (P : Props) (n : Node), probesUndefined S P n = true → dictsWF n = true →
    copyNode (getattrPinned S P) n = .ok n ∧ deepcopyNode (getattrPinned S P) n = .ok n ∧
    ∀ proto, pickleRoundtrip (getattrPinned S P) proto n = .ok n

namespace Example

/-- the premises of the positive theorems hold on the nested instance `iA` (class with an element, a sub-aggregate and a
    repeated child; two members), on a partial dict and on the empty dict of `cls.__new__(cls)`; `S0`, `P0`, `iA`, `iB`
    are the two-class schema and the instances defined at the end of `Props/C16` -/
example : probesUndefined S0 P0 iA = true ∧ dictsWF iA = true := by decide +kernel
example : schemaQuiet S0 P0 = true ∧ instQuiet S0 iA = true := by decide +kernel
example : probesUndefined S0 P0 (.agg 0 [("b".toList, iB)] [iB]) = true ∧
    dictsWF (.agg 0 [("b".toList, iB)] [iB]) = true := by decide +kernel
example : probesUndefined S0 P0 (.agg 0 [] [iB, iB]) = true ∧ dictsWF (.agg 0 [] [iB, iB]) = true := by decide +kernel
example : undefined S0 P0 iA nSetstate = true ∧ nodupKeys iA.fields = true := by decide +kernel
example : undefined S0 P0 iA nSlots = true := by decide +kernel

example : (reduceEx (getattr S0 P0) 4 iA).toOption.map (fun r => (r.func, r.cls, r.state.isSome, r.listitems.isSome))
    = some (.newobj, 0, true, true) := by rfl
example : (reduceEx (getattr S0 P0) 1 iA).toOption.map (fun r => (r.func, r.cls, r.state.isSome, r.listitems.isSome))
    = some (.reconstructor, 0, true, false) := by rfl
example : (reduceEx (getattr S0 P0) 2 (.agg 0 [] [iB])).toOption.map
    (fun r => (r.func, r.cls, r.state.isSome, r.listitems.isSome)) = some (.newobj, 0, false, true) := by rfl

/-- the model, run: `getattr` reproduces `iA` on every route … -/
example : copyNode (getattr S0 P0) iA = .ok iA := by rfl
example : deepcopyNode (getattr S0 P0) iA = .ok iA := by rfl
example : pickleRoundtrip (getattr S0 P0) 0 iA = .ok iA := by rfl
example : pickleRoundtrip (getattr S0 P0) 2 iA = .ok iA := by rfl

/-- … `getattrPinned` fails with KeyError on every route: class `A` has the sub-aggregate `b` -/
theorem pinned_copy_witness : copyNode (getattrPinned S0 P0) iA = .error .key := by rfl
theorem pinned_deepcopy_witness : deepcopyNode (getattrPinned S0 P0) iA = .error .key := by rfl
theorem pinned_pickle0_witness : pickleRoundtrip (getattrPinned S0 P0) 0 iA = .error .key := by rfl
theorem pinned_pickle2_witness : pickleRoundtrip (getattrPinned S0 P0) 2 iA = .error .key := by rfl

/-- … while an instance with an empty dict goes through (no state, no probe) -/
example : copyNode (getattrPinned S0 P0) (.agg 0 [] [iB]) = .ok (.agg 0 [] [iB]) := by rfl

/-- the guards of the `_pinned_fails` theorems -/
example : S0.cls? 0 = some (mkCls "A" [⟨"x".toList, .string none false, false⟩, ⟨"b".toList, .sub 1, false⟩,
    ⟨"ms".toList, .listAgg 1, false⟩]) := by rfl
example : ∃ a, a ∈ (mkCls "A" [⟨"x".toList, .string none false, false⟩, ⟨"b".toList, .sub 1, false⟩,
    ⟨"ms".toList, .listAgg 1, false⟩]).spec ∧ a.kind.isSub = true := ⟨⟨"b".toList, .sub 1, false⟩, by simp [mkCls], rfl⟩

end Example

/-- `iA` satisfies the premises and `copy.copy` raises KeyError -/
theorem C16_copy_pinned_full_false : ¬ C16_copy_pinned_full := by
  intro h
  have h1 := (h Example.S0 Example.P0 Example.iA (by decide +kernel) (by decide +kernel)).1
  rw [Example.pinned_copy_witness] at h1
  cases h1

end Ofx.C16
