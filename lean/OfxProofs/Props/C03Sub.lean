/-
C03 by tags, for the classes whose reader renames nothing.  Each theorem is the level theorem of Props/C03Deep.lean
read at a child's own tag: without a rename hook the effective tag is the tag (`effTag_noGroom`), and a child at a place
among the children is an entry of `slots` and conversely (`slots_mid`, `slots_split`, Lemmas/C03Deep.lean).  With
`C03_members_exact` (repeated members) this covers every kind of child, one nesting level per application.
Props/C13.lean and Gen/C03.lean rest on these.
-/
import OfxProofs.Props.C03Deep
import OfxProofs.Lemmas.C04Groom
namespace Ofx.Agg
open Ofx

theorem slots_noGroom (c : Cls) (hg : c.groom = none) (hnd : (c.spec.map (·.name)).Nodup) (pre post : List Tree)
    (ch : Tree) (a : Attr) (ha : a ∈ c.spec) (hname : a.name = lower ch.tag) (hdot : '.' ∉ ch.tag)
    (hl : a.kind.isList = false) (hu : a.kind.isUnsupported = false) :
    (Spec.Step.attr a.name, a, ch) ∈ Spec.slots c false 0 (pre ++ ch :: post) :=
  slots_mid c ch post a _ pre false 0 (slotOf_field_of c hnd _ ch.tag a ha
    (by rw [effTag_noGroom c hg]; exact hname) (by rw [effTag_noGroom c hg]; exact hdot) hl hu)

/-- **C03 (nothing dropped, right value).** When `from_etree` accepts a document, every child of an
    aggregate node that is a non-repeated data element the class declares, carrying a non-empty text,
    is in the instance under its attribute name, with the value the attribute's converter assigns to
    that text — whatever else the document holds. -/
theorem C03_element_value (S : Schema) (cv : Conv) (tag : Str) (x tl : Option Str)
    (pre post : List Tree) (ch : Tree) (ci : Nat) (c : Cls) (a : Attr) (t0 : Char) (ts : Str)
    (fields : List (Str × Node)) (items : List Node) (cj : Nat)
    (hfind : S.findIdx? tag = some ci) (hcls : S.cls? ci = some c) (hg : c.groom = none)
    (hnd : (c.spec.map (·.name)).Nodup)
    (ha : a ∈ c.spec) (hname : a.name = lower ch.tag) (hdot : '.' ∉ ch.tag)
    (hl : a.kind.isList = false) (hu : a.kind.isUnsupported = false) (hs : ∀ t, a.kind ≠ .sub t)
    (htext : ch.text = some (t0 :: ts))
    (h : fromEtree S cv (.node tag x tl (pre ++ ch :: post)) = .ok (.agg cj fields items)) :
    ∃ v, lookup a.name fields = some (.val v) ∧
      cv.convert S.enums a.kind a.required (.str (t0 :: ts)) = .ok v := by
  obtain ⟨_, _, hinst, hA, _⟩ := C03_level_value S cv tag x tl _ ci c _ hfind hcls hnd h
  injection hinst with _ hf _; subst hf
  obtain ⟨raw, w, hv, hw, hsa⟩ := hA a.name a ch (slots_noGroom c hg hnd pre post ch a ha hname hdot hl hu)
  rw [childValue_text ch _ t0 ts htext] at hv
  injection hv with hv; subst hv
  rcases setAttr_stored hsa with ⟨t, hk, _⟩ | ⟨_, v, hcv, rfl⟩
  · exact absurd hk (hs t)
  · exact ⟨v, hw, hcv⟩

/-- **C03 (sub-aggregates: nothing dropped, right value).** When `from_etree` accepts a document, every child of
    an aggregate node that carries the tag of a declared non-repeated sub-aggregate (and no text of its own) is in
    the instance under that attribute as the child's own conversion — an instance of the declared class. -/
theorem C03_sub_value (S : Schema) (cv : Conv) (tag : Str) (x tl : Option Str)
    (pre post : List Tree) (ch : Tree) (ci : Nat) (c : Cls) (a : Attr) (t : Nat)
    (fields : List (Str × Node)) (items : List Node) (cj : Nat)
    (hfind : S.findIdx? tag = some ci) (hcls : S.cls? ci = some c) (hg : c.groom = none)
    (hnd : (c.spec.map (·.name)).Nodup)
    (ha : a ∈ c.spec) (hname : a.name = lower ch.tag) (hdot : '.' ∉ ch.tag) (hk : a.kind = .sub t)
    (htext : ch.text = none ∨ ch.text = some [])
    (h : fromEtree S cv (.node tag x tl (pre ++ ch :: post)) = .ok (.agg cj fields items)) :
    ∃ ck f i, fromEtree S cv ch = .ok (.agg ck f i) ∧ lookup a.name fields = some (.agg ck f i) ∧
      isInstance S ck t = true := by
  obtain ⟨_, _, hinst, hA, _⟩ := C03_level_value S cv tag x tl _ ci c _ hfind hcls hnd h
  injection hinst with _ hf _; subst hf
  obtain ⟨raw, w, hv, hw, hsa⟩ := hA a.name a ch
    (slots_noGroom c hg hnd pre post ch a ha hname hdot (by rw [hk]; rfl) (by rw [hk]; rfl))
  rw [childValue_notext ch _ htext] at hv
  obtain ⟨ck, f, i, rfl⟩ := fromEtree_agg S cv ch raw hv
  rcases setAttr_ok_some hsa with ⟨t', hk', hc⟩ | ⟨_, _, hs, _⟩
  · rw [hk] at hk'; injection hk' with hk'; subst hk'
    obtain ⟨rfl, h0 | ⟨_, _, _, he, hi⟩⟩ := convertSub_ok hc
    · cases h0.1
    · injection he with e1 _ _; subst e1
      exact ⟨ck, f, i, hv, hw, hi⟩
  · exact absurd hk (hs t)

/-- **C03 (nothing invented).** Every value other than `None` that an accepted document's instance holds
    under a non-repeated attribute was supplied by a child element of the document carrying that
    attribute's tag: the value is what the attribute's converter makes of that child's text (a data
    element) or the child's own conversion (a sub-aggregate). -/
theorem C03_nothing_invented (S : Schema) (cv : Conv) (tag : Str) (x tl : Option Str)
    (children : List Tree) (ci : Nat) (c : Cls)
    (fields : List (Str × Node)) (items : List Node) (cj : Nat)
    (hfind : S.findIdx? tag = some ci) (hcls : S.cls? ci = some c) (hg : c.groom = none)
    (hnd : (c.spec.map (·.name)).Nodup)
    (hnone : ∀ k r v, cv.convert S.enums k r .none = .ok v → v = .none)
    (h : fromEtree S cv (.node tag x tl children) = .ok (.agg cj fields items))
    (n : Str) (w : Node) (hm : (n, w) ∈ fields) (hw : w ≠ .val .none) :
    ∃ a ∈ c.spec, a.name = n ∧ ∃ ch ∈ children, '.' ∉ ch.tag ∧ lower ch.tag = n ∧
      ∃ raw, childValue ch (fromEtree S cv ch) = .ok raw ∧ setAttr S cv a raw = .ok (some w) := by
  obtain ⟨hF, _⟩ := C03_level_nothing_invented S cv tag x tl children ci c fields items cj hfind hcls hnd hnone h
  obtain ⟨a, ch, raw, hsl, hv, hsa⟩ := hF n w hm hw
  obtain ⟨pre, post, r2, hch, rfl, hso⟩ := slots_split c _ a ch children false 0 hsl
  obtain ⟨ha, _, _, hname, hdot⟩ := slotOf_field c _ r2 ch.tag a hso
  rw [effTag_noGroom c hg] at hname hdot
  exact ⟨a, ha, rfl, ch, hch ▸ List.mem_append_right _ List.mem_cons_self, hdot, hname.symm, raw, hv, hsa⟩

end Ofx.Agg
