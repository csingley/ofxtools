/-
C05 — the header parser hands over exactly the body, decoded as the header declares: on every file
`Spec.HeaderLayout.renderFile` writes from a tolerated layout, the model of `parse_header` (with the three `fix:`
commits to header.py) returns exactly the fields and the body.

Side conditions, and why:
* `ValidFile`: the field values lie in the validators' domains and are spelt in the character class of their pattern
  group (implied by membership for the generated tables: `Gen.header_tokens_in_class`); numeric fields are `str(n)`
  with `0 ≤ n < 1000`; without the COMPRESSION field the object reads the constructor's default `"NONE"`;
* `tolerated`: at most seven leading blank lines (the code gives up after eight lines), blanks after colons are
  spaces/tabs, all layout whitespace is ASCII whitespace, the XML declaration sits on one line (the code looks for
  it on the first non-blank line only);
* the body starts with `<` and ends with `>` (v1 bodies are `strip()`ped).
-/
import OfxProofs.Lemmas.HeaderV2

namespace Ofx.Header
open Ofx Ofx.Codec Ofx.Spec.HeaderLayout
attribute [-simp] String.reduceToList

def ValidFile (p1 : V1P) (p2 : V2P) : FileSpec → Prop
  | .v1 _ f => ValidV1 p1 f.h ∧ (f.withCompression = false → f.h.compression = "NONE".toList)
  | .v2 _ h => ValidV2 p2 h

def declaredCodec (p1 : V1P) : FileSpec → PyM Name
  | .v1 _ f => codecV1 p1 f.h
  | .v2 _ _ => .ok .utf8

theorem C05_exact_full (p1 : V1P) (p2 : V2P) (tbl : List (Option Nat)) (fs : FileSpec) (body : Str)
    (bb : Bytes) (cs : Name)
    (hvalid : ValidFile p1 p2 fs) (hcodec : declaredCodec p1 fs = .ok cs) (henc : encode tbl cs body = .ok bb)
    (hb0 : body.head? = some '<') (hb1 : body.getLast? = some '>') (htol : tolerated fs = true) :
    parseHeader p1 p2 tbl (renderFile fs bb) = .ok (hdrOf fs, body) := by
  cases fs with
  | v1 lay f => exact parse_v1 p1 p2 tbl lay f body bb cs hvalid.1 hvalid.2 hcodec henc hb0 hb1 htol
  | v2 lay h =>
    have : cs = .utf8 := by simp [declaredCodec] at hcodec; exact hcodec.symm
    subst this
    exact parse_v2 p1 p2 tbl lay h body bb hvalid henc hb0 hb1 htol

theorem C05_decode_encode (tbl : List (Option Nat)) (cs : Name) (body : Str) (bb : Bytes)
    (h : encode tbl cs body = .ok bb) : decode tbl cs bb = .ok body := decode_encode tbl cs body bb h

theorem C05_v1_scanner (t : V1W) (R : Str) (ok : t.Ok) (hR : ∀ c ∈ R.head?, isWordDash c = false) :
    reMatch v1Regex (t.text R) = some (t.caps, R) := v1_match t R ok hR

/-! the validator parameters of the tree under /repo -/

def pinnedV1P : V1P :=
  { ofxheader := ["100".toList], data := ["OFXSGML".toList], versionLen := some 3,
    security := ["NONE".toList, "TYPE1".toList], encoding := ["USASCII".toList, "UNICODE".toList, "UTF-8".toList],
    charset := ["ISO-8859-1".toList, "1252".toList, "NONE".toList], compression := ["NONE".toList],
    oldLen := some 36, newLen := some 36,
    codecs := [("1252".toList, "cp1252".toList), ("ISO-8859-1".toList, "latin_1".toList), ("NONE".toList, "utf_8".toList)] }

def pinnedV2P : V2P :=
  { ofxheader := ["200".toList],
    version := ["200".toList, "201".toList, "202".toList, "203".toList, "210".toList, "211".toList, "220".toList],
    security := ["NONE".toList, "TYPE1".toList], oldLen := some 36, newLen := some 36 }

def wHdr : V1 :=
  { ofxheader := 100, data := "OFXSGML".toList, version := 102, security := "NONE".toList,
    encoding := "USASCII".toList, charset := "NONE".toList, compression := "NONE".toList,
    oldfileuid := "NONE".toList, newfileuid := "NONE".toList }

/-- CRLF after every field, body glued to `NEWFILEUID:NONE` -/
def wGlued : FileSpec :=
  .v1 { leading := [], indent := [], ofxheader := {}, data := {}, version := {}, security := {}, encoding := {},
        charset := {}, compression := {}, oldfileuid := {}, newBlank := [], gap := [] }
      { h := wHdr, withCompression := true }

def bodyOf (r : PyM (Hdr × Str)) : Option Str :=
  match r with
  | .ok (_, b) => some b
  | .error _ => none

theorem wHdr_valid : ValidV1 pinnedV1P wHdr := by
  refine ⟨by decide, by decide, ⟨by decide, by decide, by decide⟩, by decide, ?_, ⟨by decide, by decide, by decide⟩,
    ⟨by decide, by decide, by decide⟩, ⟨by decide, by decide, by decide⟩, ⟨by decide, by decide, by decide⟩,
    ⟨⟨by decide, by decide⟩, ?_⟩, ⟨⟨by decide, by decide⟩, ?_⟩⟩
  · intro n hn; cases hn; decide
  · intro n hn; cases hn; decide
  · intro n hn; cases hn; decide

/-- the hypotheses of `C05_exact_full` are satisfiable (body glued to the last field) -/
example : bodyOf (parseHeader pinnedV1P pinnedV2P [] (renderFile wGlued (asciiBytes "<OFX></OFX>".toList))) =
    some "<OFX></OFX>".toList := by
  have := C05_exact_full pinnedV1P pinnedV2P [] wGlued "<OFX></OFX>".toList (asciiBytes "<OFX></OFX>".toList) .utf8
    ⟨wHdr_valid, by intro h; cases h⟩ rfl (by rfl) rfl rfl (by decide +kernel)
  rw [this]; rfl

/-- `parseHeader` evaluated on a one-line header followed directly by a non-ASCII body; `[some 8364]` is a cp1252 table
    of one entry (0x80 ↦ €) -/
example : bodyOf (parseHeader pinnedV1P pinnedV2P [some 8364]
    (asciiBytes ("OFXHEADER:100DATA:OFXSGMLVERSION:102SECURITY:NONEENCODING:USASCIICHARSET:1252" ++
      "COMPRESSION:NONEOLDFILEUID:NONENEWFILEUID:NONE").toList ++ [60, 65, 62, 0x80, 0xE9, 60, 47, 65, 62])) =
    some "<A>€é</A>".toList := by
  -- the literals as character lists first: evaluated as strings, the kernel runs the UTF-8 decoder over them
  rw [String.toList_append, String.toList_ofList, String.toList_ofList, String.toList_ofList]
  decide +kernel

/-- and on a v2 file with single quotes, an omitted pseudo-attribute and no line feed before a non-ASCII body -/
example : bodyOf (parseHeader pinnedV1P pinnedV2P []
    (asciiBytes ("<?xml version='1.0' standalone=\"no\"?><?OFX OFXHEADER='200' VERSION=\"220\" SECURITY='NONE' " ++
      "OLDFILEUID='NONE' NEWFILEUID='NONE'?>").toList ++ [60, 65, 62, 0xC3, 0xA9, 60, 47, 65, 62])) =
    some "<A>é</A>".toList := by
  rw [String.toList_append, String.toList_ofList, String.toList_ofList, String.toList_ofList]
  decide +kernel

end Ofx.Header
