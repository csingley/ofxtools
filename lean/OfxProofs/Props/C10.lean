/-
C10 — element type converters are mutually inverse, canonical, and strict at limits.

Per converter `T` (`bool`, `string` for String and NagString, `oneof`, `integer`, `decimal`; `C10_list` for
ListElement), universally quantified over parameters, values and texts:
  `C10_T_inv…`     writing a domain value and reading it back returns the value
  `C10_T_canon…`   reading an accepted text and writing it gives a text that reads to the same value (hence a
                   fixed point: see `C10_canon_fixed_point`)
  `C10_T_none`     `None` passes exactly when the element is optional
  `C10_T_limits…`  exact accept/reject characterisation at the declared limits
  `C10_T_wrongty…` values of a wrong Python type are refused on write
Where the code violates a full-strength statement (String: entity spellings in the value; Decimal: positive
exponents), the statement is kept as `def …_full : Prop`, refuted by `…_full_false` from a concrete witness, and
the strongest true statement is proved (`…_partial`, or the unsuffixed theorem with its guard).  A *theorem* named
`…_full` (Integer, `C10_decimal_scale_full`) is a full-strength statement that holds.
-/
import OfxModel.Ofx.Types
import OfxProofs.Lemmas.Str
import OfxProofs.Lemmas.Dec
import OfxProofs.Lemmas.Types
import OfxProofs.Lemmas.Reads

namespace Ofx.Types
open Ofx

/-- what the fixed-point clause of the property follows from -/
theorem C10_canon_fixed_point (cv uc : Val → PyM Val) (v t : Val)
    (h1 : uc v = .ok t) (h2 : cv t = .ok v) : (cv t >>= uc) = .ok t := by
  simp [h2, h1]

theorem enforceRequired_none (r : Bool) :
    enforceRequired r .none = if r then .error .spec else .ok .none := rfl

theorem C10_bool_none (r : Bool) :
    boolConvert r .none = (if r then .error .spec else .ok .none) ∧
    boolUnconvert r .none = (if r then .error .spec else .ok .none) := ⟨rfl, rfl⟩

theorem C10_string_none (l : Option Nat) (st r : Bool) :
    stringConvert l st r .none = (if r then .error .spec else .ok .none) ∧
    stringUnconvert l st r .none = (if r then .error .spec else .ok .none) := ⟨rfl, rfl⟩

theorem C10_oneof_none (valid : List Str) (r : Bool) :
    oneOfConvert valid r .none = (if r then .error .spec else .ok .none) ∧
    oneOfUnconvert valid r .none = (if r then .error .spec else .ok .none) := ⟨rfl, rfl⟩

theorem C10_integer_none (l : Option Nat) (r : Bool) :
    integerConvert l r .none = (if r then .error .spec else .ok .none) ∧
    integerUnconvert l r .none = (if r then .error .spec else .ok .none) := ⟨rfl, rfl⟩

theorem C10_decimal_none (q : Option Int) (r : Bool) :
    decimalConvert q r .none = (if r then .error .spec else .ok .none) ∧
    decimalUnconvert q r .none = (if r then .error .spec else .ok .none) := ⟨rfl, rfl⟩

/-- the empty text reads as `None` for String, OneOf and Integer (so it passes exactly when optional) -/
theorem C10_empty_text_none (l : Option Nat) (st r : Bool) (valid : List Str) :
    stringConvert l st r (.str []) = (if r then .error .spec else .ok .none) ∧
    oneOfConvert valid r (.str []) = (if r then .error .spec else .ok .none) ∧
    integerConvert l r (.str []) = (if r then .error .spec else .ok .none) := ⟨rfl, rfl, rfl⟩

theorem C10_bool_inv (r : Bool) (b : Bool) :
    ∃ t, boolUnconvert r (.bool b) = .ok (.str t) ∧ boolConvert r (.str t) = .ok (.bool b) := by
  cases b <;> exact ⟨_, rfl, rfl⟩

theorem C10_bool_limits (r : Bool) (s : Str) (v : Val) :
    boolConvert r (.str s) = .ok v ↔ (s = ['Y'] ∧ v = .bool true) ∨ (s = ['N'] ∧ v = .bool false) := by
  unfold boolConvert
  by_cases h1 : s = ['Y']
  · subst h1; simp; exact eq_comm
  · by_cases h2 : s = ['N']
    · subst h2; simp; exact eq_comm
    · simp [h1, h2]

theorem C10_bool_canon (r : Bool) (s : Str) (v : Val) (h : boolConvert r (.str s) = .ok v) :
    ∃ t, boolUnconvert r v = .ok t ∧ boolConvert r t = .ok v := by
  rcases (C10_bool_limits r s v).mp h with ⟨_, rfl⟩ | ⟨_, rfl⟩
  · exact ⟨_, rfl, rfl⟩
  · exact ⟨_, rfl, rfl⟩

theorem C10_bool_wrongty (r : Bool) (v : Val) (h1 : v ≠ .none) (h2 : ∀ b, v ≠ .bool b) :
    boolUnconvert r v = .error .spec := by
  cases v <;> simp_all [boolUnconvert]

theorem C10_string_limits_write (l : Option Nat) (st r : Bool) (s : Str) :
    stringUnconvert l st r (.str s) = if fits l st s then .ok (.str s) else .error .spec := by
  simp only [stringUnconvert, strEnforceLength_eq]
  split <;> rfl

theorem C10_string_limits_read (l : Option Nat) (st r : Bool) (s : Str) (hs : s ≠ []) :
    stringConvert l st r (.str s) =
      if fits l st (unescape s) then .ok (.str (unescape s)) else .error .spec :=
  convert_string_text [] l st r hs

/-- at the limit: `length` characters pass, `length + 1` are refused by `String`, kept whole by `NagString` -/
theorem C10_string_limits (n : Nat) (r : Bool) (s : Str) :
    (s.length = n → stringUnconvert (some n) true r (.str s) = .ok (.str s)) ∧
    (s.length = n + 1 → stringUnconvert (some n) true r (.str s) = .error .spec) ∧
    (stringUnconvert (some n) false r (.str s) = .ok (.str s)) := by
  refine ⟨fun h => ?_, fun h => ?_, ?_⟩
  · rw [C10_string_limits_write]; simp [fits, h]
  · rw [C10_string_limits_write]; simp [fits, h]
  · rw [C10_string_limits_write]; simp [fits]

theorem C10_string_wrongty (l : Option Nat) (st r : Bool) (v : Val) (h1 : v ≠ .none) (h2 : ∀ s, v ≠ .str s) :
    stringUnconvert l st r v = .error .type ∧ stringConvert l st r v = .error .type := by
  cases v <;> simp_all [stringUnconvert, stringConvert]

def C10_string_inv_full : Prop :=
  ∀ (l : Option Nat) (st r : Bool) (s : Str), s ≠ [] → fits l st s = true →
    ∃ t, stringUnconvert l st r (.str s) = .ok (.str t) ∧ stringConvert l st r (.str t) = .ok (.str s)

/-- false: `unconvert` does not escape, `convert` unescapes — `"&amp;"` reads back as `"&"` -/
theorem C10_string_inv_full_false : ¬ C10_string_inv_full := by
  intro h
  obtain ⟨t, h1, h2⟩ := h none true false "&amp;".toList (by decide) rfl
  have ht : t = "&amp;".toList := by
    have : stringUnconvert none true false (.str "&amp;".toList) = .ok (.str "&amp;".toList) := rfl
    rw [this] at h1
    injection h1 with h1; injection h1 with h1; exact h1.symm
  subst ht
  have : stringConvert none true false (.str "&amp;".toList) = .ok (.str "&".toList) := by rfl
  rw [this] at h2
  injection h2 with h2; injection h2 with h2
  exact absurd h2 (by decide)

/-- the guard: the value contains no entity spelling (decoding leaves it unchanged) -/
def entityFree (s : Str) : Bool := decide (unescape s = s)

theorem entityFree_of_no_amp (s : Str) (h : '&' ∉ s) : entityFree s = true := by
  simp [entityFree, unescape_no_amp s h]

theorem C10_string_inv_partial (l : Option Nat) (st r : Bool) (s : Str) (hs : s ≠ [])
    (hfit : fits l st s = true) (hfree : entityFree s = true) :
    stringUnconvert l st r (.str s) = .ok (.str s) ∧ stringConvert l st r (.str s) = .ok (.str s) := by
  have hu : unescape s = s := by simpa [entityFree] using hfree
  rw [C10_string_limits_write, C10_string_limits_read l st r s hs, hu]
  simp [hfit]

example : entityFree "AT&T <Üñí> 100%;".toList = true := by decide +kernel

def C10_string_canon_full : Prop :=
  ∀ (l : Option Nat) (st r : Bool) (s : Str) (v : Val), stringConvert l st r (.str s) = .ok v →
    ∃ t, stringUnconvert l st r v = .ok t ∧ stringConvert l st r t = .ok v

/-- false: `"&amp;lt;"` reads as `"&lt;"`, which is written verbatim and reads as `"<"` -/
theorem C10_string_canon_full_false : ¬ C10_string_canon_full := by
  intro h
  have hc : stringConvert none true false (.str "&amp;lt;".toList) = .ok (.str "&lt;".toList) := by rfl
  obtain ⟨t, h1, h2⟩ := h none true false "&amp;lt;".toList _ hc
  have : stringUnconvert none true false (.str "&lt;".toList) = .ok (.str "&lt;".toList) := rfl
  rw [this] at h1
  injection h1 with h1
  subst h1
  have : stringConvert none true false (.str "&lt;".toList) = .ok (.str "<".toList) := by rfl
  rw [this] at h2
  injection h2 with h2; injection h2 with h2
  exact absurd h2 (by decide)

/-- under the guard, the canonical text is the value itself -/
theorem C10_string_canon_partial (l : Option Nat) (st r : Bool) (s : Str) (v : Val)
    (h : stringConvert l st r (.str s) = .ok v) (hfree : ∀ u, v = .str u → entityFree u = true) :
    ∃ t, stringUnconvert l st r v = .ok t ∧ stringConvert l st r t = .ok v := by
  cases reads_of_convert [] (.string l st) r _ v h with
  | empty _ => exact ⟨.none, rfl, rfl⟩
  | string hs hf =>
    have hne : unescape s ≠ [] := fun e => hs ((unescape_eq_nil s).mp e)
    have := C10_string_inv_partial l st r (unescape s) hne hf (hfree _ rfl)
    exact ⟨_, this.1, this.2⟩

theorem C10_oneof_limits (valid : List Str) (r : Bool) (s : Str) (v : Val) :
    oneOfConvert valid r (.str s) = .ok v ↔
      (s = [] ∧ r = false ∧ v = .none) ∨ (s ≠ [] ∧ s ∈ valid ∧ v = .str s) := by
  unfold oneOfConvert
  by_cases hs : s = []
  · subst hs
    cases r <;> simp [oneOfDefault, enforceRequired]
    exact eq_comm
  · simp only [hs, if_false, oneOfDefault]
    by_cases hm : s ∈ valid
    · simp [hm, hs]; exact eq_comm
    · simp [hm, hs]

theorem C10_oneof_write (valid : List Str) (r : Bool) (s : Str) :
    oneOfUnconvert valid r (.str s) = if s ∈ valid then .ok (.str s) else .error .spec := by
  simp [oneOfUnconvert, oneOfDefault]

theorem C10_oneof_inv (valid : List Str) (r : Bool) (s : Str) (hm : s ∈ valid) (hs : s ≠ []) :
    oneOfUnconvert valid r (.str s) = .ok (.str s) ∧ oneOfConvert valid r (.str s) = .ok (.str s) := by
  refine ⟨by simp [C10_oneof_write, hm], ?_⟩
  exact (C10_oneof_limits valid r s _).mpr (Or.inr ⟨hs, hm, rfl⟩)

theorem C10_oneof_canon (valid : List Str) (r : Bool) (s : Str) (v : Val)
    (h : oneOfConvert valid r (.str s) = .ok v) :
    ∃ t, oneOfUnconvert valid r v = .ok t ∧ oneOfConvert valid r t = .ok v := by
  rcases (C10_oneof_limits valid r s v).mp h with ⟨_, hr, rfl⟩ | ⟨hs, hm, rfl⟩
  · subst hr; exact ⟨.none, rfl, rfl⟩
  · have := C10_oneof_inv valid r s hm hs
    exact ⟨_, this.1, this.2⟩

theorem C10_oneof_wrongty (valid : List Str) (r : Bool) (v : Val) (h1 : v ≠ .none) (h2 : ∀ s, v ≠ .str s) :
    oneOfUnconvert valid r v = .error .spec ∧ oneOfConvert valid r v = .error .spec := by
  cases v <;> simp_all [oneOfUnconvert, oneOfConvert, oneOfDefault]

/-- an `int` is written exactly when `abs(value) < 10**length` -/
theorem C10_integer_limits_write (l : Option Nat) (r : Bool) (i : Int) :
    integerUnconvert l r (.int i) = if intFits l i then .ok (.str (pyStrInt i)) else .error .spec := by
  simp only [integerUnconvert, intEnforceLength_ok]
  split <;> rfl

theorem C10_integer_limits_read (l : Option Nat) (r : Bool) (i : Int) :
    integerConvert l r (.str (pyStrInt i)) = if intFits l i then .ok (.int i) else .error .spec :=
  convert_integer_text [] l r (pyStrInt_ne_nil i) (pyIntParse_pyStrInt i)

/-- at the limit: `±(10^n − 1)` pass, `±10^n` are refused, on write and on read -/
theorem C10_integer_limits (n : Nat) (r : Bool) (neg : Bool) :
    let top : Int := if neg then -(((10 ^ n - 1 : Nat) : Int)) else ((10 ^ n - 1 : Nat) : Int)
    let over : Int := if neg then -(((10 ^ n : Nat) : Int)) else ((10 ^ n : Nat) : Int)
    integerUnconvert (some n) r (.int top) = .ok (.str (pyStrInt top)) ∧
    integerUnconvert (some n) r (.int over) = .error .spec ∧
    integerConvert (some n) r (.str (pyStrInt top)) = .ok (.int top) ∧
    integerConvert (some n) r (.str (pyStrInt over)) = .error .spec := by
  have hpos : 0 < 10 ^ n := Nat.pow_pos (by decide)
  have h1 : ∀ b : Bool, (if b then -(((10 ^ n - 1 : Nat) : Int)) else ((10 ^ n - 1 : Nat) : Int)).natAbs = 10 ^ n - 1 := by
    intro b; cases b <;> simp
  have h2 : ∀ b : Bool, (if b then -(((10 ^ n : Nat) : Int)) else ((10 ^ n : Nat) : Int)).natAbs = 10 ^ n := by
    intro b; cases b <;> simp
  simp only []
  refine ⟨?_, ?_, ?_, ?_⟩
  · rw [C10_integer_limits_write]; simp only [intFits, h1]; simp; omega
  · rw [C10_integer_limits_write]; simp only [intFits, h2]; simp
  · rw [C10_integer_limits_read]; simp only [intFits, h1]; simp; omega
  · rw [C10_integer_limits_read]; simp only [intFits, h2]; simp

theorem C10_integer_inv (l : Option Nat) (r : Bool) (i : Int) (h : intFits l i = true) :
    integerUnconvert l r (.int i) = .ok (.str (pyStrInt i)) ∧
    integerConvert l r (.str (pyStrInt i)) = .ok (.int i) := by
  rw [C10_integer_limits_write, C10_integer_limits_read]; simp [h]

theorem C10_integer_canon (l : Option Nat) (r : Bool) (s : Str) (v : Val)
    (h : integerConvert l r (.str s) = .ok v) :
    ∃ t, integerUnconvert l r v = .ok t ∧ integerConvert l r t = .ok v := by
  cases reads_of_convert [] (.integer l) r _ v h with
  | empty _ => exact ⟨.none, rfl, rfl⟩
  | intText _ _ hf => exact ⟨_, (C10_integer_inv l r _ hf).1, (C10_integer_inv l r _ hf).2⟩

/-- the limit as an equivalence, for every integer (Types.py:352 `abs(value) >= 10**length`) -/
theorem C10_integer_limits_full (n : Nat) (r : Bool) (i : Int) :
    (∃ t, integerUnconvert (some n) r (.int i) = .ok t) ↔ i.natAbs < 10 ^ n := by
  rw [C10_integer_limits_write]
  by_cases h : i.natAbs < 10 ^ n <;> simp [intFits, h]

theorem C10_integer_limits_full_read (n : Nat) (r : Bool) (s : Str) (i : Int) (hs : s ≠ [])
    (hp : pyIntParse s = some i) :
    (∃ v, integerConvert (some n) r (.str s) = .ok v) ↔ i.natAbs < 10 ^ n := by
  rw [show integerConvert (some n) r (.str s) = _ from convert_integer_text [] (some n) r hs hp]
  by_cases h : i.natAbs < 10 ^ n <;> simp [intFits, h]

/-- full strength: only `int` (and `None`) is written; in particular a `bool` is refused -/
theorem C10_integer_wrongty_full (l : Option Nat) (r : Bool) (v : Val) (h1 : v ≠ .none) (h2 : ∀ i, v ≠ .int i) :
    integerUnconvert l r v = .error .type := by
  cases v <;> simp_all [integerUnconvert]

theorem C10_integer_bool_refused (l : Option Nat) (r : Bool) (b : Bool) :
    integerUnconvert l r (.bool b) = .error .type ∧ integerConvert l r (.bool b) = .error .type := ⟨rfl, rfl⟩

theorem decOfTextRaw_formatF (neg : Bool) (c : Nat) (e : Int) :
    decOfTextRaw (decFormatF (.fin neg c e)) = .ok (Dec.renorm (.fin neg c e)) := by
  simp [decOfTextRaw, decParse_decFormatF]

theorem renorm_isFinite (neg : Bool) (c : Nat) (e : Int) : (Dec.renorm (.fin neg c e)).isFinite = true := by
  simp only [Dec.renorm]; split <;> rfl

theorem decOfText_formatF (neg : Bool) (c : Nat) (e : Int) :
    decOfText (decFormatF (.fin neg c e)) = .ok (Dec.renorm (.fin neg c e)) := by
  simp [decOfText, decOfTextRaw_formatF, renorm_isFinite]

theorem decOfText_finite (s : Str) (d : Dec) (h : decOfText s = .ok d) : d.isFinite = true := by
  obtain ⟨d0, _, h⟩ := PyM.bind_ok h
  split at h
  · cases h; assumption
  · cases h

theorem decimal_text_reads (q : Option Int) (r : Bool) (s : Str) (v : Val) (h : decimalConvert q r (.str s) = .ok v) :
    ∃ neg c e, v = .dec (.fin neg c e) ∧ ∀ qe, q = some qe → e = qe ∧ fitsPrec c = true := by
  cases reads_of_convert [] (.decimal q) r _ v h with
  | empty hk => cases hk
  | @decText _ _ _ d0 d h1 h2 => ?_
  have hf := decOfText_finite s d0 h1
  cases q with
  | none =>
    cases h2
    cases d0 <;> simp [Dec.isFinite] at hf
    exact ⟨_, _, _, rfl, nofun⟩
  | some qe =>
    rcases quantize_ok d0 d qe h2 with ⟨n, c, rfl, hc, _⟩ | ⟨n, p, p', hd, _⟩
    · exact ⟨_, _, _, rfl, fun _ hq => Option.some.inj hq ▸ ⟨rfl, hc⟩⟩
    · subst hd; simp [Dec.isFinite] at hf

/-- whatever a text reads as is a finite decimal (non-finite literals are refused) -/
theorem C10_decimal_read_finite (q : Option Int) (r : Bool) (s : Str) (v : Val)
    (h : decimalConvert q r (.str s) = .ok v) : ∃ neg c e, v = .dec (.fin neg c e) := by
  obtain ⟨neg, c, e, rfl, _⟩ := decimal_text_reads q r s v h
  exact ⟨_, _, _, rfl⟩

/-- non-finite values are refused on write (on read: `C10_decimal_read_finite`) -/
theorem C10_decimal_nonfinite_refused (q : Option Int) (r : Bool) (d : Dec) (h : d.isFinite = false) :
    decimalUnconvert q r (.dec d) = .error .value := by
  rw [C10_decimal_limits_write]; simp [h]

/-- without a scale, exact: every finite decimal with exponent ≤ 0 (any coefficient, signed zeros) is
    written in plain notation and reads back with the same sign, coefficient and exponent -/
theorem C10_decimal_inv (r : Bool) (neg : Bool) (c : Nat) (e : Int) (he : e ≤ 0) :
    decimalUnconvert none r (.dec (.fin neg c e)) = .ok (.str (decFormatF (.fin neg c e))) ∧
    decimalConvert none r (.str (decFormatF (.fin neg c e))) = .ok (.dec (.fin neg c e)) := by
  refine ⟨rfl, ?_⟩
  simp [decimalConvert, decOfText_formatF, Dec.renorm_of_nonpos neg c e he, applyScale]

/-- without a scale, numeric form: a finite decimal with a positive exponent reads back as the same number rescaled to
    exponent 0 -/
theorem C10_decimal_inv_numeric (r : Bool) (neg : Bool) (c : Nat) (e : Int) (he : e > 0) :
    decimalUnconvert none r (.dec (.fin neg c e)) = .ok (.str (decFormatF (.fin neg c e))) ∧
    decimalConvert none r (.str (decFormatF (.fin neg c e))) = .ok (.dec (.fin neg (c * 10 ^ e.toNat) 0)) := by
  refine ⟨rfl, ?_⟩
  simp [decimalConvert, decOfText_formatF, Dec.renorm, he, applyScale]

def C10_decimal_inv_full : Prop :=
  ∀ (r : Bool) (neg : Bool) (c : Nat) (e : Int), ∃ t,
    decimalUnconvert none r (.dec (.fin neg c e)) = .ok (.str t) ∧
    decimalConvert none r (.str t) = .ok (.dec (.fin neg c e))

/-- false: plain notation cannot carry a positive exponent — `Decimal('1E+2')` is written `100` and reads back as
    `Decimal('100')` (numerically equal; consequence of writing what OFX requires) -/
theorem C10_decimal_inv_full_false : ¬ C10_decimal_inv_full := by
  intro h
  obtain ⟨t, h1, h2⟩ := h false false 1 2
  have ht : t = "100".toList := by
    have : decimalUnconvert none false (.dec (.fin false 1 2)) = .ok (.str "100".toList) := by rfl
    rw [this] at h1; injection h1 with h1; injection h1 with h1; exact h1.symm
  subst ht
  have : decimalConvert none false (.str "100".toList) = .ok (.dec (.fin false 100 0)) := by rfl
  rw [this] at h2
  injection h2 with h2; injection h2 with h2
  exact absurd h2 (by decide)

theorem C10_decimal_canon (r : Bool) (s : Str) (neg : Bool) (c : Nat) (e : Int)
    (h : decimalConvert none r (.str s) = .ok (.dec (.fin neg c e))) (he : e ≤ 0) :
    ∃ t, decimalUnconvert none r (.dec (.fin neg c e)) = .ok t ∧ decimalConvert none r t = .ok (.dec (.fin neg c e)) :=
  ⟨_, (C10_decimal_inv r neg c e he).1, (C10_decimal_inv r neg c e he).2⟩

/-- a positive exponent is only reachable from an exponent literal such as `1E+2`, which the lenient read still
    accepts; the canonical text reads to the renormalised value -/
theorem C10_decimal_canon_numeric (r : Bool) (neg : Bool) (c : Nat) (e : Int) (he : e > 0) :
    ∃ t, decimalUnconvert none r (.dec (.fin neg c e)) = .ok t ∧
      decimalConvert none r t = .ok (.dec (.fin neg (c * 10 ^ e.toNat) 0)) :=
  ⟨_, (C10_decimal_inv_numeric r neg c e he).1, (C10_decimal_inv_numeric r neg c e he).2⟩

/-- with a scale: whatever is read is finite, at the quantum, and fits the precision of the context -/
theorem C10_decimal_limits_read (qe : Int) (r : Bool) (s : Str) (v : Val)
    (h : decimalConvert (some qe) r (.str s) = .ok v) :
    ∃ n c, v = .dec (.fin n c qe) ∧ fitsPrec c = true := by
  obtain ⟨neg, c, e, rfl, hq⟩ := decimal_text_reads (some qe) r s v h
  obtain ⟨rfl, hc⟩ := hq qe rfl
  exact ⟨_, _, rfl, hc⟩

/-- with a scale (quantum exponent `qe ≤ 0`, i.e. any scale ≥ 0): every finite value at the quantum whose
    coefficient fits the context precision -/
theorem C10_decimal_inv_scaled (qe : Int) (hq : qe ≤ 0) (r : Bool) (n : Bool) (c : Nat) (hc : fitsPrec c = true) :
    decimalUnconvert (some qe) r (.dec (.fin n c qe)) = .ok (.str (decFormatF (.fin n c qe))) ∧
    decimalConvert (some qe) r (.str (decFormatF (.fin n c qe))) = .ok (.dec (.fin n c qe)) := by
  constructor
  · rw [C10_decimal_limits_write]; simp [atQuantum, sameQuantum, Dec.isFinite]
  · simp [decimalConvert, decOfText_formatF, Dec.renorm_of_nonpos n c qe hq, applyScale, quantize_self n c qe hc]

example : fitsPrec 9999999999999999999999999999 = true := by decide +kernel

/-- with a scale, full strength (non-finite literals are refused) -/
theorem C10_decimal_canon_scaled (qe : Int) (hq : qe ≤ 0) (r : Bool) (s : Str) (v : Val)
    (h : decimalConvert (some qe) r (.str s) = .ok v) :
    ∃ t, decimalUnconvert (some qe) r v = .ok t ∧ decimalConvert (some qe) r t = .ok v := by
  obtain ⟨n, c, rfl, hc⟩ := C10_decimal_limits_read qe r s v h
  exact ⟨_, (C10_decimal_inv_scaled qe hq r n c hc).1, (C10_decimal_inv_scaled qe hq r n c hc).2⟩

example : decimalConvert (some (-2)) false (.str "1,005".toList) = .ok (.dec (.fin false 100 (-2))) := by rfl
example : decimalConvert (some (-2)) false (.str "NaN".toList) = .error .spec := by rfl

/-- a text never reads as `None` for Decimal (the empty text raises) -/
theorem C10_decimal_text_not_none (q : Option Int) (r : Bool) (s : Str) : decimalConvert q r (.str s) ≠ .ok .none := by
  intro h
  cases reads_of_convert [] (.decimal q) r _ _ h with | empty hk => cases hk

theorem C10_decimal_wrongty (q : Option Int) (r : Bool) (v : Val) (h1 : v ≠ .none) (h2 : ∀ d, v ≠ .dec d) :
    decimalUnconvert q r v = .error .type := by
  cases v <;> simp_all [decimalUnconvert]

/-- the quantum, full strength: `Decimal(scale = n)` rounds to `10^-n`, for every `n` including 0 -/
theorem C10_decimal_scale_full (n : Nat) : quantumOfScale n = .fin false 1 (-(n : Int)) := rfl

/-- `ListElement` delegates to its converter (with the inner converter's `required`) -/
theorem C10_list (enums : List (List Str)) (k : Kind) (ir r : Bool) (v : Val) :
    convert enums (.listElem k ir) r v = convert enums k ir v ∧
    unconvert enums (.listElem k ir) r v = unconvert enums k ir v := ⟨rfl, rfl⟩

end Ofx.Types
