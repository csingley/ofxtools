/-
C01 — the whole-file theorem: `readFile (writeFile …) = (header, instance)`.
The body half (`written_readBody`, Props/C01Wire.lean) composed with the header layer: make_header yields a valid
object; utf-8 encoding is total and splits; parse_header returns exactly the body — under a v1 header without the
white space a pretty-printed body ends in, under a v2 header with it, so the body is read back in both spellings.
-/
import OfxProofs.Props.C01Wire
import OfxProofs.Lemmas.HeaderPipeline
namespace Ofx.Pipeline
open Ofx Ofx.Agg Ofx.Spec.Wire Ofx.Serialize Ofx.Header Ofx.Codec

theorem rendering_ends {t : Tree} {r : Str} (h : Rendering t r) (ht : t.text = none) :
    r.head? = some '<' ∧ r.getLast? = some '>' := by
  cases h with
  | leafOpen | leafClosed => cases ht
  | agg tag cs w s h1 h2 h3 =>
    refine ⟨rfl, ?_⟩
    have : Spec.Wire.startTag tag ++ (w ++ (s ++ Spec.Wire.endTag tag)) =
        (Spec.Wire.startTag tag ++ (w ++ (s ++ '<' :: '/' :: tag))) ++ ['>'] := by
      simp [Spec.Wire.startTag, Spec.Wire.endTag]
    rw [this, List.getLast?_append]; simp

section
variable (E : Env) (Dom : Kind → Bool → Val → Prop)

theorem readFile_of_header (file : Bytes) (hdr : Hdr) (body : Str) (i : Node)
    (hp : parseHeader E.p1 E.p2 E.cp1252 file = .ok (hdr, body))
    (hb : readBody E.S E.cv body = .ok i) : readFile E file = .ok (hdr, i) := by
  unfold readBody at hb
  simp only [readFile, hp, PyM.ok_bind]
  obtain ⟨r, hpar, hb⟩ := PyM.bind_ok hb
  rw [hpar, PyM.ok_bind]
  cases r with
  | none => simp at hb
  | some t => simp only at hb ⊢; simp [hb]

/-- The whole-file round trip in either form: with end tags, or without them under a 1xx header (the serializer refuses
    that form from version 200 on) when no aggregate is written childless. -/
theorem file_roundtrip (laws : ConvLaws E.cv E.S.enums escapeCdata Dom)
    (htext : TextOk E.S E.cv Dom)
    (htag : ∀ ci c, E.S.cls? ci = some c → c.abstract = false → TagWF E.htmlEmpty c)
    (wf1 : WFV1 E.p1) (wf2 : WFV2 E.p2) (v : Nat) (old new : Option Str)
    (ho1 : UidOk E.p1.oldLen old) (hn1 : UidOk E.p1.newLen new)
    (ho2 : UidOk E.p2.oldLen old) (hn2 : UidOk E.p2.newLen new)
    (pretty close : Bool) (i : Node) (hv : Valid E.S E.cv escapeCdata Dom i) (hdr : Hdr)
    (hmk : makeHeader E.p1 E.p2 (.int v) none old new = .ok hdr)
    (hform : close = true ∨ v < 200 ∧ ∀ t, toEtree E.S E.cv i = .ok t → unclosedGuard t = true) :
    ∃ file, writeFile E v old new pretty close i = .ok file ∧ readFile E file = .ok (hdr, i) := by
  obtain ⟨t, ht, hw, hs, hg, hread⟩ := written_readBody E.S E.cv E.htmlEmpty Dom laws htext htag i hv
  obtain ⟨r, w, hr, hws, hbody⟩ := body_renders E.htmlEmpty close pretty t hw (fun _ => hs) (fun hc => by
    rcases hform with h | ⟨_, h⟩
    · rw [h] at hc; cases hc
    · simpa [unclosedGuard] using h t ht)
  have hr' := rendering_renders_strict hr ((g3Ok_escapeTree_both.1 t).trans hg)
  obtain ⟨hr0, hr1⟩ := rendering_ends hr (by
    cases i with
    | val x => simp [Valid] at hv
    | agg ci f its =>
      obtain ⟨⟨c, ok⟩, _, _⟩ := hv
      obtain ⟨_, htx⟩ := toEtree_shape E.S E.cv ci f its c t ok.hc ht
      cases t with
      | node tg x tl cs => cases htx; rfl)
  obtain ⟨bb, hbb⟩ := encode_utf8_total E.cp1252 (r ++ w)
  have hwrite : ∀ bytes, encode E.cp1252 .utf8 (strHdr hdr ++ (r ++ w)) = .ok bytes →
      writeFile E v old new pretty close i = .ok bytes := fun bytes henc => by
    simp only [writeFile, hmk, ht, SER_serialize_ok _ _ _ _ _ _ (hform.imp_right And.left), hbody, PyM.ok_bind]
    exact henc
  cases hdr with
  | v1 h =>
    obtain ⟨hval, hcodec, _⟩ := makeHeader_v1_valid E.p1 E.p2 wf1 v none old new h trivial ho1 hn1 hmk
    exact ⟨asciiBytes (strV1 h) ++ bb,
      hwrite _ (encode_append _ _ _ _ _ _ (encode_utf8_ascii _ _ (strV1_ascii E.p1 h hval)) hbb),
      readFile_of_header E _ _ r i
        (C12_roundtrip_v1_ws E.p1 E.p2 E.cp1252 h r w bb .utf8 hval hcodec hbb hr0 hr1 hws)
        (hread r ⟨[], r, [], rfl, rfl, hr', by simp⟩)⟩
  | v2 h =>
    obtain ⟨hval, _⟩ := makeHeader_v2_valid E.p1 E.p2 wf2 v none old new h trivial ho2 hn2 hmk
    exact ⟨asciiBytes (strV2 h) ++ bb,
      hwrite _ (encode_append _ _ _ _ _ _ (encode_utf8_ascii _ _ (strV2_ascii E.p2 h hval)) hbb),
      readFile_of_header E _ _ (r ++ w) i
        (C12_roundtrip_v2_ws E.p1 E.p2 E.cp1252 h r w bb hval hbb hr0)
        (hread _ ⟨[], r, w, rfl, ws_bridge hws, hr', by simp⟩)⟩

/-- C01, whole file, closed forms: `OFXClient.serialize` (header + `ET.tostring(method="html")` body, plain
    or pretty, utf-8) followed by `OFXTree.parse` + `convert` returns the header written and the instance —
    for every supported version (`makeHeader` succeeded), every valid instance. -/
theorem C01_file_roundtrip_closed (laws : ConvLaws E.cv E.S.enums escapeCdata Dom)
    (htext : TextOk E.S E.cv Dom)
    (htag : ∀ ci c, E.S.cls? ci = some c → c.abstract = false → TagWF E.htmlEmpty c)
    (wf1 : WFV1 E.p1) (wf2 : WFV2 E.p2) (v : Nat) (old new : Option Str)
    (ho1 : UidOk E.p1.oldLen old) (hn1 : UidOk E.p1.newLen new)
    (ho2 : UidOk E.p2.oldLen old) (hn2 : UidOk E.p2.newLen new)
    (pretty : Bool) (i : Node) (hv : Valid E.S E.cv escapeCdata Dom i) (hdr : Hdr)
    (hmk : makeHeader E.p1 E.p2 (.int v) none old new = .ok hdr) :
    ∃ file, writeFile E v old new pretty true i = .ok file ∧ readFile E file = .ok (hdr, i) :=
  file_roundtrip E Dom laws htext htag wf1 wf2 v old new ho1 hn1 ho2 hn2 pretty true i hv hdr hmk (Or.inl rfl)

/-- C01, whole file, unclosed SGML form (`close_elements=False`, versions below 200; plain or pretty), for
    instances whose written tree has no childless aggregate (known finding). -/
theorem C01_file_roundtrip_unclosed_partial (laws : ConvLaws E.cv E.S.enums escapeCdata Dom)
    (htext : TextOk E.S E.cv Dom)
    (htag : ∀ ci c, E.S.cls? ci = some c → c.abstract = false → TagWF E.htmlEmpty c)
    (wf1 : WFV1 E.p1) (wf2 : WFV2 E.p2) (v : Nat) (old new : Option Str)
    (ho1 : UidOk E.p1.oldLen old) (hn1 : UidOk E.p1.newLen new)
    (ho2 : UidOk E.p2.oldLen old) (hn2 : UidOk E.p2.newLen new)
    (pretty : Bool) (i : Node) (hv : Valid E.S E.cv escapeCdata Dom i) (hdr : Hdr)
    (hmk : makeHeader E.p1 E.p2 (.int v) none old new = .ok hdr) (hv200 : v < 200)
    (hguard : ∀ t, toEtree E.S E.cv i = .ok t → unclosedGuard t = true) :
    ∃ file, writeFile E v old new pretty false i = .ok file ∧ readFile E file = .ok (hdr, i) :=
  file_roundtrip E Dom laws htext htag wf1 wf2 v old new ho1 hn1 ho2 hn2 pretty false i hv hdr hmk
    (Or.inr ⟨hv200, hguard⟩)

end
end Ofx.Pipeline
