/-
C03, every class: one nesting level by slots (`C03_level_*`, both read off `level_match`), whole documents
(`C03_deep_*`, by induction on the tree with `DeepValue` / `DeepOnly` as the hypotheses), documents as text
(`C03_document_*`: `parseConvert` is the parser followed by `from_etree`, and C02 gives the tree back).

`Spec/DocValues.lean` defines — as plain structural walks, with no reference to the reader's accumulator — the
addressed data elements of a document (`docElems S t`: path from the root, element kind the schema declares, text)
and the addressed leaf values of an instance (`instValues inst`).  A path step is the attribute name for a child
declared once and the position among the instance's list members for a repeated child.  For the three classes whose
reader renames a child (`groom`: STOCKINFO/MFINFO `YIELD→YLD`, MAIL `FROM→FRM`) the child tagged with the rename's
source is read under the attribute of the rename's target (`slotOf` applies `effTag`).

Generic in the schema and the converters.  The only premise on the schema is that attribute names are distinct
within a class (`Gen.schema_spec_nodup` for the generated one); "nothing invented" needs of the converters that
they return `None` for `None` and refuse objects (`Gen.typesConv_none`, `Gen.typesConv_other`).
-/
import OfxProofs.Lemmas.C03Deep
import OfxProofs.Props.C02
namespace Ofx.Agg
open Ofx Ofx.Spec

def SpecNodup (S : Schema) : Prop := ∀ ci c, S.cls? ci = some c → (c.spec.map (·.name)).Nodup

theorem specNoList_of_residual (c : Cls) (hnd : (c.spec.map (·.name)).Nodup) (kw : List (Str × Node))
    (hres : applyResidual c kw = .ok ()) (a : Attr) (ha : a ∈ c.spec) (raw : Node) (hm : (a.name, raw) ∈ kw) :
    a ∈ specNoList c := by
  unfold applyResidual at hres
  split at hres
  · rename_i hr
    unfold residualKeys at hr
    have hall := List.filter_eq_nil_iff.mp hr a.name (List.mem_map.mpr ⟨(a.name, raw), hm, rfl⟩)
    simp only [Bool.not_eq_true, Bool.not_eq_false', List.contains_iff_mem, List.mem_map] at hall
    obtain ⟨b, hb, hbn⟩ := hall
    have hbs : b ∈ c.spec := (mem_specNoList.mp hb).1
    have : b = a := nodup_map_inj hnd hbs ha hbn
    exact this ▸ hb
  · split at hres <;> cases hres

/-- One level, both directions at once: every addressed child (`slots`) has its stored value among the instance's
    `entries`, and every entry comes from an addressed child or is what `setattr` makes of `None`.  The two
    `C03_level_*` theorems and both steps of the `C03_deep_*` inductions are read off this. -/
theorem level_match (S : Schema) (cv : Conv) (tag : Str) (x tl : Option Str) (children : List Tree)
    (ci : Nat) (c : Cls) (inst : Node)
    (hfind : S.findIdx? tag = some ci) (hcls : S.cls? ci = some c) (hnd : (c.spec.map (·.name)).Nodup)
    (h : fromEtree S cv (.node tag x tl children) = .ok inst) :
    ∃ fields items, inst = .agg ci fields items ∧ (fields.map (·.1)).Nodup ∧
      (∀ st a ch, (st, a, ch) ∈ slots c false 0 children → ∃ raw w,
        childValue ch (fromEtree S cv ch) = .ok raw ∧ (st, w) ∈ entries fields items ∧ Stored S cv c st a raw w) ∧
      (∀ st w, (st, w) ∈ entries fields items →
        (∃ a ch raw, (st, a, ch) ∈ slots c false 0 children ∧ childValue ch (fromEtree S cv ch) = .ok raw ∧
          Stored S cv c st a raw w) ∨
        ∃ n a, st = .attr n ∧ setAttr S cv a (.val .none) = .ok (some w)) := by
  obtain ⟨ci', c', acc, hf', hc', hfold, hcon⟩ := fromEtree_ok h
  rw [hfind] at hf'; injection hf' with hf'; subst hf'
  rw [hcls] at hc'; injection hc' with hc'; subst hc'
  obtain ⟨fields, items, _, hset, happ, hres, hn⟩ := construct_ok_cls hcls hcon
  have ff := fold_slots S cv c hnd children Accum.init acc hfold
  have hfm := setAttrs_specNoList_fieldsMatch hset
  have hmap := applyArgs_mapM S cv c acc.args items happ
  refine ⟨fields, items, hn, (fieldsMatch_keys_sublist hfm).nodup (specNoList_nodup c hnd), ?_, ?_⟩
  · intro st a ch hm
    obtain ⟨_, ha, hu, hst⟩ := slots_facts c children false 0 _ a ch hm
    rcases hst with ⟨rfl, _⟩ | ⟨j, rfl, _⟩
    · obtain ⟨raw, hv, hkw⟩ := ff.fwd_attr _ a ch hm
      obtain ⟨w, hw, hpw⟩ := hfm.lookup (specNoList_nodup c hnd) a
        (specNoList_of_residual c hnd acc.kwargs hres a ha raw hkw) hu
      rw [lookup_of_mem_nodup a.name raw acc.kwargs (ff.nodup List.nodup_nil) hkw] at hpw
      exact ⟨raw, w, hv, mem_entries.mpr (Or.inl ⟨_, rfl, lookup_mem hw⟩), hpw⟩
    · obtain ⟨raw, hv, hj⟩ := ff.fwd_item j a ch hm
      obtain ⟨m, hm1, hm2⟩ := PyM.mapM_getElem_left hmap hj
      exact ⟨raw, m, hv, mem_entries.mpr (Or.inr ⟨j, rfl, hm1⟩), hm2⟩
  · intro st w hm
    rcases mem_entries.mp hm with ⟨n, rfl, hf⟩ | ⟨j, rfl, hj⟩
    · obtain ⟨a', ha', rfl, _, hp⟩ := hfm.mem n w hf
      cases hlk : lookup a'.name acc.kwargs with
      | none => rw [hlk] at hp; exact Or.inr ⟨_, a', rfl, hp⟩
      | some raw =>
        rw [hlk] at hp
        rcases ff.bwd_kw a'.name raw (lookup_mem hlk) with h0 | rfl | ⟨a, ch, hsl, hv⟩
        · cases h0
        · exact Or.inr ⟨_, a', rfl, hp⟩
        · obtain ⟨_, ha, _, hst⟩ := slots_facts c children false 0 _ a ch hsl
          have hna : a'.name = a.name := by
            rcases hst with ⟨h1, _⟩ | ⟨j, h1, _⟩
            · injection h1
            · cases h1
          obtain rfl : a = a' := nodup_map_inj hnd ha (List.mem_filter.mp ha').1 hna.symm
          exact Or.inl ⟨a, ch, raw, hsl, hv, hp⟩
    · obtain ⟨raw, hr1, hr2⟩ := PyM.mapM_getElem_right hmap hj
      rcases ff.bwd_arg j raw hr1 with h0 | ⟨a, ch, hsl, hv⟩
      · simp [Accum.init] at h0
      · exact Or.inl ⟨a, ch, raw, hsl, hv, hr2⟩

/-- **C03, one level, every class (nothing dropped).**  Every child of an accepted aggregate node that addresses
    something — its tag, after the class's one-off rename, is a supported attribute of the class — supplied the value
    of its slot: a child declared once is in the instance under its attribute, as what `setattr` (the attribute's
    converter, or the sub-aggregate check) made of the child's value; a repeated child is the list member at its
    position, as what `_apply_args` made of the child's value. -/
theorem C03_level_value (S : Schema) (cv : Conv) (tag : Str) (x tl : Option Str) (children : List Tree)
    (ci : Nat) (c : Cls) (inst : Node)
    (hfind : S.findIdx? tag = some ci) (hcls : S.cls? ci = some c) (hnd : (c.spec.map (·.name)).Nodup)
    (h : fromEtree S cv (.node tag x tl children) = .ok inst) :
    ∃ fields items, inst = .agg ci fields items ∧
      (∀ n a ch, (Step.attr n, a, ch) ∈ slots c false 0 children →
        ∃ raw w, childValue ch (fromEtree S cv ch) = .ok raw ∧ lookup n fields = some w ∧
          setAttr S cv a raw = .ok (some w)) ∧
      (∀ j a ch, (Step.item j, a, ch) ∈ slots c false 0 children →
        ∃ raw m, childValue ch (fromEtree S cv ch) = .ok raw ∧ items[j]? = some m ∧
          applyOne S cv c raw = .ok m) := by
  obtain ⟨fields, items, hn, hk, hfw, _⟩ := level_match S cv tag x tl children ci c inst hfind hcls hnd h
  refine ⟨fields, items, hn, fun n a ch hm => ?_, fun j a ch hm => ?_⟩
  · obtain ⟨raw, w, hv, he, hw⟩ := hfw _ a ch hm
    rcases mem_entries.mp he with ⟨_, e, hf⟩ | ⟨_, e, _⟩
    · injection e with e; subst e
      exact ⟨raw, w, hv, lookup_of_mem_nodup n w fields hk hf, hw⟩
    · cases e
  · obtain ⟨raw, w, hv, he, hw⟩ := hfw _ a ch hm
    rcases mem_entries.mp he with ⟨_, e, _⟩ | ⟨_, e, hj⟩
    · cases e
    · injection e with e; subst e
      exact ⟨raw, w, hv, hj, hw⟩

/-- **C03, one level, every class (nothing invented).**  Every value other than `None` under a non-repeated
    attribute, and every list member, of an accepted document's instance was supplied by a child of the document
    in the matching slot. -/
theorem C03_level_nothing_invented (S : Schema) (cv : Conv) (tag : Str) (x tl : Option Str) (children : List Tree)
    (ci : Nat) (c : Cls) (fields : List (Str × Node)) (items : List Node) (cj : Nat)
    (hfind : S.findIdx? tag = some ci) (hcls : S.cls? ci = some c) (hnd : (c.spec.map (·.name)).Nodup)
    (hnone : ∀ k r v, cv.convert S.enums k r .none = .ok v → v = .none)
    (h : fromEtree S cv (.node tag x tl children) = .ok (.agg cj fields items)) :
    (∀ n w, (n, w) ∈ fields → w ≠ .val .none →
      ∃ a ch raw, (Step.attr n, a, ch) ∈ slots c false 0 children ∧
        childValue ch (fromEtree S cv ch) = .ok raw ∧ setAttr S cv a raw = .ok (some w)) ∧
    (∀ j m, items[j]? = some m →
      ∃ a ch raw, (Step.item j, a, ch) ∈ slots c false 0 children ∧
        childValue ch (fromEtree S cv ch) = .ok raw ∧ applyOne S cv c raw = .ok m) := by
  obtain ⟨_, _, hn, _, _, hbw⟩ := level_match S cv tag x tl children ci c _ hfind hcls hnd h
  injection hn with _ h1 h2; subst h1; subst h2
  refine ⟨fun n w hm hw => ?_, fun j m hj => ?_⟩
  · rcases hbw _ w (mem_entries.mpr (Or.inl ⟨n, rfl, hm⟩)) with h0 | ⟨_, a, _, h0⟩
    · exact h0
    · exact absurd (setAttr_none S cv hnone a w h0) hw
  · rcases hbw _ m (mem_entries.mpr (Or.inr ⟨j, rfl, hj⟩)) with h0 | ⟨_, _, e, _⟩
    · exact h0
    · cases e

theorem docElems_text_ne (S : Schema) : ∀ t, ∀ e ∈ docElems S t, e.text ≠ [] :=
  Tree.induct (motive := fun t => ∀ e ∈ docElems S t, e.text ≠ []) (by
    intro tag x tl children ih e he
    simp only [docElems] at he
    split at he
    · simp at he
    · split at he
      · simp at he
      · rename_i c _
        rw [docElemsIn_eq, List.mem_flatMap] at he
        obtain ⟨⟨st, a, ch⟩, hsl, hel⟩ := he
        obtain ⟨hch, _⟩ := slots_facts c children false 0 st a ch hsl
        cases st with
        | attr n =>
          simp only [slotElems] at hel
          rcases text_cases ch with ⟨x0, xs, htx⟩ | hno
          · rw [fieldElems_text a ch _ x0 xs htx] at hel
            split at hel
            · simp only [List.mem_singleton] at hel; subst hel; simp
            · simp at hel
          · rw [fieldElems_notext a ch _ hno] at hel
            split at hel
            · obtain ⟨e', he', rfl⟩ := List.mem_map.mp hel
              exact ih ch hch e' he'
            · simp at hel
        | item j =>
          simp only [slotElems] at hel
          rcases text_cases ch with ⟨x0, xs, htx⟩ | hno
          · rw [memberElems_text c j a ch _ x0 xs htx] at hel
            split at hel
            · split at hel
              · simp only [List.mem_singleton] at hel; subst hel; simp
              · simp at hel
            · simp at hel
          · rw [memberElems_notext c j a ch _ hno] at hel
            split at hel
            · simp at hel
            · obtain ⟨e', he', rfl⟩ := List.mem_map.mp hel
              exact ih ch hch e' he') 

/-- `v ≠ .none →`: a converter may in principle turn a non-empty text into `None`, which an instance does not list;
    `Gen.C03_deep_generated_holds` excludes it for the modelled converters -/
def DeepValue (S : Schema) (cv : Conv) (t : Tree) : Prop :=
  ∀ inst, fromEtree S cv t = .ok inst → ∀ e ∈ docElems S t,
    ∃ v, cv.convert S.enums e.kind e.required (.str e.text) = .ok v ∧
      (v ≠ .none → (e.path, v) ∈ instValues inst)

def DeepOnly (S : Schema) (cv : Conv) (t : Tree) : Prop :=
  ∀ inst, fromEtree S cv t = .ok inst → ∀ p v, (p, v) ∈ instValues inst →
    ∃ e ∈ docElems S t, e.path = p ∧ cv.convert S.enums e.kind e.required (.str e.text) = .ok v

theorem deepValue_step (S : Schema) (cv : Conv) (hnd : SpecNodup S) (tag : Str) (x tl : Option Str)
    (children : List Tree) (ih : ∀ ch ∈ children, DeepValue S cv ch) :
    DeepValue S cv (.node tag x tl children) := by
  intro inst h e he
  obtain ⟨ci, c, _, hfind, hcls, _⟩ := fromEtree_ok h
  obtain ⟨fields, items, rfl, _, hfw, _⟩ := level_match S cv tag x tl children ci c inst hfind hcls (hnd ci c hcls) h
  rw [docElems_node S tag x tl children ci c hfind hcls, List.mem_flatMap] at he
  obtain ⟨⟨st, a, ch⟩, hsl, hel⟩ := he
  obtain ⟨raw, w, hv, hent, hw⟩ := hfw st a ch hsl
  rcases slot_cases S cv c hsl hv hw with ⟨x0, xs, k, r, v, _, rfl, hcv, hse⟩ | ⟨ck, f, i, hch, rfl, hse⟩ | ⟨_, _, _, _, _, hse⟩
  · rw [hse, List.mem_singleton] at hel
    subst hel
    exact ⟨v, hcv, fun hvn => mem_instValues_under.mpr ⟨st, _, [], hent, (mem_instValues_val v [] v).mpr ⟨rfl, rfl, hvn⟩, rfl⟩⟩
  · rw [hse, List.mem_map] at hel
    obtain ⟨e', he', rfl⟩ := hel
    obtain ⟨v, hcv, hmem⟩ := ih ch (slots_facts c children false 0 st a ch hsl).1 _ hch e' he'
    exact ⟨v, hcv, fun hvn => mem_instValues_under.mpr ⟨st, _, e'.path, hent, hmem hvn, rfl⟩⟩
  · rw [hse] at hel; cases hel

theorem deepOnly_step (S : Schema) (cv : Conv) (hnd : SpecNodup S)
    (hnone : ∀ k r v, cv.convert S.enums k r .none = .ok v → v = .none)
    (hother : ∀ k r s v, cv.convert S.enums k r (.other s) ≠ .ok v)
    (tag : Str) (x tl : Option Str) (children : List Tree) (ih : ∀ ch ∈ children, DeepOnly S cv ch) :
    DeepOnly S cv (.node tag x tl children) := by
  intro inst h p v hpv
  obtain ⟨ci, c, _, hfind, hcls, _⟩ := fromEtree_ok h
  obtain ⟨fields, items, rfl, _, _, hbw⟩ := level_match S cv tag x tl children ci c inst hfind hcls (hnd ci c hcls) h
  rw [docElems_node S tag x tl children ci c hfind hcls]
  obtain ⟨st, w, p', hent, hpw, rfl⟩ := mem_instValues_under.mp hpv
  rcases hbw st w hent with ⟨a, ch, raw, hsl, hv, hw⟩ | ⟨_, a, _, h0⟩
  · rcases slot_cases S cv c hsl hv hw with ⟨x0, xs, k, r, v', _, rfl, hcv, hse⟩ | ⟨ck, f, i, hch, rfl, hse⟩ | ⟨k, r, v', _, hcv, _⟩
    · obtain ⟨rfl, rfl, _⟩ := (mem_instValues_val v' p' v).mp hpw
      exact ⟨_, List.mem_flatMap.mpr ⟨_, hsl, by rw [hse]; exact List.mem_singleton.mpr rfl⟩, rfl, hcv⟩
    · obtain ⟨e', he', rfl, hcv⟩ := ih ch (slots_facts c children false 0 st a ch hsl).1 _ hch p' v hpw
      exact ⟨e'.under st, List.mem_flatMap.mpr ⟨_, hsl, by rw [hse]; exact List.mem_map_of_mem he'⟩, rfl, hcv⟩
    · exact absurd hcv (hother k r _ v')
  · rw [setAttr_none S cv hnone a w h0] at hpw; cases hpw

/-- **C03, whole documents, every class: nothing dropped, right value, right place.**  When `from_etree` accepts a
    document, every addressed data element of it — at any depth: the path runs through sub-aggregates by attribute
    name and through list members by position — is in the converted model at the same path, holding the value the
    converter of the element's declared type assigns to its text (unless that value is `None`: see `DeepValue`). -/
theorem C03_deep_value (S : Schema) (cv : Conv) (hnd : SpecNodup S) (t : Tree) (inst : Node)
    (h : fromEtree S cv t = .ok inst) :
    ∀ e ∈ docElems S t, ∃ v, cv.convert S.enums e.kind e.required (.str e.text) = .ok v ∧
      (v ≠ .none → (e.path, v) ∈ instValues inst) :=
  Tree.induct (deepValue_step S cv hnd) t inst h

/-- **C03, whole documents, every class: nothing invented.**  Every leaf value (other than `None`) the converted
    model holds, at any depth, is the conversion of the text of an addressed data element of the document at that very
    path. -/
theorem C03_deep_nothing_invented (S : Schema) (cv : Conv) (hnd : SpecNodup S)
    (hnone : ∀ k r v, cv.convert S.enums k r .none = .ok v → v = .none)
    (hother : ∀ k r s v, cv.convert S.enums k r (.other s) ≠ .ok v)
    (t : Tree) (inst : Node) (h : fromEtree S cv t = .ok inst) :
    ∀ p v, (p, v) ∈ instValues inst →
      ∃ e ∈ docElems S t, e.path = p ∧ cv.convert S.enums e.kind e.required (.str e.text) = .ok v :=
  Tree.induct (deepOnly_step S cv hnd hnone hother) t inst h

theorem level_agg_origin (S : Schema) (cv : Conv) (tag : Str) (x tl : Option Str) (children : List Tree)
    (ci : Nat) (c : Cls) (fields : List (Str × Node)) (items : List Node) (cj : Nat)
    (hfind : S.findIdx? tag = some ci) (hcls : S.cls? ci = some c) (hnd : (c.spec.map (·.name)).Nodup)
    (h : fromEtree S cv (.node tag x tl children) = .ok (.agg cj fields items)) :
    (fields.map (·.1)).Nodup ∧
    ∀ st ck f i, (st, Node.agg ck f i) ∈ entries fields items → ∃ ch ∈ children, fromEtree S cv ch = .ok (.agg ck f i) := by
  obtain ⟨_, _, hn, hk, _, hbw⟩ := level_match S cv tag x tl children ci c _ hfind hcls hnd h
  injection hn with _ h1 h2; subst h1; subst h2
  refine ⟨hk, fun st ck f i hent => ?_⟩
  rcases hbw st _ hent with ⟨a, ch, raw, hsl, hv, hw⟩ | ⟨_, a, _, h0⟩
  · rcases slot_cases S cv c hsl hv hw with ⟨_, _, _, _, _, _, e, _⟩ | ⟨_, _, _, hch, e, _⟩ | ⟨_, _, _, e, _⟩
    · cases e
    · exact ⟨ch, (slots_facts c children false 0 st a ch hsl).1, e ▸ hch⟩
    · cases e
  · rcases setAttr_stored h0 with ⟨_, _, e, _⟩ | ⟨_, _, _, e⟩ <;> cases e

theorem instValues_val_nodup (v : Val) : ((instValues (.val v)).map (·.1)).Nodup := by
  cases v <;> simp [instValues]

/-- **C03, whole documents: one value per path.**  The paths at which an accepted document's model holds values are
    pairwise distinct — so "the value at the element's path" in `C03_deep_value` / `C03_deep_nothing_invented` names
    one value. -/
theorem C03_deep_paths_distinct (S : Schema) (cv : Conv) (hnd : SpecNodup S) (t : Tree) (inst : Node)
    (h : fromEtree S cv t = .ok inst) : ((instValues inst).map (·.1)).Nodup := by
  induction t using Tree.induct generalizing inst with
  | node tag x tl children ih =>
    obtain ⟨ci, c, _, hfind, hcls, _, hcon⟩ := fromEtree_ok h
    obtain ⟨ck, f, i, rfl⟩ := fromEtree_agg S cv _ inst h
    obtain ⟨hk, horig⟩ := level_agg_origin S cv tag x tl children ci c f i ck hfind hcls (hnd ci c hcls) h
    rw [instValues_agg]
    refine under_paths_nodup (entries_steps_nodup i hk) ?_
    rintro ⟨st, w⟩ he
    cases w with
    | val v => exact instValues_val_nodup v
    | agg ck f i =>
      obtain ⟨ch, hch, hc⟩ := horig st ck f i he
      exact ih ch hch _ hc

/-- the library's path from body text to model: `b = TreeBuilder(); b.feed(s); root = b.close()`, then
    `Aggregate.from_etree(root)` (what `OFXTree.parse` + `convert` do after the header) -/
def parseConvert (S : Schema) (cv : Conv) (s : Str) : PyM Node :=
  match Builder.parse s with
  | .ok (some t) => fromEtree S cv t
  | .ok none => .error .value
  | .error e => .error e

theorem parseConvert_rendering (S : Schema) (cv : Conv) (t : Tree) (s : Str) (hr : RendersDoc true t s) :
    parseConvert S cv s = fromEtree S cv t := by
  simp [parseConvert, C02.C02_complete_doc t s hr]

/-- **C03, documents as text: nothing dropped, right value, right place.**  For every tree `t` and every strict
    rendering `s` of it (end tags present or omitted, CDATA sections, any white space the grammar allows), if the
    library converts `s` to a model then every addressed data element of `t`, at any depth, is in the model at its
    path with the value its converter assigns to its text (unless that value is `None`: see `DeepValue`). -/
theorem C03_document_value (S : Schema) (cv : Conv) (hnd : SpecNodup S) (t : Tree) (s : Str)
    (hr : RendersDoc true t s) (inst : Node) (h : parseConvert S cv s = .ok inst) :
    ∀ e ∈ docElems S t, ∃ v, cv.convert S.enums e.kind e.required (.str e.text) = .ok v ∧
      (v ≠ .none → (e.path, v) ∈ instValues inst) :=
  C03_deep_value S cv hnd t inst (by rw [← parseConvert_rendering S cv t s hr]; exact h)

theorem C03_document_nothing_invented (S : Schema) (cv : Conv) (hnd : SpecNodup S)
    (hnone : ∀ k r v, cv.convert S.enums k r .none = .ok v → v = .none)
    (hother : ∀ k r s v, cv.convert S.enums k r (.other s) ≠ .ok v)
    (t : Tree) (s : Str) (hr : RendersDoc true t s) (inst : Node) (h : parseConvert S cv s = .ok inst) :
    ∀ p v, (p, v) ∈ instValues inst →
      ∃ e ∈ docElems S t, e.path = p ∧ cv.convert S.enums e.kind e.required (.str e.text) = .ok v :=
  C03_deep_nothing_invented S cv hnd hnone hother t inst (by rw [← parseConvert_rendering S cv t s hr]; exact h)

end Ofx.Agg
