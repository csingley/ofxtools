/-
C04 — the tree route for classes without a rename hook (`c.groom = none`, all but three), and the remaining
constraint kinds on both construction routes (extends Props/C04.lean, Props/C04Order.lean and Props/C04Groom.lean):
order and occurrence of children; the per-type limits for the real converter family `Types.conv`; `ValidFull`, all
constraint kinds, recursively; the hand-coded `validate_args` rules, through their declarative violations
(`ExtraViolates`).
-/
import OfxProofs.Props.C04Groom

namespace Ofx.Agg
open Ofx

/-- C04 (at most one occurrence of a non-repeatable child, tree route): a document in which a known
    non-repeated child of an aggregate occurs twice is rejected. -/
theorem C04_reject_duplicate_child (S : Schema) (cv : Conv) (tag : Str) (x tl : Option Str)
    (pre mid post : List Tree) (a b : Tree) (ci : Nat) (c : Cls) (idx : Nat)
    (hf : S.findIdx? tag = some ci) (hc : S.cls? ci = some c) (hg : c.groom = none)
    (hdot : '.' ∉ a.tag) (hidx : specIndex c (lower a.tag) = some idx)
    (hnl : isListMember c (lower a.tag) = false) (hsame : b.tag = a.tag) :
    ∃ e, fromEtree S cv (.node tag x tl (pre ++ a :: (mid ++ b :: post))) = .error e :=
  C04_reject_duplicate_child_groom S cv tag x tl pre mid post a b ci c idx a.tag hf hc
    (C04_effTag_noGroom c hg pre a) (by rw [C04_effTag_noGroom c hg, hsame]) hdot hidx hnl

/-- **C04 (order, tree route, adjacent children).** In a document node, let `a` and `b` be two children the class
    knows with only children it does not know between them (so they are adjacent among the known children).  If
    `b`'s spec position is not greater than `a`'s, the document is rejected — unless both are repeated (list-member)
    children, the one case `update_args` exempts.  No premise on the shape of the class's list block: this covers a
    repeated child out of place among non-repeated ones, in either direction. -/
theorem C04_reject_adjacent_out_of_order (S : Schema) (cv : Conv) (tag : Str) (x tl : Option Str)
    (pre mid post : List Tree) (a b : Tree) (ci : Nat) (c : Cls) (ia ib : Nat)
    (hf : S.findIdx? tag = some ci) (hc : S.cls? ci = some c) (hg : c.groom = none)
    (hmid : ∀ t ∈ mid, Unknown c t.tag)
    (hdota : '.' ∉ a.tag) (hia : specIndex c (lower a.tag) = some ia)
    (hdotb : '.' ∉ b.tag) (hib : specIndex c (lower b.tag) = some ib) (hle : ib ≤ ia)
    (hnb : ¬ (isListMember c (lower a.tag) = true ∧ isListMember c (lower b.tag) = true)) :
    ∃ e, fromEtree S cv (.node tag x tl (pre ++ a :: (mid ++ b :: post))) = .error e :=
  C04_reject_adjacent_out_of_order_groom S cv tag x tl pre mid post a b ci c ia ib a.tag b.tag hf hc hmid
    (C04_effTag_noGroom c hg pre a) (C04_effTag_noGroom c hg _ b) hdota hia hdotb hib hle hnb

/-- **C04 (order, tree route, any distance).** A known child `b` anywhere after a known child `a` whose spec
    position is not smaller is rejected — whatever stands before, between and after them — when some position `lo`
    between the two (`ib ≤ lo ≤ ia`) is one around which the class's list block is not interleaved, and `b`, if it
    is a repeated child, lies strictly before `lo`.  Instances: `lo = ia` for a non-repeated `a` (any `b`; for two
    non-repeated children this is `C04_reject_out_of_order`), `lo = ib` for a repeated `a` and a non-repeated `b`. -/
theorem C04_reject_out_of_order_gen (S : Schema) (cv : Conv) (tag : Str) (x tl : Option Str)
    (pre mid post : List Tree) (a b : Tree) (ci : Nat) (c : Cls) (ia ib lo : Nat)
    (hf : S.findIdx? tag = some ci) (hc : S.cls? ci = some c) (hg : c.groom = none)
    (hnd : (c.spec.map (·.name)).Nodup) (hblock : BlockAt c lo) (hlo1 : ib ≤ lo) (hlo2 : lo ≤ ia)
    (hdota : '.' ∉ a.tag) (hia : specIndex c (lower a.tag) = some ia)
    (hdotb : '.' ∉ b.tag) (hib : specIndex c (lower b.tag) = some ib)
    (hbl : isListMember c (lower b.tag) = true → ib < lo) :
    ∃ e, fromEtree S cv (.node tag x tl (pre ++ a :: (mid ++ b :: post))) = .error e :=
  C04_reject_out_of_order_groom S cv tag x tl pre mid post a b ci c ia ib lo a.tag b.tag hf hc hnd hblock hlo1 hlo2
    (C04_effTag_noGroom c hg pre a) (C04_effTag_noGroom c hg _ b) hdota hia hdotb hib hbl

/-- C04 (order, tree route): a document in which a known non-repeated child `b` comes anywhere after a known
    non-repeated child `a` whose spec position is not smaller is rejected — whatever stands before, between
    and after them — for every class whose list block is not interleaved around `a`'s position. -/
theorem C04_reject_out_of_order (S : Schema) (cv : Conv) (tag : Str) (x tl : Option Str)
    (pre mid post : List Tree) (a b : Tree) (ci : Nat) (c : Cls) (ia ib : Nat)
    (hf : S.findIdx? tag = some ci) (hc : S.cls? ci = some c) (hg : c.groom = none)
    (hnd : (c.spec.map (·.name)).Nodup) (hblock : BlockAt c ia)
    (hdota : '.' ∉ a.tag) (hia : specIndex c (lower a.tag) = some ia)
    (hnla : isListMember c (lower a.tag) = false)
    (hdotb : '.' ∉ b.tag) (hib : specIndex c (lower b.tag) = some ib)
    (hnlb : isListMember c (lower b.tag) = false) (hle : ib ≤ ia) :
    ∃ e, fromEtree S cv (.node tag x tl (pre ++ a :: (mid ++ b :: post))) = .error e :=
  C04_reject_out_of_order_gen S cv tag x tl pre mid post a b ci c ia ib ia hf hc hg hnd hblock hle (Nat.le_refl _)
    hdota hia hdotb hib (fun h => by rw [hnlb] at h; cases h)

/-- **C04 (order, consequence).** In every document node `from_etree` accepts, any two known children that are adjacent
    among the known children stand in increasing spec order, or are both repeated children; and no known non-repeated
    child occurs twice. -/
theorem C04_accepted_ordered (S : Schema) (cv : Conv) (tag : Str) (x tl : Option Str)
    (pre mid post : List Tree) (a b : Tree) (ci : Nat) (c : Cls) (ia ib : Nat) (n : Node)
    (hf : S.findIdx? tag = some ci) (hc : S.cls? ci = some c) (hg : c.groom = none)
    (hdota : '.' ∉ a.tag) (hia : specIndex c (lower a.tag) = some ia)
    (hdotb : '.' ∉ b.tag) (hib : specIndex c (lower b.tag) = some ib)
    (h : fromEtree S cv (.node tag x tl (pre ++ a :: (mid ++ b :: post))) = .ok n) :
    ((∀ t ∈ mid, Unknown c t.tag) →
      ia < ib ∨ (isListMember c (lower a.tag) = true ∧ isListMember c (lower b.tag) = true)) ∧
    (isListMember c (lower a.tag) = false → b.tag ≠ a.tag) := by
  constructor
  · intro hmid
    apply Classical.byContradiction
    intro hcon
    have hle : ib ≤ ia := by
      rcases Nat.lt_or_ge ia ib with h1 | h1
      · exact absurd (Or.inl h1) hcon
      · exact h1
    obtain ⟨e, he⟩ := C04_reject_adjacent_out_of_order S cv tag x tl pre mid post a b ci c ia ib hf hc hg hmid
      hdota hia hdotb hib hle (fun hb => hcon (Or.inr hb))
    rw [h] at he; cases he
  · intro hnl hsame
    obtain ⟨e, he⟩ := C04_reject_duplicate_child S cv tag x tl pre mid post a b ci c ia hf hc hg hdota hia hnl hsame
    rw [h] at he; cases he

theorem not_present_of_no_child (S : Schema) (cv : Conv) (c : Cls) (hg : c.groom = none) (children : List Tree)
    (acc : Accum) (n : Str) (hno : ∀ ch ∈ children, lower ch.tag ≠ n)
    (hf : foldChildren c children (childInsts S cv children) Accum.init = .ok acc) : ¬ Present acc.kwargs n :=
  not_present_of_no_effTag S cv c children acc n
    (fun pre ch post h => by rw [effTag_noGroom c hg]; exact hno ch (by rw [h]; simp)) hf

/-- C04 (required child omitted, tree route): a document none of whose children carries the tag of a required
    sub-aggregate, or of a required data element whose converter refuses `None`, is rejected. -/
theorem C04_reject_required_omitted_tree (S : Schema) (cv : Conv) (tag : Str) (x tl : Option Str)
    (children : List Tree) (ci : Nat) (c : Cls) (a : Attr)
    (hf : S.findIdx? tag = some ci) (hc : S.cls? ci = some c) (hg : c.groom = none)
    (ha : a ∈ c.spec) (hl : a.kind.isList = false) (hu : a.kind.isUnsupported = false) (hreq : a.required = true)
    (hcv : Kind.subTarget a.kind = none → ∃ e, cv.convert S.enums a.kind true .none = .error e)
    (hno : ∀ ch ∈ children, lower ch.tag ≠ a.name) :
    ∃ e, fromEtree S cv (.node tag x tl children) = .error e :=
  C04_reject_required_omitted_groom_tree S cv tag x tl children ci c a hf hc ha hl hu hreq hcv
    (fun pre ch post h => by rw [effTag_noGroom c hg]; exact hno ch (by rw [h]; simp))

/-- C04 (at-most-one / exactly-one groups, tree route): a document holding two children, both with a value, that
    carry the tags of two members of one group in force is rejected. -/
theorem C04_reject_mutex_two_tree (S : Schema) (cv : Conv) (tag : Str) (x tl : Option Str)
    (pre mid post : List Tree) (ch1 ch2 : Tree) (ci : Nat) (c : Cls) (a1 a2 : Attr) (v1 v2 : Node) (g : List Str)
    (hf : S.findIdx? tag = some ci) (hc : S.cls? ci = some c) (hg : c.groom = none)
    (hnd : (c.spec.map (·.name)).Nodup) (hgrp : g ∈ c.optMutex ∨ g ∈ c.reqMutex)
    (ha1 : a1 ∈ c.spec) (hn1 : a1.name = lower ch1.tag) (hd1 : '.' ∉ ch1.tag)
    (hl1 : a1.kind.isList = false) (hu1 : a1.kind.isUnsupported = false)
    (hv1 : childValue ch1 (fromEtree S cv ch1) = .ok v1) (hnn1 : given v1 = true)
    (ha2 : a2 ∈ c.spec) (hn2 : a2.name = lower ch2.tag) (hd2 : '.' ∉ ch2.tag)
    (hl2 : a2.kind.isList = false) (hu2 : a2.kind.isUnsupported = false)
    (hv2 : childValue ch2 (fromEtree S cv ch2) = .ok v2) (hnn2 : given v2 = true)
    (hm1 : a1.name ∈ g) (hm2 : a2.name ∈ g) (hne : a1.name ≠ a2.name) :
    ∃ e, fromEtree S cv (.node tag x tl (pre ++ ch1 :: (mid ++ ch2 :: post))) = .error e := by
  apply fromEtree_error_of_construct S cv tag x tl _ ci c hf hc
  intro acc hfold
  have g1 : Given acc.kwargs a1.name :=
    ⟨v1, kw_of_child S cv c hnd pre _ ch1 acc a1 v1 ha1 (by rw [C04_effTag_noGroom c hg]; exact hn1)
      (by rw [C04_effTag_noGroom c hg]; exact hd1) hl1 hu1 hv1 hfold, hnn1⟩
  have hsplit : pre ++ ch1 :: (mid ++ ch2 :: post) = (pre ++ ch1 :: mid) ++ ch2 :: post := by simp
  rw [hsplit] at hfold
  have g2 : Given acc.kwargs a2.name :=
    ⟨v2, kw_of_child S cv c hnd _ post ch2 acc a2 v2 ha2 (by rw [C04_effTag_noGroom c hg]; exact hn2)
      (by rw [C04_effTag_noGroom c hg]; exact hd2) hl2 hu2 hv2 hfold, hnn2⟩
  rcases hgrp with ho | hr
  · exact C04_reject_mutex_two S cv ci c acc.args acc.kwargs g a1.name a2.name hc ho hm1 hm2 hne g1 g2
  · exact C04_reject_reqmutex_two S cv ci c acc.args acc.kwargs g a1.name a2.name hc hr hm1 hm2 hne g1 g2

/-- C04 (exactly-one groups, tree route): a document none of whose children carries the tag of a member of an
    exactly-one group in force is rejected. -/
theorem C04_reject_reqmutex_none_tree (S : Schema) (cv : Conv) (tag : Str) (x tl : Option Str)
    (children : List Tree) (ci : Nat) (c : Cls) (g : List Str)
    (hf : S.findIdx? tag = some ci) (hc : S.cls? ci = some c) (hg : c.groom = none) (hgrp : g ∈ c.reqMutex)
    (hno : ∀ m ∈ g, ∀ ch ∈ children, lower ch.tag ≠ m) :
    ∃ e, fromEtree S cv (.node tag x tl children) = .error e := by
  apply fromEtree_error_of_construct S cv tag x tl children ci c hf hc
  intro acc hfold
  exact C04_reject_reqmutex_none S cv ci c acc.args acc.kwargs g hc hgrp
    (fun m hm hgv => not_present_of_no_child S cv c hg children acc m (hno m hm) hfold (Present_of_Given hgv))

/-! Per-type limits.  Rejections hold whatever else the description contains.  Acceptances
are stated as "the value at the limit is never the reason for a refusal": if nothing else stands in the way
(`OthersOk`: `validate_args` accepts, members are permitted, no foreign keyword, every *other* attribute accepts its
value), an instance is produced and holds the converted value. -/

open Ofx.Types

/-- **C04 (maximum string length, keyword route).** A keyword whose value — after the entity decoding `String.convert`
    performs — is longer than the `n` of its strict `String(n)` attribute is rejected. -/
theorem C04_reject_overlong_string_kw (S : Schema) (ci : Nat) (c : Cls) (args : List Node) (kw : List (Str × Node))
    (a : Attr) (n : Nat) (s : Str) (hc : S.cls? ci = some c) (ha : a ∈ c.spec)
    (hk : a.kind = .string (some n) true) (hlook : lookup a.name kw = some (.val (.str s)))
    (hlong : n < (unescape s).length) : ∃ e, construct S Types.conv ci args kw = .error e := by
  have hs : s ≠ [] := by rintro rfl; simp [unescape_nil] at hlong
  apply construct_error_of_setAttr S Types.conv ci c args kw a hc (by simp [mem_specNoList, ha, hk, Kind.isList])
  rw [hlook, Option.getD_some, setAttr_string_text S a _ _ s hk hs]
  exact ⟨.spec, by simp [fits]; omega⟩

theorem C04_reject_overlong_string_tree (S : Schema) (tag : Str) (x tl : Option Str) (pre post : List Tree)
    (ch : Tree) (ci : Nat) (c : Cls) (a : Attr) (n : Nat) (s : Str)
    (hf : S.findIdx? tag = some ci) (hc : S.cls? ci = some c) (hg : c.groom = none)
    (hnd : (c.spec.map (·.name)).Nodup) (ha : a ∈ c.spec) (hname : a.name = lower ch.tag) (hdot : '.' ∉ ch.tag)
    (hk : a.kind = .string (some n) true) (htext : ch.text = some s) (hlong : n < (unescape s).length) :
    ∃ e, fromEtree S Types.conv (.node tag x tl (pre ++ ch :: post)) = .error e :=
  C04_reject_overlong_string_groom_tree S tag x tl pre post ch ci c a n s ch.tag hf hc hnd
    (C04_effTag_noGroom c hg pre ch) ha hname hdot hk htext hlong

/-- **C04 (string exactly at the limit, keyword route).** A value of at most `n` characters (in particular exactly
    `n`) is accepted by a strict `String(n)` attribute, and the instance holds it (decoded). -/
theorem C04_accept_at_limit_string_kw (S : Schema) (ci : Nat) (c : Cls) (args : List Node) (kw : List (Str × Node))
    (a : Attr) (n : Nat) (s : Str) (hc : S.cls? ci = some c) (hnd : (c.spec.map (·.name)).Nodup) (ha : a ∈ c.spec)
    (hk : a.kind = .string (some n) true) (hlook : lookup a.name kw = some (.val (.str s))) (hs : s ≠ [])
    (hfit : (unescape s).length ≤ n) (ho : OthersOk S Types.conv c args kw a) :
    ∃ fields items, construct S Types.conv ci args kw = .ok (.agg ci fields items) ∧
      lookup a.name fields = some (.val (.str (unescape s))) := by
  apply construct_ok_of_others S Types.conv ci c args kw a _ hc hnd (by simp [mem_specNoList, ha, hk, Kind.isList]) _ ho
  rw [hlook, Option.getD_some, setAttr_string_text S a _ _ s hk hs]
  simp [fits, hfit]

theorem C04_accept_at_limit_string_tree (S : Schema) (tag : Str) (x tl : Option Str) (pre post : List Tree)
    (ch : Tree) (ci : Nat) (c : Cls) (a : Attr) (n : Nat) (t0 : Char) (ts : Str) (acc : Accum)
    (hf : S.findIdx? tag = some ci) (hc : S.cls? ci = some c) (hg : c.groom = none)
    (hnd : (c.spec.map (·.name)).Nodup) (ha : a ∈ c.spec) (hname : a.name = lower ch.tag) (hdot : '.' ∉ ch.tag)
    (hk : a.kind = .string (some n) true) (htext : ch.text = some (t0 :: ts))
    (hfit : (unescape (t0 :: ts)).length ≤ n)
    (hfold : foldChildren c (pre ++ ch :: post) (childInsts S Types.conv (pre ++ ch :: post)) Accum.init = .ok acc)
    (ho : OthersOk S Types.conv c acc.args acc.kwargs a) :
    ∃ fields items, fromEtree S Types.conv (.node tag x tl (pre ++ ch :: post)) = .ok (.agg ci fields items) ∧
      lookup a.name fields = some (.val (.str (unescape (t0 :: ts)))) := by
  apply fromEtree_ok_of_others S Types.conv tag x tl pre post ch ci c a t0 ts _ acc hf hc hnd ha
    (by rw [C04_effTag_noGroom c hg]; exact hname) (by rw [C04_effTag_noGroom c hg]; exact hdot)
    (by simp [hk, Kind.isList]) (by simp [hk, Kind.isUnsupported]) htext _ hfold ho
  rw [setAttr_string_text S a _ _ _ hk (by simp)]
  simp [fits, hfit]

/-- **C04 (maximum integer digits, keyword route).** An `int` keyword (or a text that reads as one) of more than `n`
    digits — `|i| ≥ 10^n`, either sign — is rejected by an `Integer(n)` attribute. -/
theorem C04_reject_overlimit_integer_kw (S : Schema) (ci : Nat) (c : Cls) (args : List Node)
    (kw : List (Str × Node)) (a : Attr) (n : Nat) (i : Int) (w : Node) (hc : S.cls? ci = some c) (ha : a ∈ c.spec)
    (hk : a.kind = .integer (some n)) (hlook : lookup a.name kw = some w)
    (hw : w = .val (.int i) ∨ ∃ s, w = .val (.str s) ∧ s ≠ [] ∧ pyIntParse s = some i)
    (hover : 10 ^ n ≤ i.natAbs) : ∃ e, construct S Types.conv ci args kw = .error e := by
  apply construct_error_of_setAttr S Types.conv ci c args kw a hc (by simp [mem_specNoList, ha, hk, Kind.isList])
  rw [hlook, Option.getD_some]
  have : setAttr S Types.conv a w = setAttr S Types.conv a (.val (.int i)) := by
    rcases hw with rfl | ⟨s, rfl, hs, hp⟩
    · rfl
    · exact setAttr_integer_text S a _ s i hk hs hp
  rw [this, setAttr_integer_int S a _ i hk]
  exact ⟨.spec, by simp [hover]⟩

theorem C04_reject_overlimit_integer_tree (S : Schema) (tag : Str) (x tl : Option Str) (pre post : List Tree)
    (ch : Tree) (ci : Nat) (c : Cls) (a : Attr) (n : Nat) (s : Str) (i : Int)
    (hf : S.findIdx? tag = some ci) (hc : S.cls? ci = some c) (hg : c.groom = none)
    (hnd : (c.spec.map (·.name)).Nodup) (ha : a ∈ c.spec) (hname : a.name = lower ch.tag) (hdot : '.' ∉ ch.tag)
    (hk : a.kind = .integer (some n)) (htext : ch.text = some s) (hp : pyIntParse s = some i)
    (hover : 10 ^ n ≤ i.natAbs) :
    ∃ e, fromEtree S Types.conv (.node tag x tl (pre ++ ch :: post)) = .error e :=
  C04_reject_overlimit_integer_groom_tree S tag x tl pre post ch ci c a n s ch.tag i hf hc hnd
    (C04_effTag_noGroom c hg pre ch) ha hname hdot hk htext hp hover

/-- **C04 (integer exactly at the limit, keyword route).** Every `|i| < 10^n` — in particular `10^n − 1` and
    `−(10^n − 1)` — is accepted by an `Integer(n)` attribute and the instance holds `i`. -/
theorem C04_accept_at_limit_integer_kw (S : Schema) (ci : Nat) (c : Cls) (args : List Node) (kw : List (Str × Node))
    (a : Attr) (n : Nat) (i : Int) (w : Node) (hc : S.cls? ci = some c) (hnd : (c.spec.map (·.name)).Nodup)
    (ha : a ∈ c.spec) (hk : a.kind = .integer (some n)) (hlook : lookup a.name kw = some w)
    (hw : w = .val (.int i) ∨ ∃ s, w = .val (.str s) ∧ s ≠ [] ∧ pyIntParse s = some i)
    (hfit : i.natAbs < 10 ^ n) (ho : OthersOk S Types.conv c args kw a) :
    ∃ fields items, construct S Types.conv ci args kw = .ok (.agg ci fields items) ∧
      lookup a.name fields = some (.val (.int i)) := by
  apply construct_ok_of_others S Types.conv ci c args kw a _ hc hnd (by simp [mem_specNoList, ha, hk, Kind.isList]) _ ho
  rw [hlook, Option.getD_some]
  have : setAttr S Types.conv a w = setAttr S Types.conv a (.val (.int i)) := by
    rcases hw with rfl | ⟨s, rfl, hs, hp⟩
    · rfl
    · exact setAttr_integer_text S a _ s i hk hs hp
  rw [this, setAttr_integer_int S a _ i hk]
  have : ¬ 10 ^ n ≤ i.natAbs := by omega
  simp [this]

theorem C04_accept_at_limit_integer_tree (S : Schema) (tag : Str) (x tl : Option Str) (pre post : List Tree)
    (ch : Tree) (ci : Nat) (c : Cls) (a : Attr) (n : Nat) (t0 : Char) (ts : Str) (i : Int) (acc : Accum)
    (hf : S.findIdx? tag = some ci) (hc : S.cls? ci = some c) (hg : c.groom = none)
    (hnd : (c.spec.map (·.name)).Nodup) (ha : a ∈ c.spec) (hname : a.name = lower ch.tag) (hdot : '.' ∉ ch.tag)
    (hk : a.kind = .integer (some n)) (htext : ch.text = some (t0 :: ts)) (hp : pyIntParse (t0 :: ts) = some i)
    (hfit : i.natAbs < 10 ^ n)
    (hfold : foldChildren c (pre ++ ch :: post) (childInsts S Types.conv (pre ++ ch :: post)) Accum.init = .ok acc)
    (ho : OthersOk S Types.conv c acc.args acc.kwargs a) :
    ∃ fields items, fromEtree S Types.conv (.node tag x tl (pre ++ ch :: post)) = .ok (.agg ci fields items) ∧
      lookup a.name fields = some (.val (.int i)) := by
  apply fromEtree_ok_of_others S Types.conv tag x tl pre post ch ci c a t0 ts _ acc hf hc hnd ha
    (by rw [C04_effTag_noGroom c hg]; exact hname) (by rw [C04_effTag_noGroom c hg]; exact hdot)
    (by simp [hk, Kind.isList]) (by simp [hk, Kind.isUnsupported]) htext _ hfold ho
  rw [setAttr_integer_text S a _ _ i hk (by simp) hp, setAttr_integer_int S a _ i hk]
  have : ¬ 10 ^ n ≤ i.natAbs := by omega
  simp [this]

/-- the two boundary values named by the property -/
theorem C04_integer_boundary (n : Nat) :
    ((10 ^ n - 1 : Nat) : Int).natAbs < 10 ^ n ∧ (-((10 ^ n - 1 : Nat) : Int)).natAbs < 10 ^ n ∧
    10 ^ n ≤ ((10 ^ n : Nat) : Int).natAbs ∧ 10 ^ n ≤ (-((10 ^ n : Nat) : Int)).natAbs := by
  have : 0 < 10 ^ n := Nat.pow_pos (by decide)
  refine ⟨?_, ?_, ?_, ?_⟩ <;> simp <;> omega

/-- **C04 (enumerated value sets, keyword route).** A token outside the attribute's enumeration is rejected. -/
theorem C04_reject_foreign_token_kw (S : Schema) (ci : Nat) (c : Cls) (args : List Node) (kw : List (Str × Node))
    (a : Attr) (e : Nat) (valid : List Str) (s : Str) (hc : S.cls? ci = some c) (ha : a ∈ c.spec)
    (hk : a.kind = .oneOf e) (he : S.enums[e]? = some valid)
    (hlook : lookup a.name kw = some (.val (.str s))) (hs : s ≠ []) (hforeign : s ∉ valid) :
    ∃ e, construct S Types.conv ci args kw = .error e := by
  apply construct_error_of_setAttr S Types.conv ci c args kw a hc (by simp [mem_specNoList, ha, hk, Kind.isList])
  rw [hlook, Option.getD_some, setAttr_oneOf_text S a e valid s hk he hs]
  exact ⟨.spec, by simp [hforeign]⟩

theorem C04_reject_foreign_token_tree (S : Schema) (tag : Str) (x tl : Option Str) (pre post : List Tree)
    (ch : Tree) (ci : Nat) (c : Cls) (a : Attr) (e : Nat) (valid : List Str) (t0 : Char) (ts : Str)
    (hf : S.findIdx? tag = some ci) (hc : S.cls? ci = some c) (hg : c.groom = none)
    (hnd : (c.spec.map (·.name)).Nodup) (ha : a ∈ c.spec) (hname : a.name = lower ch.tag) (hdot : '.' ∉ ch.tag)
    (hk : a.kind = .oneOf e) (he : S.enums[e]? = some valid) (htext : ch.text = some (t0 :: ts))
    (hforeign : (t0 :: ts) ∉ valid) :
    ∃ e, fromEtree S Types.conv (.node tag x tl (pre ++ ch :: post)) = .error e :=
  C04_reject_foreign_token_groom_tree S tag x tl pre post ch ci c a e valid t0 ts ch.tag hf hc hnd
    (C04_effTag_noGroom c hg pre ch) ha hname hdot hk he htext hforeign

/-- **C04 (a token of the enumeration, keyword route)** is accepted and the instance holds it. -/
theorem C04_accept_member_token_kw (S : Schema) (ci : Nat) (c : Cls) (args : List Node) (kw : List (Str × Node))
    (a : Attr) (e : Nat) (valid : List Str) (s : Str) (hc : S.cls? ci = some c)
    (hnd : (c.spec.map (·.name)).Nodup) (ha : a ∈ c.spec) (hk : a.kind = .oneOf e) (he : S.enums[e]? = some valid)
    (hlook : lookup a.name kw = some (.val (.str s))) (hs : s ≠ []) (hmem : s ∈ valid)
    (ho : OthersOk S Types.conv c args kw a) :
    ∃ fields items, construct S Types.conv ci args kw = .ok (.agg ci fields items) ∧
      lookup a.name fields = some (.val (.str s)) := by
  apply construct_ok_of_others S Types.conv ci c args kw a _ hc hnd (by simp [mem_specNoList, ha, hk, Kind.isList]) _ ho
  rw [hlook, Option.getD_some, setAttr_oneOf_text S a e valid s hk he hs]
  simp [hmem]

theorem C04_accept_member_token_tree (S : Schema) (tag : Str) (x tl : Option Str) (pre post : List Tree)
    (ch : Tree) (ci : Nat) (c : Cls) (a : Attr) (e : Nat) (valid : List Str) (t0 : Char) (ts : Str) (acc : Accum)
    (hf : S.findIdx? tag = some ci) (hc : S.cls? ci = some c) (hg : c.groom = none)
    (hnd : (c.spec.map (·.name)).Nodup) (ha : a ∈ c.spec) (hname : a.name = lower ch.tag) (hdot : '.' ∉ ch.tag)
    (hk : a.kind = .oneOf e) (he : S.enums[e]? = some valid) (htext : ch.text = some (t0 :: ts))
    (hmem : (t0 :: ts) ∈ valid)
    (hfold : foldChildren c (pre ++ ch :: post) (childInsts S Types.conv (pre ++ ch :: post)) Accum.init = .ok acc)
    (ho : OthersOk S Types.conv c acc.args acc.kwargs a) :
    ∃ fields items, fromEtree S Types.conv (.node tag x tl (pre ++ ch :: post)) = .ok (.agg ci fields items) ∧
      lookup a.name fields = some (.val (.str (t0 :: ts))) := by
  apply fromEtree_ok_of_others S Types.conv tag x tl pre post ch ci c a t0 ts _ acc hf hc hnd ha
    (by rw [C04_effTag_noGroom c hg]; exact hname) (by rw [C04_effTag_noGroom c hg]; exact hdot)
    (by simp [hk, Kind.isList]) (by simp [hk, Kind.isUnsupported]) htext _ hfold ho
  rw [setAttr_oneOf_text S a e valid _ hk he (by simp)]
  simp [hmem]

theorem C04_reject_required_omitted_conv_kw (S : Schema) (ci : Nat) (c : Cls) (args : List Node)
    (kw : List (Str × Node)) (a : Attr) (hc : S.cls? ci = some c) (ha : a ∈ c.spec)
    (hl : a.kind.isList = false) (hu : a.kind.isUnsupported = false) (hreq : a.required = true)
    (hng : ¬ Present kw a.name) : ∃ e, construct S Types.conv ci args kw = .error e :=
  construct_error_of_required_absent S Types.conv ci c args kw a hc ha hl hu hreq
    (fun hst => conv_required_none S.enums a.kind hl hu hst) hng

theorem C04_reject_required_omitted_conv_tree (S : Schema) (tag : Str) (x tl : Option Str) (children : List Tree)
    (ci : Nat) (c : Cls) (a : Attr) (hf : S.findIdx? tag = some ci) (hc : S.cls? ci = some c)
    (hg : c.groom = none) (ha : a ∈ c.spec) (hl : a.kind.isList = false) (hu : a.kind.isUnsupported = false)
    (hreq : a.required = true) (hno : ∀ ch ∈ children, lower ch.tag ≠ a.name) :
    ∃ e, fromEtree S Types.conv (.node tag x tl children) = .error e :=
  C04_reject_required_omitted_tree S Types.conv tag x tl children ci c a hf hc hg ha hl hu hreq
    (fun hst => conv_required_none S.enums a.kind hl hu hst) hno

/-- **C04 (permitted list member types, `ElementList`).** A member the list element's converter refuses makes the
    construction of an `ElementList` fail (any converter family). -/
theorem C04_reject_list_element_kw (S : Schema) (cv : Conv) (ci : Nat) (c : Cls) (args : List Node)
    (kw : List (Str × Node)) (a : Attr) (inner : Kind) (ireq : Bool) (m : Node) (hc : S.cls? ci = some c)
    (hel : c.elementList = true) (hfilt : c.spec.filter (fun a => a.kind.isListElem) = [a])
    (hk : a.kind = .listElem inner ireq) (hm : m ∈ args)
    (hbad : ∃ e, cv.convert S.enums inner ireq (Node.toVal m) = .error e) :
    ∃ e, construct S cv ci args kw = .error e := by
  apply PyM.not_ok_error
  intro n hn
  obtain ⟨_, items, _, _, ha, _⟩ := construct_ok_cls hc hn
  rw [applyArgs_el args hel hfilt hk] at ha
  obtain ⟨y, _, hy⟩ := PyM.mapM_mem_left ha hm
  obtain ⟨e, he⟩ := hbad
  rw [he] at hy; cases hy

/-- … with the real converters: a member of an `ElementList` of `Integer(n)` with more than `n` digits is rejected
    (TAX1099MSGSETV1's `TAXYEARSUPPORTED`) -/
theorem C04_reject_overlimit_list_element_kw (S : Schema) (ci : Nat) (c : Cls) (args : List Node)
    (kw : List (Str × Node)) (a : Attr) (n : Nat) (ireq : Bool) (i : Int) (hc : S.cls? ci = some c)
    (hel : c.elementList = true) (hfilt : c.spec.filter (fun a => a.kind.isListElem) = [a])
    (hk : a.kind = .listElem (.integer (some n)) ireq) (hm : Node.val (.int i) ∈ args)
    (hover : 10 ^ n ≤ i.natAbs) : ∃ e, construct S Types.conv ci args kw = .error e := by
  apply C04_reject_list_element_kw S Types.conv ci c args kw a _ ireq _ hc hel hfilt hk hm
  refine ⟨.spec, ?_⟩
  simp only [Types.conv, Types.convert, Node.toVal, integerConvert, intEnforceLength]
  simp [hover]

/-- what the theorems below need of the schema: attribute names of a class are pairwise distinct, members of
    exactly-one groups are supported attributes (both are clauses of the generated obligation
    `Gen.schema_wf_except_known`; `Gen/C04Ext.lean` discharges them for every generated class) -/
def SchemaOk (S : Schema) : Prop :=
  ∀ ci c, S.cls? ci = some c → (c.spec.map (·.name)).Nodup ∧ ReqGroupsSupported c

/-- **C04 (consequence, keyword route, all constraint kinds, any depth).**  If `Cls(*args, **kwargs)` returns, with
    the real converters, and every instance handed in as a keyword or positional argument satisfies all constraints of
    its class all the way down, then so does the instance returned: required elements and sub-aggregates present,
    at most one member of every at-most-one group, exactly one of every exactly-one group, enumerated values in
    their sets, strict strings within their length, integers within their digits, sub-aggregates and list members
    of the declared classes, list-content rules of the hand-coded `validate_args`.  Empty texts among the keywords need
    not be excluded: `validate_args` does not count one as given (`given`), as the converters store `None` for it. -/
theorem C04_sound_full_kw (S : Schema) (hS : SchemaOk S) (ci : Nat) (args : List Node)
    (kw : List (Str × Node)) (n : Node) (h : construct S Types.conv ci args kw = .ok n)
    (hargs : ∀ m ∈ args, m.isAgg = true → ValidFull S m)
    (hkw : ∀ k v, (k, v) ∈ kw → v.isAgg = true → ValidFull S v) : ValidFull S n := by
  obtain ⟨c, _, _, hc, _⟩ := (construct_ok_iff S Types.conv ci args kw n).mp h
  obtain ⟨hnd, hsup⟩ := hS ci c hc
  exact validFull_of_construct S ci c args kw n h hc hnd hsup hargs hkw

/-- one level, no premise on the group members: no group, at-most-one or exactly-one, ever has two members set, and
    the instance is valid at its level as soon as its exactly-one groups have a member -/
theorem C04_sound_kw_groups_atmost (S : Schema) (ci : Nat) (c : Cls) (args : List Node)
    (kw : List (Str × Node)) (fields : List (Str × Node)) (items : List Node)
    (h : construct S Types.conv ci args kw = .ok (.agg ci fields items)) (hc : S.cls? ci = some c)
    (hnd : (c.spec.map (·.name)).Nodup) :
    (∀ g ∈ c.optMutex ++ c.reqMutex, mutexCount fields g ≤ 1) ∧
    ((∀ g ∈ c.reqMutex, mutexCount fields g = 1) → NodeFull S c ci fields items) := by
  refine ⟨fun g hg => ?_, nodeFull_of_construct S ci c args kw fields items h hc hnd⟩
  obtain ⟨c', _, _, hn, hc', _, ho, hq, hfm, _, hkeys⟩ := C04_sound_kw S Types.conv ci args kw _ h
  obtain rfl : c' = c := Option.some.inj (hc'.symm.trans hc)
  injection hn with _ hf _; subst hf
  have hle := (mutexCount_stored S hnd hfm hkeys g).1
  rcases List.mem_append.mp hg with hg | hg
  · exact Nat.le_trans hle (ho g hg)
  · exact Nat.le_trans hle (Nat.le_of_eq (hq g hg))

/-- **C04 (exactly-one groups, the empty text, keyword route).** A description in which the only member of an
    exactly-one group that is passed at all is the empty text `""` (every other member absent or `None`) is rejected:
    an empty text does not count as a member given. -/
theorem C04_reject_reqmutex_empty_text_kw (S : Schema) (cv : Conv) (ci : Nat) (c : Cls) (args : List Node)
    (kw : List (Str × Node)) (g : List Str) (m0 : Str) (hc : S.cls? ci = some c) (hg : g ∈ c.reqMutex)
    (hm0 : lookup m0 kw = some (.val (.str [])))
    (hothers : ∀ m ∈ g, m ≠ m0 → ¬ Present kw m) : ∃ e, construct S cv ci args kw = .error e := by
  apply C04_reject_reqmutex_none S cv ci c args kw g hc hg
  intro m hm hgiven
  by_cases hmm : m = m0
  · subst hmm
    obtain ⟨v, hl, hv⟩ := hgiven
    rw [hm0] at hl; injection hl with hl; subst hl
    simp [given] at hv
  · exact hothers m hm hmm (Present_of_Given hgiven)

theorem C04_empty_text_not_counted (kw : List (Str × Node)) (g : List Str)
    (h : ∀ m ∈ g, Given kw m → False) : mutexCount kw g = 0 :=
  mutexCount_zero kw g (fun m hm hg => h m hm hg)

/-- **C04 (consequence, tree route, all constraint kinds, any depth).**  Every instance `from_etree` returns, with
    the real converters, satisfies all constraints of its class, and so does every instance nested in it, at
    any depth. -/
theorem C04_sound_full_tree (S : Schema) (hS : SchemaOk S) : ∀ (t : Tree) (n : Node),
    fromEtree S Types.conv t = .ok n → ValidFull S n := by
  refine Tree.induct fun tag x tl children ih n h => ?_
  obtain ⟨ci, c, acc, _, hc, hfold, h⟩ := fromEtree_ok h
  obtain ⟨hnd, hsup⟩ := hS ci c hc
  obtain ⟨hkw, hargs⟩ := foldChildren_origin_eff S Types.conv c children Accum.init acc hfold
  -- an aggregate among the arguments collected is what a child was read as
  have hval : ∀ pre ch post raw l k, children = pre ++ ch :: post →
      SuppliedBy S Types.conv c Accum.init.renamed pre ch raw l k → raw.isAgg = true → ValidFull S raw := by
    intro pre ch post raw l k hch ⟨_, _, _, idx, _, hv⟩ hagg
    split at hv
    · subst hv; cases hagg
    · rcases childValue_ok hv with ⟨_, _, _, rfl⟩ | ⟨_, hok⟩
      · cases hagg
      · exact ih ch (by rw [hch]; simp) raw hok
  refine validFull_of_construct S ci c acc.args acc.kwargs n h hc hnd hsup ?_ ?_
  · intro m hm hagg
    rcases hargs m hm with h0 | ⟨pre, ch, post, k, hch, hs⟩
    · cases h0
    · exact hval pre ch post m true k hch hs hagg
  · intro k v hm hagg
    rcases hkw k v hm with h0 | ⟨pre, ch, post, hch, hs⟩
    · cases h0
    · exact hval pre ch post v false k hch hs hagg

theorem C04_sound_full_children (S : Schema) (hS : SchemaOk S) : ∀ (ts : List Tree), ∀ ch ∈ ts, ∀ n,
    fromEtree S Types.conv ch = .ok n → ValidFull S n :=
  fun _ ch _ => C04_sound_full_tree S hS ch

/-- what `ValidFull` says about one instance, spelled out: the declared groups hold on the values the instance
    stores (not only on the keywords it was given) -/
theorem C04_validFull_groups (S : Schema) (ci : Nat) (fields : List (Str × Node)) (items : List Node)
    (h : ValidFull S (.agg ci fields items)) :
    ∃ c, S.cls? ci = some c ∧ (∀ g ∈ c.optMutex, mutexCount fields g ≤ 1) ∧
      (∀ g ∈ c.reqMutex, mutexCount fields g = 1) ∧ FieldsMatch (FieldFull S) (specNoList c) fields ∧
      ItemsFull S c items := by
  obtain ⟨⟨c, hn⟩, _, _⟩ := h
  exact ⟨c, hn.hc, hn.opt, hn.req, hn.fm, hn.members⟩

theorem C04_validFull_nested (S : Schema) (ci : Nat) (fields : List (Str × Node)) (items : List Node)
    (h : ValidFull S (.agg ci fields items)) :
    (∀ k v, (k, v) ∈ fields → v.isAgg = true → ValidFull S v) ∧ (∀ m ∈ items, m.isAgg = true → ValidFull S m) := by
  obtain ⟨_, hf, hi⟩ := h
  exact ⟨(fullFields_iff S fields).mp hf, (fullItems_iff S items).mp hi⟩

/-- groups declared anywhere in the class's bases hold too, for every class in which the declared groups are in
    force (a clause of `WF.mutexOk`; `Gen.schema_declared_in_force` proves it for every generated class) -/
theorem C04_validFull_declared_groups (S : Schema) (ci : Nat) (c : Cls) (fields : List (Str × Node))
    (items : List Node) (h : ValidFull S (.agg ci fields items)) (hc : S.cls? ci = some c)
    (hdo : ∀ g ∈ c.declOptMutex, g ∈ c.optMutex) (hdr : ∀ g ∈ c.declReqMutex, g ∈ c.reqMutex) :
    (∀ g ∈ c.declOptMutex, mutexCount fields g ≤ 1) ∧ (∀ g ∈ c.declReqMutex, mutexCount fields g = 1) := by
  obtain ⟨⟨c', hn⟩, _, _⟩ := h
  have : c' = c := by have := hn.hc; rw [hc] at this; injection this with this; exact this.symm
  subst this
  exact ⟨fun g hg => hn.opt g (hdo g hg), fun g hg => hn.req g (hdr g hg)⟩

/-- **C04 (hand-coded rules, keyword route).** A description that violates the class's hand-coded rule — in any of
    the ways `ExtraViolates` lists — is rejected. -/
theorem C04_reject_extra_kw (S : Schema) (cv : Conv) (ci : Nat) (c : Cls) (args : List Node)
    (kw : List (Str × Node)) (hc : S.cls? ci = some c) (hv : ExtraViolates S c.extra args kw) :
    ∃ e, construct S cv ci args kw = .error e := by
  apply construct_error_of_not_validate S cv ci c args kw hc
  intro hval
  obtain ⟨e, he⟩ := extraRule_error_of_violates S c.extra args kw hv
  rw [(validate_ok S c args kw hval).1] at he
  cases he

/-- **C04 (hand-coded rules, tree route).** A document whose children, as the reader collects them, violate the
    class's hand-coded rule is rejected. -/
theorem C04_reject_extra_tree (S : Schema) (cv : Conv) (tag : Str) (x tl : Option Str) (children : List Tree)
    (ci : Nat) (c : Cls) (hf : S.findIdx? tag = some ci) (hc : S.cls? ci = some c)
    (hempty : children = [] → ExtraViolates S c.extra [] [])
    (hv : ∀ acc, foldChildren c children (childInsts S cv children) Accum.init = .ok acc →
      ExtraViolates S c.extra acc.args acc.kwargs) :
    ∃ e, fromEtree S cv (.node tag x tl children) = .error e := by
  apply fromEtree_error_of_construct S cv tag x tl children ci c hf hc
  intro acc hfold
  exact C04_reject_extra_kw S cv ci c acc.args acc.kwargs hc (hv acc hfold)

theorem fold_keys (S : Schema) (cv : Conv) (c : Cls) (hg : c.groom = none) (children : List Tree) (acc : Accum)
    (hfold : foldChildren c children (childInsts S cv children) Accum.init = .ok acc) :
    (∀ k ∈ acc.kwargs.map (·.1), ∃ ch ∈ children, lower ch.tag = k) ∧
    (∀ ch ∈ children, '.' ∉ ch.tag → (∃ idx, specIndex c (lower ch.tag) = some idx) →
      isListMember c (lower ch.tag) = false → lower ch.tag ∈ acc.kwargs.map (·.1)) := by
  constructor
  · intro k hk
    obtain ⟨⟨k', v⟩, hm, rfl⟩ := List.mem_map.mp hk
    rcases (foldChildren_origin_eff S cv c children Accum.init acc hfold).1 k' v hm with
      h0 | ⟨pre, ch, post, rfl, _, hn, _⟩
    · simp [Accum.init] at h0
    · rw [effTag_noGroom c hg] at hn
      exact ⟨ch, by simp, hn⟩
  · intro ch hch hdot ⟨idx, hidx⟩ hnl
    obtain ⟨pre, post, rfl⟩ := List.append_of_mem hch
    rw [childInsts_append] at hfold
    simp only [childInsts] at hfold
    obtain ⟨acc1, acc2, hstep, hrest⟩ := foldChildren_mid c ch _ pre post _ _ Accum.init acc
      (childInsts_length S cv pre) hfold
    rw [updateArgs_eff c acc1 ch _ _ ch.tag rfl (by rw [effTag_noGroom c hg]) hdot] at hstep
    exact (hasKey_iff_mem _ _).mp (foldChildren_hasKey c post _ acc2 acc hrest _
      (stepCore_known_key c _ acc2 ch.tag _ idx hidx hnl hstep))

/-- **C04 ("at least one member", tree route).** A document of a class whose rule demands a list member (MSGSETLIST,
    MFACHALLENGERS, CONTRIBINFO, ACCTINFO, the TAX1099 message sets, …) none of whose children is a repeated child
    is rejected. -/
theorem C04_reject_no_member_tree (S : Schema) (cv : Conv) (tag : Str) (x tl : Option Str) (children : List Tree)
    (ci : Nat) (c : Cls) (hf : S.findIdx? tag = some ci) (hc : S.cls? ci = some c) (hg : c.groom = none)
    (hneeds : needsMember c.extra = true)
    (hno : ∀ ch ∈ children, isListMember c (lower ch.tag) = false) :
    ∃ e, fromEtree S cv (.node tag x tl children) = .error e := by
  apply C04_reject_extra_tree S cv tag x tl children ci c hf hc (fun _ => .noMember _ _ hneeds)
  intro acc hfold
  have hargs : acc.args = [] := by
    cases hacc : acc.args with
    | nil => rfl
    | cons m r =>
      rcases (foldChildren_origin_eff S cv c children Accum.init acc hfold).2 m (by rw [hacc]; simp) with
        h0 | ⟨pre, ch, post, _, rfl, _, rfl, hl, _⟩
      · simp [Accum.init] at h0
      · rw [effTag_noGroom c hg, hno ch (by simp)] at hl; cases hl
  rw [hargs]
  exact .noMember _ _ hneeds

/-- **C04 (TAX1099R_V100's rule, tree route)**, as an instance of the key-based rules: a document with one of the
    children GROSSDIST, TAXAMT, FEDTAXWH, STTAXWH, LCLTAXWH (known, non-repeated) and no IRASEPSIMP child is
    rejected. -/
theorem C04_reject_tax1099r_tree (S : Schema) (cv : Conv) (tag : Str) (x tl : Option Str) (children : List Tree)
    (ci : Nat) (c : Cls) (hf : S.findIdx? tag = some ci) (hc : S.cls? ci = some c) (hg : c.groom = none)
    (hx : c.extra = .tax1099r) (ch : Tree) (t : String) (hch : ch ∈ children)
    (ht : t ∈ ["grossdist", "taxamt", "fedtaxwh", "sttaxwh", "lcltaxwh"]) (htag : lower ch.tag = t.toList)
    (hdot : '.' ∉ ch.tag) (hidx : ∃ idx, specIndex c (lower ch.tag) = some idx)
    (hnl : isListMember c (lower ch.tag) = false)
    (hno : ∀ ch' ∈ children, lower ch'.tag ≠ "irasepsimp".toList) :
    ∃ e, fromEtree S cv (.node tag x tl children) = .error e := by
  apply C04_reject_extra_tree S cv tag x tl children ci c hf hc
  · intro he; subst he; cases hch
  · intro acc hfold
    obtain ⟨hk1, hk2⟩ := fold_keys S cv c hg children acc hfold
    rw [hx]
    refine .tax1099r _ _ t ht (by rw [← htag]; exact hk2 ch hch hdot hidx hnl) ?_
    intro hmem
    obtain ⟨ch', hch', hn⟩ := hk1 _ hmem
    exact hno ch' hch' hn

end Ofx.Agg

/-! ## non-vacuity: every guard above is satisfiable (a four-class schema; the generated schema's own instances
    are in `Gen/C04Ext.lean` and `Gen/C04ExtW.lean`) -/

namespace Ofx.Agg.C04ExtEx
open Ofx Ofx.Agg Ofx.Types

def clsP : Cls := mkCls "P"
  [⟨"a".toList, .string (some 3) true, true⟩, ⟨"n".toList, .integer (some 2), false⟩,
   ⟨"k".toList, .oneOf 0, false⟩, ⟨"q".toList, .listAgg 1, false⟩, ⟨"z".toList, .string none true, false⟩]
  [["n".toList, "k".toList]] .none
def clsQ : Cls := mkCls "Q" [⟨"b".toList, .bool, true⟩] [] .none
/-- `R`: repeated `Q` children, at least one (the MSGSETLIST rule) -/
def clsR : Cls := mkCls "R" [⟨"q".toList, .listAgg 1, false⟩] [] .msgsetlist
/-- `T`: an `ElementList` of `Integer(4)` (TAX1099MSGSETV1's shape) -/
def clsT : Cls := { mkCls "T" [⟨"y".toList, .listElem (.integer (some 4)) false, false⟩] [] .none with elementList := true }
def exS : Schema := { classes := [clsP, clsQ, clsR, clsT], enums := [["X".toList, "Y".toList]] }

def qDoc : Tree := .node "Q".toList none none [leaf "B" "Y"]
def qInst : Node := .agg 1 [("b".toList, .val (.bool true))] []

theorem exS_ok : SchemaOk exS := by
  intro ci c hc
  have hmem : c ∈ exS.classes := List.mem_of_getElem? hc
  simp only [exS, List.mem_cons, List.not_mem_nil, or_false] at hmem
  rcases hmem with rfl | rfl | rfl | rfl
  · refine ⟨by decide +kernel, ?_⟩
    intro g _ m _ a ha _
    simp [clsP, mkCls] at ha
    rcases ha with rfl | rfl | rfl | rfl | rfl <;> rfl
  · exact ⟨by decide +kernel, by intro g hg; cases hg⟩
  · exact ⟨by decide +kernel, by intro g hg; cases hg⟩
  · exact ⟨by decide +kernel, by intro g hg; cases hg⟩

/-- order, adjacent: a repeated `Q` followed by the non-repeated `A` (position 3, then 0) -/
example : ∃ e, fromEtree exS Types.conv (.node "P".toList none none ([] ++ qDoc :: ([] ++ leaf "A" "abc" :: []))) = .error e :=
  C04_reject_adjacent_out_of_order exS Types.conv _ none none [] [] [] qDoc (leaf "A" "abc") 0 clsP 3 0
    rfl rfl rfl (by simp) (by decide +kernel) (by decide +kernel) (by decide +kernel) (by decide +kernel) (by decide +kernel) (by decide +kernel)

/-- order, any distance: `Q` (repeated, 3) … `Z` (4) … `N` (1); `lo = 1` -/
example : ∃ e, fromEtree exS Types.conv
    (.node "P".toList none none ([] ++ qDoc :: ([leaf "Z" "z"] ++ leaf "N" "5" :: []))) = .error e :=
  C04_reject_out_of_order_gen exS Types.conv _ none none [] [leaf "Z" "z"] [] qDoc (leaf "N" "5") 0 clsP 3 1 1
    rfl rfl rfl (by decide +kernel)
    (by
      intro i q ai aq hi hil hij _ _
      have : i = 0 := by omega
      subst this
      simp [clsP, mkCls] at hi; subst hi; simp [Kind.isList] at hil)
    (by decide +kernel) (by decide +kernel) (by decide +kernel) (by decide +kernel) (by decide +kernel) (by decide +kernel) (by decide +kernel)

def kwAt : List (Str × Node) := [("a".toList, .val (.str "abc".toList)), ("n".toList, .val (.int 99))]

theorem othersOk (a : Attr) (kw : List (Str × Node))
    (hv : validateArgs exS clsP [qInst] kw = .ok ()) (hr : applyResidual clsP kw = .ok ())
    (ho : ∀ b ∈ specNoList clsP, b ≠ a → ∃ o, setAttr exS Types.conv b ((lookup b.name kw).getD (.val .none)) = .ok o) :
    OthersOk exS Types.conv clsP [qInst] kw a := ⟨hv, ⟨[qInst], rfl⟩, hr, ho⟩

/-- string: four characters refused, three accepted and held -/
example : ∃ e, construct exS Types.conv 0 [] [("a".toList, .val (.str "abcd".toList))] = .error e :=
  C04_reject_overlong_string_kw exS 0 clsP [] _ ⟨"a".toList, .string (some 3) true, true⟩ 3 "abcd".toList
    rfl (by simp [clsP, mkCls]) rfl rfl (by decide +kernel)

example : ∃ fields items, construct exS Types.conv 0 [qInst] kwAt = .ok (.agg 0 fields items) ∧
    lookup "a".toList fields = some (.val (.str "abc".toList)) :=
  C04_accept_at_limit_string_kw exS 0 clsP [qInst] kwAt ⟨"a".toList, .string (some 3) true, true⟩ 3 "abc".toList
    rfl (by decide +kernel) (by simp [clsP, mkCls]) rfl rfl (by decide +kernel) (by decide +kernel)
    (othersOk _ _ rfl rfl (by
      intro b hb hne
      simp only [specNoList, clsP, mkCls, List.filter, Kind.isList, Bool.not_false, Bool.not_true,
        List.mem_cons, List.not_mem_nil, or_false] at hb
      rcases hb with rfl | rfl | rfl | rfl
      · exact absurd rfl hne
      · exact ⟨_, rfl⟩
      · exact ⟨_, rfl⟩
      · exact ⟨_, rfl⟩))

example : ∃ e, fromEtree exS Types.conv (.node "P".toList none none ([] ++ leaf "A" "ab&amp;cd" :: [])) = .error e :=
  C04_reject_overlong_string_tree exS _ none none [] [] (leaf "A" "ab&amp;cd") 0 clsP
    ⟨"a".toList, .string (some 3) true, true⟩ 3 "ab&amp;cd".toList rfl rfl rfl (by decide +kernel) (by simp [clsP, mkCls]) (by decide +kernel)
    (by decide +kernel) rfl rfl (by decide +kernel)

/-- integer: `100` and `-100` refused by `Integer(2)`, `99` accepted (the third example) -/
example : ∃ e, construct exS Types.conv 0 [] [("n".toList, .val (.int (-100)))] = .error e :=
  C04_reject_overlimit_integer_kw exS 0 clsP [] _ ⟨"n".toList, .integer (some 2), false⟩ 2 (-100) _
    rfl (by simp [clsP, mkCls]) rfl rfl (Or.inl rfl) (by decide +kernel)

example : ∃ e, fromEtree exS Types.conv (.node "P".toList none none ([leaf "A" "abc"] ++ leaf "N" "100" :: [])) = .error e :=
  C04_reject_overlimit_integer_tree exS _ none none [leaf "A" "abc"] [] (leaf "N" "100") 0 clsP
    ⟨"n".toList, .integer (some 2), false⟩ 2 "100".toList 100 rfl rfl rfl (by decide +kernel) (by simp [clsP, mkCls]) (by decide +kernel)
    (by decide +kernel) rfl rfl (by decide +kernel) (by decide +kernel)

example : ∃ fields items, construct exS Types.conv 0 [qInst] kwAt = .ok (.agg 0 fields items) ∧
    lookup "n".toList fields = some (.val (.int 99)) :=
  C04_accept_at_limit_integer_kw exS 0 clsP [qInst] kwAt ⟨"n".toList, .integer (some 2), false⟩ 2 99 _
    rfl (by decide +kernel) (by simp [clsP, mkCls]) rfl rfl (Or.inl rfl) (by decide +kernel)
    (othersOk _ _ rfl rfl (by
      intro b hb hne
      simp only [specNoList, clsP, mkCls, List.filter, Kind.isList, Bool.not_false, Bool.not_true,
        List.mem_cons, List.not_mem_nil, or_false] at hb
      rcases hb with rfl | rfl | rfl | rfl
      · exact ⟨_, rfl⟩
      · exact absurd rfl hne
      · exact ⟨_, rfl⟩
      · exact ⟨_, rfl⟩))

/-- enumeration: `W` is foreign to `{X, Y}` -/
example : ∃ e, construct exS Types.conv 0 [] [("k".toList, .val (.str "W".toList))] = .error e :=
  C04_reject_foreign_token_kw exS 0 clsP [] _ ⟨"k".toList, .oneOf 0, false⟩ 0 _ "W".toList
    rfl (by simp [clsP, mkCls]) rfl rfl rfl (by decide +kernel) (by decide +kernel)

example : ∃ e, fromEtree exS Types.conv (.node "P".toList none none ([leaf "A" "abc"] ++ leaf "K" "W" :: [])) = .error e :=
  C04_reject_foreign_token_tree exS _ none none [leaf "A" "abc"] [] (leaf "K" "W") 0 clsP
    ⟨"k".toList, .oneOf 0, false⟩ 0 _ 'W' [] rfl rfl rfl (by decide +kernel) (by simp [clsP, mkCls]) (by decide +kernel)
    (by decide +kernel) rfl rfl rfl (by decide +kernel)

/-- a document the reader accepts, and the instance it yields: valid all the way down -/
def pDoc : Tree := .node "P".toList none none [leaf "A" "abc", leaf "K" "X", qDoc, qDoc]
def pInst : Node :=
  .agg 0 [("a".toList, .val (.str "abc".toList)), ("n".toList, .val .none), ("k".toList, .val (.str "X".toList)),
          ("z".toList, .val .none)] [qInst, qInst]

theorem pDoc_read : fromEtree exS Types.conv pDoc = .ok pInst := by rfl

example : ValidFull exS pInst := C04_sound_full_tree exS exS_ok pDoc pInst pDoc_read

example : ValidFull exS pInst :=
  C04_sound_full_kw exS exS_ok 0 [qInst, qInst]
    [("a".toList, .val (.str "abc".toList)), ("k".toList, .val (.str "X".toList))] pInst (by rfl)
    (by
      intro m hm _
      have : m = qInst := by simp at hm; exact hm
      subst this
      exact C04_sound_full_tree exS exS_ok qDoc qInst (by rfl))
    (by intro k v hm hagg; simp at hm; rcases hm with ⟨_, rfl⟩ | ⟨_, rfl⟩ <;> cases hagg)

/-- `P(a="abc", n="")` — the empty text is the only member of the exactly-one group
    `{n, k}` passed — is rejected -/
example : ∃ e, construct exS Types.conv 0 []
    [("a".toList, .val (.str "abc".toList)), ("n".toList, .val (.str []))] = .error e :=
  C04_reject_reqmutex_empty_text_kw exS Types.conv 0 clsP [] _ ["n".toList, "k".toList] "n".toList rfl (by decide +kernel) rfl
    (by
      intro m hm hne
      simp only [List.mem_cons, List.not_mem_nil, or_false] at hm
      rcases hm with rfl | rfl
      · exact absurd rfl hne
      · rintro ⟨v, h, _⟩; simp [lookup] at h)

/-- the required `A` omitted, on both routes -/
example : ∃ e, construct exS Types.conv 0 [] [("n".toList, .val (.int 1))] = .error e :=
  C04_reject_required_omitted_conv_kw exS 0 clsP [] _ ⟨"a".toList, .string (some 3) true, true⟩ rfl
    (by simp [clsP, mkCls]) rfl rfl rfl (by rintro ⟨v, h, _⟩; simp [lookup] at h)

example : ∃ e, fromEtree exS Types.conv (.node "P".toList none none [leaf "N" "1"]) = .error e :=
  C04_reject_required_omitted_conv_tree exS _ none none _ 0 clsP ⟨"a".toList, .string (some 3) true, true⟩ rfl rfl rfl
    (by simp [clsP, mkCls]) rfl rfl rfl (by decide +kernel)

/-- a five-digit member of an `ElementList` of `Integer(4)` -/
example : ∃ e, construct exS Types.conv 3 [.val (.int 2020), .val (.int 12345)] [] = .error e :=
  C04_reject_overlimit_list_element_kw exS 3 clsT _ [] ⟨"y".toList, .listElem (.integer (some 4)) false, false⟩ 4 false
    12345 rfl rfl rfl rfl (by simp) (by decide +kernel)

/-- an accepted document is ordered -/
example : 0 < 2 ∨ (isListMember clsP (lower (leaf "A" "abc").tag) = true ∧
    isListMember clsP (lower (leaf "K" "X").tag) = true) :=
  (C04_accepted_ordered exS Types.conv "P".toList none none [] [] [qDoc, qDoc] (leaf "A" "abc") (leaf "K" "X") 0 clsP
    0 2 pInst rfl rfl rfl (by decide +kernel) (by decide +kernel) (by decide +kernel) (by decide +kernel) pDoc_read).1 (by simp)

/-- hand-coded rules: `R()` without a member, on both routes -/
example : ∃ e, construct exS Types.conv 2 [] [] = .error e :=
  C04_reject_extra_kw exS Types.conv 2 clsR [] [] rfl (.noMember _ _ rfl)

example : ∃ e, fromEtree exS Types.conv (.node "R".toList none none [leaf "VENDOR.X" "1"]) = .error e :=
  C04_reject_no_member_tree exS Types.conv _ none none _ 2 clsR rfl rfl rfl rfl (by decide +kernel)

end Ofx.Agg.C04ExtEx

