/-
C15 — the cached FI profile is whole, the newest, and from the right server.

Every statement is about the small-step model `OfxModel/Ofx/Cache.lean` of
`OFXClient.request_profile` (tied to ofxtools/Client.py by `harness/corr/C15.py`, which runs the real
method against a fake HTTP layer and a scratch data directory).

* `C15_seq` and its corollaries: for **every** sequential history of server behaviours and every good
  initial cache, the machine refines the abstract cache `Option Profile` ("put only if at least as new").
* `C15_crash_full`, `C15_interleave_full`: the cache file is replaced atomically (temporary file + `os.replace`), so
  for every crash point, and for every interleaving of any number of writers with crashes anywhere, the cache file is
  absent or one complete genuine profile and every later call behaves per `C15_seq`.
* `C15_key_full` is **false** of the code as it is: the negation is proved from a concrete pair of configurations that
  the harness replays (finding `cache_key_ignores_url`), with the strongest true restriction `C15_key_partial`.

Not modelled (label: partial): what a real crash leaves on a real file system (page cache, fsync,
buffered data of the dying process), real thread schedules below the granularity of the actions,
other processes deleting the file.
-/
import OfxProofs.Lemmas.Cache
import OfxProofs.Lemmas.List
import OfxModel.Ofx.ClientSM

namespace Ofx.Cache
open Ofx Ofx.Spec.Cache

/-- Take any good initial cache (`h0`: absent or one complete profile), any history `hist` of
    server behaviours (profiles of any dates, "up to date", error status, status 0 without a profile,
    garbage, transport failure), each call made by a fresh process (a restarted client is the same thing:
    the method keeps nothing in memory).  Then for every call `k`, with `heldAt h0 hist k` the newest profile
    among the initial one and everything the server sent before call `k`:

    1. the cache file after the call is absent or exactly one complete profile — the newest sent so far;
    2. the PROFRQ asked with the date of the profile then held (the 1990 default when none);
    3. if the call succeeds it returns the newest profile sent so far (this call included);
    4. if the call fails the cache file is what it was before the call. -/
theorem C15_seq (h0 : Abs) (hist : List Beh) (k : Nat) (b : Beh) (hb : hist[k]? = some b) :
    ∃ r, (runSeq (toDisk h0) hist)[k]? = some r ∧
      r.disk = toDisk (heldAt h0 hist (k + 1)) ∧
      r.sent = some ((heldAt h0 hist k).map Profile.date) ∧
      (∀ ret, r.res = .ok ret → ∃ p, ret = .prof p ∧ heldAt h0 hist (k + 1) = some p) ∧
      (∀ e, r.res = .error e → r.disk = toDisk (heldAt h0 hist k)) := by
  obtain ⟨r, hr, hd, hs, hres⟩ := seqOK_get (runSeq_ok h0 hist) k b hb
  rw [heldAt_step h0 hist k b hb]
  refine ⟨r, hr, hd, hs, ?_⟩
  rw [hres]
  rcases specStep_resOf (heldAt h0 hist k) b with ⟨p, hsp, hp⟩ | ⟨e, hsp, he⟩
  · rw [hp, hsp]
    exact ⟨fun ret hret => ⟨p, by cases hret; rfl, rfl⟩, nofun⟩
  · rw [he, hd, hsp]
    exact ⟨nofun, fun _ _ => rfl⟩

/-- "The newest": what is held after `k` calls is at least as new as every profile the server has sent in
    those calls (accepted or not) … -/
theorem C15_seq_newest (h0 : Abs) (hist : List Beh) (k : Nat) (p : Profile)
    (hp : p ∈ sentOf (hist.take k)) : ∃ r, heldAt h0 hist k = some r ∧ p.date ≤ r.date :=
  newest_ge h0 _ p hp

/-- … it is the initial profile or one the server did send … -/
theorem C15_seq_genuine (h0 : Abs) (hist : List Beh) (k : Nat) :
    heldAt h0 hist k = h0 ∨ ∃ p ∈ sentOf (hist.take k), heldAt h0 hist k = some p :=
  newest_mem h0 _

/-- … and the cache never goes back: at least as new as anything it held before. -/
theorem C15_seq_monotone (h0 : Abs) (hist : List Beh) (j k : Nat) (hjk : j ≤ k) (q : Profile)
    (hq : heldAt h0 hist j = some q) : ∃ r, heldAt h0 hist k = some r ∧ q.date ≤ r.date := by
  have ht : hist.take k = hist.take j ++ (hist.take k).drop j := by
    conv => lhs; rw [← List.take_append_drop j (hist.take k)]
    rw [List.take_take, Nat.min_eq_left hjk]
  unfold heldAt at hq ⊢
  rw [ht, sentOf_append]
  exact newest_mono h0 _ _ q hq

/-- In terms of the driver's view: after every call of every history the file is absent or complete. -/
theorem C15_seq_whole (h0 : Abs) (hist : List Beh) (k : Nat) (b : Beh) (hb : hist[k]? = some b) :
    ∃ r, (runSeq (toDisk h0) hist)[k]? = some r ∧ (view r.disk = .absent ∨ ∃ p, view r.disk = .complete p) := by
  obtain ⟨r, hr, hd, _⟩ := C15_seq h0 hist k b hb
  refine ⟨r, hr, ?_⟩
  rw [hd]
  cases heldAt h0 hist (k + 1) with
  | none => exact .inl rfl
  | some p => exact .inr ⟨p, view_toDisk_some p⟩

-- the statements are not vacuous: a history that exercises acceptance, "up to date", rejection of an older
-- profile and a tie
example : (runSeq none [.upToDate, .profile ⟨5, 1, 0⟩, .upToDate, .profile ⟨3, 2, 0⟩, .profile ⟨5, 3, 1⟩]).map
      (fun r => (r.res, r.sent, view r.disk)) =
    [(.error .assert, some none, .absent),
     (.ok (.prof ⟨5, 1, 0⟩), some none, .complete ⟨5, 1, 0⟩),
     (.ok (.prof ⟨5, 1, 0⟩), some (some 5), .complete ⟨5, 1, 0⟩),
     (.error .assert, some (some 5), .complete ⟨5, 1, 0⟩),
     (.ok (.prof ⟨5, 3, 1⟩), some (some 5), .complete ⟨5, 3, 1⟩)] := by rfl

/-- the disk after process 0 (alone) has performed `n` actions of a call and then died -/
def diskAfterCrash (h : Abs) (b : Beh) (n : Nat) : Disk :=
  ((Sys.mk (toDisk h) [Proc.init b]).run (List.replicate n (.step 0) ++ [.crash 0])).disk

/-- Whatever the cache held, whatever the server answers and wherever the process dies
    (after any number `n` of its actions: during the network exchange, inside an `assert`, after `mkstemp`, after
    writing or closing the temporary file, just before or just after `os.replace`), the cache file is
    afterwards absent or one complete profile: the old one, or the new one the call was about to store. -/
theorem C15_crash_full (h : Abs) (b : Beh) (n : Nat) :
    diskAfterCrash h b n = toDisk h ∨ diskAfterCrash h b n = toDisk (specStep h b).1 := by
  have hd : diskAfterCrash h b n = (iter n (toDisk h, Proc.init b)).1 := by
    rw [diskAfterCrash, Sys.run_append, Sys.run_replicate_step ⟨toDisk h, [Proc.init b]⟩ 0 _ rfl]
    rfl
  rw [hd]
  -- the file is untouched until the call has finished, and a finished call is the one `iter_fuel_toDisk` describes
  rcases iter_disk n (toDisk h, Proc.init b) with e | e
  · exact .inl e
  · have hf := iter_fuel_toDisk h b
    exact .inr (by rw [iter_eq_of_isDone e (n := fuel) (by rw [hf]; rfl), hf])

/-- … and every later history of calls then behaves as `C15_seq` says, starting from that profile: the crash is
    invisible to later requests. -/
theorem C15_crash_then_seq (h : Abs) (b : Beh) (n : Nat) (hist : List Beh) :
    ∃ h', (h' = h ∨ h' = (specStep h b).1) ∧ diskAfterCrash h b n = toDisk h' ∧
      SeqOK h' hist (runSeq (diskAfterCrash h b n) hist) := by
  rcases C15_crash_full h b n with e | e
  · exact ⟨h, .inl rfl, e, by rw [e]; exact runSeq_ok h hist⟩
  · exact ⟨_, .inr rfl, e, by rw [e]; exact runSeq_ok _ hist⟩

-- the crash points in the write phase: after `mkstemp` (8 actions) the temporary file exists and is empty, after the
-- write (9) and the close (10) it is complete, the cache file still holds the old profile; after `os.replace` (11) the new
example : ((Sys.mk (toDisk (some ⟨1, 0, 0⟩)) [Proc.init (.profile ⟨2, 1, 0⟩)]).run
      (List.replicate 8 (.step 0) ++ [.crash 0])).procs.map (·.tmp) = [some []] := by decide +kernel
example : [8, 9, 10, 11].map (fun n => view (diskAfterCrash (some ⟨1, 0, 0⟩) (.profile ⟨2, 1, 0⟩) n)) =
    [.complete ⟨1, 0, 0⟩, .complete ⟨1, 0, 0⟩, .complete ⟨1, 0, 0⟩, .complete ⟨2, 1, 0⟩] := by decide +kernel

/-- The code never *produces* an unparseable cache file (`C15_crash_full`, `C15_interleave_full`), but it does not heal
    one it finds (left by an older version of ofxtools, or by hand): every later call fails and the file stays as it
    is, whatever the server answers. -/
theorem C15_torn_stays (c : Content) (hc : parse c = none) (hist : List Beh) :
    ∀ r ∈ runSeq (some c) hist, r.disk = some c ∧ r.res = .error .parse ∧ r.sent = none := by
  induction hist with
  | nil => simp [runSeq]
  | cons b bs ih =>
    have hcall : call (some c) b = ⟨some c, .error .parse, none⟩ := by
      simp only [call_spec, held, hc]
    intro r hr
    simp only [runSeq, hcall, List.mem_cons] at hr
    rcases hr with rfl | hr
    · exact ⟨rfl, rfl, rfl⟩
    · exact ih r hr

example : parse ([] : Content) = none := rfl

/-- Any number of processes run `request_profile` concurrently on the same cache file, each
    against its own server behaviour (`behs`), in **any** interleaving of their actions, any of them dying at any point
    (`sched` is an arbitrary list of `step i` / `crash i`).  At every moment

    1. the cache file is absent or exactly one complete profile — the one held initially or one that a server sent to
       one of the processes (never a mix, never a part);
    2. no process has failed because the cache file did not parse.

    What does **not** survive concurrency is the order: two writers holding profiles of different dates may rename in
    either order, so the older of the two can be the one that stays (`C15_interleave_not_monotone`); each of them is
    still at least as new as what that writer had read. -/
theorem C15_interleave_full (h : Abs) (behs : List Beh) (sched : List Act) :
    let s := (Sys.mk (toDisk h) (behs.map (Proc.init ·))).run sched
    (∃ h', s.disk = toDisk h' ∧ (h' = h ∨ ∃ p, h' = some p ∧ Beh.profile p ∈ behs)) ∧
      ∀ pr ∈ s.procs, pr.result ≠ some (.error .parse) := by
  obtain ⟨hd, hp⟩ := sysOK_run h behs sched _ (sysOK_init h behs)
  refine ⟨hd, ?_⟩
  intro pr hpr
  have hok := (hp pr hpr).1
  obtain ⟨pc, beh, dry, sent, tmp⟩ := pr
  cases pc <;> simp [Proc.result]
  simpa [ProcOK] using hok

/-- … and every later history of calls behaves as `C15_seq` says, starting from that profile: a later request never
    fails because of, nor returns, mixed content. -/
theorem C15_interleave_then_seq (h : Abs) (behs : List Beh) (sched : List Act) (hist : List Beh) :
    let s := (Sys.mk (toDisk h) (behs.map (Proc.init ·))).run sched
    ∃ h', s.disk = toDisk h' ∧ (h' = h ∨ ∃ p, h' = some p ∧ Beh.profile p ∈ behs) ∧
      SeqOK h' hist (runSeq s.disk hist) := by
  obtain ⟨⟨h', e, hh⟩, _⟩ := C15_interleave_full h behs sched
  exact ⟨h', e, hh, by rw [e]; exact runSeq_ok h' hist⟩

/-- the two-writer instance the property names -/
theorem C15_two_writers (h : Abs) (b0 b1 : Beh) (sched : List Act) :
    let s := (Sys.mk (toDisk h) [Proc.init b0, Proc.init b1]).run sched
    s.disk = toDisk h ∨ (∃ p, b0 = .profile p ∧ s.disk = toDisk (some p)) ∨
      (∃ p, b1 = .profile p ∧ s.disk = toDisk (some p)) := by
  obtain ⟨⟨h', e, hh⟩, _⟩ := C15_interleave_full h [b0, b1] sched
  simp only [List.map_cons, List.map_nil] at e
  rcases hh with rfl | ⟨p, rfl, hp⟩
  · exact .inl e
  · simp only [List.mem_cons, List.not_mem_nil, or_false] at hp
    rcases hp with hp | hp
    · exact .inr (.inl ⟨p, hp.symm, e⟩)
    · exact .inr (.inr ⟨p, hp.symm, e⟩)

/-- both read the cache (date 1) and get their answers (dates 6 and 7); the newer one is renamed first, the older last.
    Seven actions take a writer from `start` through `assertDate`, the other four are `mkstemp`, `write`, `close`,
    `replace`: the first 18 actions end with writer 1's rename. -/
def olderLastSched : List Act :=
  List.replicate 7 (.step 0) ++ List.replicate 7 (.step 1) ++ List.replicate 4 (.step 1) ++ List.replicate 4 (.step 0)

/-- The clause that is sequential only: under concurrency the cache may go back from the newer to the older of two
    profiles being written at the same time (both complete, both at least as new as what their writer had read). -/
theorem C15_interleave_not_monotone :
    let s0 : Sys := ⟨toDisk (some ⟨1, 0, 0⟩), [Proc.init (.profile ⟨6, 1, 0⟩), Proc.init (.profile ⟨7, 2, 0⟩)]⟩
    view (s0.run (olderLastSched.take 18)).disk = .complete ⟨7, 2, 0⟩ ∧
      view (s0.run olderLastSched).disk = .complete ⟨6, 1, 0⟩ := by decide +kernel

/-- Where the monotone-date clause does hold: when the two calls do not overlap — all actions of one, then all of the
    other — the file ends up as after the sequential history `[b0, b1]`, to which `C15_seq` (newest, never back) applies. -/
theorem C15_interleave_partial (h : Abs) (b0 b1 : Beh) :
    ((Sys.mk (toDisk h) [Proc.init b0, Proc.init b1]).run
        (List.replicate fuel (.step 0) ++ List.replicate fuel (.step 1))).disk
      = toDisk (heldAt h [b0, b1] 2) := by
  have hh : heldAt h [b0, b1] 2 = (specStep (specStep h b0).1 b1).1 := by
    rw [heldAt_step h [b0, b1] 1 b1 rfl, heldAt_step h [b0, b1] 0 b0 rfl]; rfl
  rw [Sys.run_append, Sys.run_replicate_step ⟨toDisk h, [Proc.init b0, Proc.init b1]⟩ 0 _ rfl, iter_fuel_toDisk, hh]
  exact (congrArg Sys.disk (Sys.run_replicate_step ⟨_, [_, Proc.init b1]⟩ 1 _ rfl fuel)).trans
    (congrArg Prod.fst (iter_fuel_toDisk ..))

open Ofx.ClientSM in
/-- **Full statement (false).**  Clients configured for different servers never share a cache file. -/
def C15_key_full : Prop :=
  ∀ c1 c2 : Cfg, c1.url ≠ c2.url → cacheKey c1.org c1.fid ≠ cacheKey c2.org c2.fid

open Ofx.ClientSM in
/-- Witness: two clients without ORG/FID and different URLs both use `None-None.profrs`. -/
theorem C15_key_full_false : ¬ C15_key_full := by
  intro H
  exact H ⟨⟨0, 0⟩, none, none, none, none, true⟩ ⟨⟨1, 0⟩, none, none, none, none, true⟩ (by decide) rfl

example : cacheKey none none = "None-None.profrs".toList := by decide +kernel

/-- What sharing the file does: client A (no ORG/FID) caches profile `p` from its server; client B (no ORG/FID,
    another server) then asks *its* server with A's DTPROFUP, and if that server answers "up to date" — which it
    will whenever its own profile is older — B is handed A's profile, service URLs included. -/
theorem C15_key_shared (p : Profile) :
    let (fs1, oA) := callFS FS.empty none none (.profile p)
    let (_, oB) := callFS fs1 none none .upToDate
    oA.res = .ok (.prof p) ∧ oB.sent = some (some p.date) ∧ oB.res = .ok (.prof p) := by
  have hk : FS.empty (cacheKey none none) = toDisk none := rfl
  simp only [callFS, hk, call_eq, FS.set, if_true]
  simp [specStep, accepts, resOf]

/-- `-` inside ORG also merges keys: ("A-B", "C") and ("A", "B-C") name the same file. -/
example : cacheKey (some "A-B".toList) (some "C".toList) = cacheKey (some "A".toList) (some "B-C".toList) := by
  decide +kernel

/-- **Strongest true restriction.**  Among clients that do configure ORG and FID, with no `-` in ORG, the file
    name determines (ORG, FID): distinct institutions never share a file. -/
theorem C15_key_partial (o1 f1 o2 f2 : Str) (h1 : '-' ∉ o1) (h2 : '-' ∉ o2)
    (h : cacheKey (some o1) (some f1) = cacheKey (some o2) (some f2)) : o1 = o2 ∧ f1 = f2 := by
  simp only [cacheKey, pyStrOpt, List.append_assoc, List.cons_append] at h
  obtain ⟨ho, hf⟩ := List.append_cons_inj_of_not_mem h1 h2 h
  exact ⟨ho, List.append_cancel_right hf⟩

example : '-' ∉ "ORG".toList := by decide +kernel

end Ofx.Cache
