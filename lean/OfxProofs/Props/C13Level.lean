/-
C13 — constructibility from a one-level obligation, by a generic induction.

`C13_constructible` (Props/C13Exist.lean) lifts the whole statement from a table in which every (class, child)
description is built by the constructors and the instance tested (`pairOk`).  Here the part "built, held, valid all
the way down" is proved generically from a much weaker decidable obligation (`ConstructibleLevels`; for the generated
schema it is not evaluated but read off that table, Gen/C13LevelW.lean): only the top-level call of each description
is evaluated, on stubs of its arguments (`stubDesc`: the class of a sub-aggregate and whether it will have members —
all the constructor can see of it, `construct_sim`).  The induction uses that every argument of
a description `mk` returns is a value or the minimal description of its class (`mk_children`) and that more fuel does
not change a description (`mk_mono`).
-/
import OfxProofs.Lemmas.C13Level
import OfxProofs.Props.C13Exist

namespace Ofx.Agg
open Ofx Ofx.Spec.Witness

section
variable (S : Schema) (cv : Conv)

def callOkB (want : Option Attr) : Node → Bool
  | .val _ => false
  | .agg t kw args =>
    match construct S cv t (args.map stubDesc) (stubKw kw) with
    | .ok n =>
      (match want with
       | some a => holds a n
       | none => true)
    | .error _ => false

def isTargetB (t : Nat) : Bool :=
  S.classes.any fun c => c.spec.any fun a => decide (a.kind = .sub t) || decide (a.kind = .listAgg t)

def levelCls (F ci : Nat) : Bool :=
  match S.cls? ci with
  | none => true
  | some c =>
    (!isTargetB S ci ||
      (match mk S F ci none with
       | none => true
       | some d => callOkB S cv none d)) &&
    (c.abstract || !c.exported || (c.spec.filter supported).all fun a =>
      match mkWith S F ci a with
      | none => false
      | some d => callOkB S cv (some a) d)

def levelRange (F lo n : Nat) : Bool := (List.range' lo n).all (levelCls S cv F)

def ConstructibleLevels (F : Nat) (cover : List (Nat × Nat)) : Prop :=
  coversB S cover = true ∧ ∀ p ∈ cover, levelRange S cv F p.1 p.2 = true

theorem callOkB_sound (want : Option Attr) (d : Node) (h : callOkB S cv want d = true) :
    ∃ t kw args n, d = .agg t kw args ∧ construct S cv t (args.map stubDesc) (stubKw kw) = .ok n ∧
      ∀ a, want = some a → holds a n = true := by
  cases d with
  | val v => simp [callOkB] at h
  | agg t kw args =>
    simp only [callOkB] at h
    cases hc : construct S cv t (args.map stubDesc) (stubKw kw) with
    | error e => simp [hc] at h
    | ok n =>
      simp only [hc] at h
      refine ⟨t, kw, args, n, rfl, hc, ?_⟩
      intro a ha
      subst ha
      exact h

theorem isTargetB_of_target (t : Nat) (h : Target S t) : isTargetB S t = true := by
  obtain ⟨c, hc, a, ha, hk⟩ := h
  simp only [isTargetB, List.any_eq_true, Bool.or_eq_true, decide_eq_true_eq]
  exact ⟨c, hc, a, ha, hk⟩

theorem levelCls_of_cover (F : Nat) (cover : List (Nat × Nat)) (h : ConstructibleLevels S cv F cover) (ci : Nat) (c : Cls)
    (hc : S.cls? ci = some c) : levelCls S cv F ci = true := by
  obtain ⟨hcov, hall⟩ := h
  have hlt : ci < S.classes.length := by
    unfold Schema.cls? at hc
    exact (List.getElem?_eq_some_iff.mp hc).1
  obtain ⟨p, hp, hin⟩ := coversB_mem hcov hlt
  exact (List.all_eq_true.mp (hall p hp)) ci (List.mem_range'_1.mpr hin)

/-! Both halves of `levelCls` can be read off the full table of `Props/C13Exist.lean`: the per-child half from the entry
of the child (`pairOk_stub`), the class-level half from the entry of any child whose class it is (`target_callOk`).
What is left to evaluate is that the classes the table skips declare no child class of their own. -/

def childClasses (c : Cls) : List Nat :=
  c.spec.filterMap fun a =>
    match a.kind with
    | .sub t => some t
    | .listAgg t => some t
    | _ => none

theorem mem_childClasses {c : Cls} {t : Nat} :
    t ∈ childClasses c ↔ ∃ a ∈ c.spec, a.kind = .sub t ∨ a.kind = .listAgg t := by
  simp only [childClasses, List.mem_filterMap]
  constructor
  · rintro ⟨a, ha, h⟩
    refine ⟨a, ha, ?_⟩
    cases hk : a.kind <;> simp only [hk, Option.some.injEq, reduceCtorEq] at h <;> simp [h]
  · rintro ⟨a, ha, hk | hk⟩ <;> exact ⟨a, ha, by simp [hk]⟩

/-- every child class of a class the table has no entries for (abstract, or not exported) is also a child class of
    one it has entries for; should a schema fail this, the call of such a child class has to be evaluated by itself -/
def targetsCoveredB : Bool :=
  S.classes.all fun c => !(c.abstract || !c.exported) ||
    (childClasses c).all fun t => S.classes.any fun c' => !c'.abstract && c'.exported && (childClasses c').contains t

theorem target_covered (h : targetsCoveredB S = true) (t : Nat) (ht : Target S t) :
    ∃ ci c a, S.cls? ci = some c ∧ c.abstract = false ∧ c.exported = true ∧ a ∈ c.spec ∧
      (a.kind = .sub t ∨ a.kind = .listAgg t) := by
  obtain ⟨c, hc, a, ha, hk⟩ := ht
  have key : ∀ c' ∈ S.classes, c'.abstract = false → c'.exported = true → t ∈ childClasses c' →
      ∃ ci c a, S.cls? ci = some c ∧ c.abstract = false ∧ c.exported = true ∧ a ∈ c.spec ∧
        (a.kind = .sub t ∨ a.kind = .listAgg t) :=
    fun c' hc' hab hex hm => by
      obtain ⟨ci, hci⟩ := List.getElem?_of_mem hc'
      obtain ⟨a', ha', hk'⟩ := mem_childClasses.mp hm
      exact ⟨ci, c', a', hci, hab, hex, ha', hk'⟩
  have hm : t ∈ childClasses c := mem_childClasses.mpr ⟨a, ha, hk⟩
  by_cases hcon : c.abstract = false ∧ c.exported = true
  · exact key c hc hcon.1 hcon.2 hm
  · have h1 := List.all_eq_true.mp h c hc
    have hno : (c.abstract || !c.exported) = true := by
      cases hab : c.abstract <;> cases hex : c.exported <;> simp_all
    simp only [hno, Bool.not_true, Bool.false_or, List.all_eq_true, List.any_eq_true, Bool.and_eq_true,
      Bool.not_eq_true', List.contains_eq_mem, decide_eq_true_eq] at h1
    obtain ⟨c', hc', ⟨hab, hex⟩, hm'⟩ := h1 t hm
    exact key c' hc' hab hex hm'

theorem levelCls_of_tables (esc : Str → Str) (domB : Kind → Bool → Val → Bool) (X : List Str) (F : Nat)
    (hcov : targetsCoveredB S = true)
    (hall : ∀ ci, ci < S.classes.length → clsPairsOk S cv esc domB X F ci = true) (ci : Nat)
    (hlt : ci < S.classes.length) : levelCls S cv F ci = true := by
  unfold levelCls
  cases hc : S.cls? ci with
  | none => rfl
  | some c =>
    simp only [Bool.and_eq_true]
    constructor
    · cases htg : isTargetB S ci with
      | false => rfl
      | true =>
        cases hd : mk S F ci none with
        | none => rfl
        | some d =>
          have htgt : Target S ci := by
            simp only [isTargetB, List.any_eq_true, Bool.or_eq_true, decide_eq_true_eq] at htg
            exact htg
          obtain ⟨i0, c0, a0, hc0, hab, hex, ha0, hk0⟩ := target_covered S hcov ci htgt
          have hp := hall i0 (List.getElem?_eq_some_iff.mp hc0).1
          simp only [clsPairsOk, hc0, hab, hex, Bool.not_true, Bool.false_or, List.all_eq_true] at hp
          have hs0 : supported a0 = true := by rcases hk0 with h | h <;> simp [supported, h, Kind.isUnsupported]
          have hcall := target_callOk S cv esc domB X F i0 c0 a0 ci hc0 ha0 hk0
            (hp a0 (List.mem_filter.mpr ⟨ha0, hs0⟩)) d hd
          obtain ⟨kw, args, rfl, _, _⟩ := mk_children S F ci none d hd
          obtain ⟨n, hn⟩ := hcall
          simp [callOkB, hn]
    · have hp := hall ci hlt
      simp only [clsPairsOk, hc, Bool.or_eq_true, List.all_eq_true] at hp ⊢
      refine hp.imp id fun hall a ha => ?_
      obtain ⟨kw, args, n, hd, hcon, hh⟩ := pairOk_stub S cv esc domB X F ci c a (hall a ha)
      simp [hd, callOkB, hcon, hh]

theorem constructibleLevels_of (esc : Str → Str) (domB : Kind → Bool → Val → Bool) (X : List Str) (F : Nat)
    (cover : List (Nat × Nat)) (h : Constructible S cv esc domB X F cover) (hcov : targetsCoveredB S = true) :
    ConstructibleLevels S cv F cover := by
  refine ⟨h.1, fun p hp => List.all_eq_true.mpr fun ci _ => ?_⟩
  by_cases hlt : ci < S.classes.length
  · refine levelCls_of_tables S cv esc domB X F hcov (fun i hi => ?_) ci hlt
    obtain ⟨q, hq, hin⟩ := coversB_mem h.1 hi
    exact List.all_eq_true.mp (h.2 q hq) i (List.mem_range'_1.mpr hin)
  · have : S.cls? ci = none := List.getElem?_eq_none (Nat.le_of_not_lt hlt)
    simp [levelCls, this]

end

/-- **C13 (constructibility, generic route).**  For every schema whose one-level obligation holds
    (`ConstructibleLevels`: decidable, evaluates one constructor call per description, never the recursion): every
    supported child `a` declared by a concrete exported class `ci` has the description `mkWith S F ci a`, the
    constructors accept it bottom-up (real converters), and the instance — of class `ci` — holds the child and
    satisfies every constraint of its class all the way down. -/
theorem C13_constructible_levels (S : Schema) (hS : SchemaOk S) (F : Nat) (cover : List (Nat × Nat))
    (h : ConstructibleLevels S Types.conv F cover)
    (ci : Nat) (c : Cls) (a : Attr) (hc : S.cls? ci = some c) (hab : c.abstract = false) (hex : c.exported = true)
    (ha : a ∈ c.spec) (hs : a.kind.isUnsupported = false) :
    ∃ d fields items,
      mkWith S F ci a = some d ∧
      build S Types.conv d = .ok (.agg ci fields items) ∧
      holds a (.agg ci fields items) = true ∧
      ValidFull S (.agg ci fields items) := by
  have htab : ∀ t d, Target S t → mk S F t none = some d → CallOk S Types.conv d := by
    intro t d htgt hmk
    have hct : ∃ c', S.cls? t = some c' := by
      cases F with
      | zero => simp [mk] at hmk
      | succ f =>
        obtain ⟨c', _, _, hct, _⟩ := mk_succ_some.mp hmk
        exact ⟨c', hct⟩
    obtain ⟨c', hct⟩ := hct
    have hl := levelCls_of_cover S Types.conv F cover h t c' hct
    simp only [levelCls, hct, Bool.and_eq_true, isTargetB_of_target S t htgt, Bool.not_true, Bool.false_or, hmk] at hl
    obtain ⟨t', kw, args, n, hd, hcon, _⟩ := callOkB_sound S Types.conv none d hl.1
    subst hd
    obtain ⟨_, _, hd', _, _⟩ := mk_children S F t none _ hmk
    injection hd' with ht
    subst ht
    exact ⟨n, hcon⟩
  have hl := levelCls_of_cover S Types.conv F cover h ci c hc
  simp only [levelCls, hc, Bool.and_eq_true, hab, hex, Bool.not_true, Bool.false_or, List.all_eq_true] at hl
  have hpair := hl.2 a (List.mem_filter.mpr ⟨ha, by simp [supported, hs]⟩)
  cases hd : mkWith S F ci a with
  | none => simp [hd] at hpair
  | some d =>
    simp only [hd] at hpair
    obtain ⟨t', kw, args, n0, hdd, hcon0, hh0⟩ := callOkB_sound S Types.conv (some a) d hpair
    subst hdd
    obtain ⟨_, _, hd', hkwG, hargsG⟩ := mk_children S F ci (some a.name) _ hd
    injection hd' with ht hkw hargs
    subst ht hkw hargs
    obtain ⟨kw', hkw', hks⟩ :=
      buildKw_sim S Types.conv kw fun k v hm => build_good S Types.conv F htab v (hkwG k v hm)
    obtain ⟨args', hargs', has⟩ :=
      buildArgs_sim S Types.conv args fun m hm => build_good S Types.conv F htab m (hargsG m hm)
    obtain ⟨f0, i0, f', i', hn0, hcon, hfs, his⟩ := construct_sim S Types.conv t' has hks n0 hcon0
    have hb : build S Types.conv (.agg t' kw args) = .ok (.agg t' f' i') := by
      simp only [build, hkw', hargs']; exact hcon
    refine ⟨_, f', i', rfl, hb, ?_, build_full S hS _ _ hb rfl⟩
    rw [← holds_sim a t' hfs his, ← hn0]
    exact hh0 a rfl

end Ofx.Agg
