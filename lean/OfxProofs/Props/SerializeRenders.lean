/-
The serializer theorems restated against the parser layer's wire grammar `Ofx.Spec.Renders`: ready to compose with
`C02_complete_doc` (done in `Props/C01Wire`).
-/
import OfxProofs.Props.Serialize
import OfxProofs.Lemmas.SerializeRenders

namespace Ofx.Serialize
open Ofx Ofx.Spec.Wire

/-- the body is a document of the parser's grammar for the tree with escaped texts; under `g3Ok`, of the strict grammar
    (the side condition the parser needs) -/
theorem body_renders_parser (he : List Str) (close pretty strict : Bool) (t : Tree) (hw : wireTree t = true)
    (hs : close = true → htmlSafe he t = true) (hg : close = false → hasEmptyAgg t = false)
    (h3 : strict = true → g3Ok t = true) :
    Spec.RendersDoc strict (escapeTree t) (serializeBody he close pretty t) := by
  have h := body_renders he close pretty t hw hs hg
  cases strict with
  | false => exact renderingDoc_rendersDoc h
  | true => exact renderingDoc_rendersDoc_strict h ((g3Ok_escapeTree_both.1 t).trans (h3 rfl))

/-- html forms (OFXv2 XML, OFXv1 SGML with end tags) -/
theorem SER_html_renders_parser (he : List Str) (t : Tree) (pretty : Bool)
    (hw : wireTree t = true) (hs : htmlSafe he t = true) :
    Spec.RendersDoc false (escapeTree t) (serializeBody he true pretty t) :=
  body_renders_parser he true pretty false t hw (fun _ => hs) (fun h => nomatch h) (fun h => nomatch h)

theorem SER_html_renders_parser_strict (he : List Str) (t : Tree) (pretty : Bool)
    (hw : wireTree t = true) (hs : htmlSafe he t = true) (hg : g3Ok t = true) :
    Spec.RendersDoc true (escapeTree t) (serializeBody he true pretty t) :=
  body_renders_parser he true pretty true t hw (fun _ => hs) (fun h => nomatch h) (fun _ => hg)

/-- unclosed form (OFXv1 SGML without end tags) -/
theorem SER_unclosed_renders_parser_partial (he : List Str) (t : Tree) (pretty strict : Bool)
    (hw : wireTree t = true) (hg : unclosedGuard t = true) (h3 : strict = true → g3Ok t = true) :
    Spec.RendersDoc strict (escapeTree t) (serializeBody he false pretty t) :=
  body_renders_parser he false pretty strict t hw (fun h => nomatch h) (fun _ => by simpa [unclosedGuard] using hg) h3

example : g3Ok exTree = true ∧ g3Ok exTreeU = true := by decide +kernel

end Ofx.Serialize
