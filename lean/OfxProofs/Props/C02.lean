/-
C02 — all wire renderings of one body parse to the same, faithful tree (DESIGN 6.2).

`Renders false` is the full grammar of DESIGN 6.2; `Renders true` adds the one local side condition
G3 (the last child of an aggregate is not a data element bearing the aggregate's tag).  The statement for the full
grammar is false (`C02_G3_needed`: a valid rendering is rejected with a `ParseError`, not mis-read); G3 is a condition
on the tree alone (`g3Tree`), and for trees that satisfy it the two grammars coincide.
-/
import OfxProofs.Lemmas.Builder

namespace Ofx.C02
open Ofx Ofx.Lexer Ofx.Builder Ofx.Spec

def run (s : Str) (st : St) : PyM St := feedToks (toks s) st

theorem run_nil (st : St) : run [] st = .ok st := rfl

theorem parse_eq (s : Str) : parse s =
    (match run s St.init with
     | .ok st => (match st.close with | .ok r => .ok (some r) | .error e => .error e)
     | .error e => .error e) := rfl

theorem run_tok_step (full tok rest : Str) (m : Match) (st : St) (he : full = tok ++ rest)
    (hm : matchHere full = some m) (hl : m.len = tok.length) :
    run full st = (match step m st with | .ok st' => run rest st' | .error e => .error e) := by
  subst he
  unfold run toks
  rw [toksGo_match tok rest m hm hl]
  rfl

theorem run_tok (full tok rest : Str) (m : Match) (st st' : St) (he : full = tok ++ rest)
    (hm : matchHere full = some m) (hl : m.len = tok.length) (hs : step m st = .ok st') :
    run full st = run rest st' := by
  rw [run_tok_step full tok rest m st he hm hl, hs]

theorem ws_notLt {w : Str} (hw : ws w = true) : ∀ c ∈ w, notLt c = true :=
  fun c hc => space_notLt ((ws_iff w).mp hw c hc)

theorem run_skip (w rest : Str) (st : St) (hw : ws w = true) : run (w ++ rest) st = run rest st := by
  unfold run toks
  rw [toksGo_skip_notLt w rest (ws_notLt hw)]

def StartsName (s : Str) : Prop := ∃ a r, s = '<' :: a :: r ∧ isNameChar a = true
def StartsEnd (s : Str) : Prop := ∃ a r, s = '<' :: '/' :: a :: r ∧ isNameChar a = true

/-- end of input, the start tag of a sibling, or the end tag of the parent -/
def After (rest : Str) : Prop := rest = [] ∨ StartsName rest ∨ StartsEnd rest

/-- `After`, and not the end tag that would be mistaken for the element's own -/
def Cont (avoid : Option Str) (rest : Str) : Prop :=
  After rest ∧ ∀ tg, avoid = some tg → dropPrefix (endTag tg) rest = none

theorem after_stops {rest : Str} (h : After rest) : Stops notLt rest := by
  rcases h with rfl | ⟨a, r, rfl, -⟩ | ⟨a, r, rfl, -⟩
  · exact stops_nil _
  · exact stops_cons _ notLt_lt
  · exact stops_cons _ notLt_lt

theorem after_nocdata {rest : Str} (h : After rest) : dropPrefix cdataOpen rest = none := by
  rcases h with rfl | ⟨a, r, rfl, ha⟩ | ⟨a, r, rfl, -⟩
  · rfl
  · simp [cdataOpen, dropPrefix, Ne.symm (name_ne_bang ha)]
  · simp [cdataOpen, dropPrefix]

theorem after_noEndEnd {rest : Str} (t : Str) (h : After rest) : dropPrefix (endTag ('/' :: t)) rest = none := by
  rcases h with rfl | ⟨a, r, rfl, ha⟩ | ⟨a, r, rfl, ha⟩
  · rfl
  · simp [endTag, dropPrefix, Ne.symm (name_ne_slash ha)]
  · simp [endTag, dropPrefix, Ne.symm (name_ne_slash ha)]

theorem startsName_noEnd {rest : Str} (tg : Str) (h : StartsName rest) : dropPrefix (endTag tg) rest = none := by
  obtain ⟨a, r, rfl, ha⟩ := h
  simp [endTag, dropPrefix, Ne.symm (name_ne_slash ha)]

theorem startsName_startTag (t x : Str) (ht : tagOk t = true) : StartsName (startTag t ++ x) := by
  obtain ⟨c, cs, rfl, -, hn⟩ := tagOk_cons ht
  exact ⟨c, cs ++ '>' :: x, by simp [startTag], hn c (by simp)⟩

theorem startsEnd_endTag (t x : Str) (ht : tagOk t = true) : StartsEnd (endTag t ++ x) := by
  obtain ⟨c, cs, rfl, -, hn⟩ := tagOk_cons ht
  exact ⟨c, cs ++ '>' :: x, by simp [endTag], hn c (by simp)⟩

theorem dropPrefix_lt_ws (p w rest : Str) (hp : ∃ ps, p = '<' :: ps) (hw : ws w = true)
    (h : dropPrefix p rest = none) : dropPrefix p (w ++ rest) = none := by
  cases w with
  | nil => simpa using h
  | cons c cs =>
    obtain ⟨ps, rfl⟩ := hp
    have hc : isSpace c = true := (ws_iff _).mp hw c (by simp)
    simp [dropPrefix, Ne.symm (space_ne_lt hc)]

theorem dropPrefix_name_ne (tg t r : Str) (h1 : ∀ c ∈ tg, isNameChar c = true) (h2 : ∀ c ∈ t, isNameChar c = true)
    (hne : tg ≠ t) : dropPrefix (tg ++ ['>']) (t ++ '>' :: r) = none := by
  induction tg generalizing t with
  | nil =>
    cases t with
    | nil => exact absurd rfl hne
    | cons a as => simp [dropPrefix, Ne.symm (name_ne_gt (h2 a (by simp)))]
  | cons b bs ih =>
    cases t with
    | nil => simp [dropPrefix, name_ne_gt (h1 b (by simp))]
    | cons a as =>
      by_cases hba : b = a
      · subst hba
        simp only [List.cons_append, dropPrefix_cons_eq]
        exact ih as (fun c hc => h1 c (by simp [hc])) (fun c hc => h2 c (by simp [hc])) (fun e => hne (by rw [e]))
      · simp [dropPrefix, hba]

theorem dropPrefix_endTag_ne (tg t r : Str) (h1 : tagOk tg = true) (h2 : tagOk t = true) (hne : tg ≠ t) :
    dropPrefix (endTag tg) (endTag t ++ r) = none := by
  obtain ⟨_, _, rfl, -, hn1⟩ := tagOk_cons h1
  obtain ⟨_, _, rfl, -, hn2⟩ := tagOk_cons h2
  have := dropPrefix_name_ne _ _ r hn1 hn2 hne
  simpa [endTag, dropPrefix] using this

theorem renders_facts {strict : Bool} {t : Tree} {s : Str} (h : Renders strict t s) :
    StartsName s ∧ ∀ tg, leafTag t = some tg → tagOk tg = true := by
  cases h with
  | leafOpen t d w1 ht => exact ⟨startsName_startTag _ _ ht, by intro tg e; cases e; exact ht⟩
  | leafClosed t d w1 w2 ht => exact ⟨startsName_startTag _ _ ht, by intro tg e; cases e; exact ht⟩
  | cdataOpen t d ht => exact ⟨startsName_startTag _ _ ht, by intro tg e; cases e; exact ht⟩
  | cdataClosed t d w ht => exact ⟨startsName_startTag _ _ ht, by intro tg e; cases e; exact ht⟩
  | agg t w0 cs body ht => exact ⟨startsName_startTag _ _ ht, by intro tg e; simp [Tree.agg, leafTag] at e⟩

theorem rendersList_facts {strict : Bool} {cs : List Tree} {body : Str} (h : RendersList strict cs body) :
    ((cs = [] ∧ body = []) ∨ (cs ≠ [] ∧ StartsName body)) ∧
    ∀ c, cs.getLast? = some c → ∀ tg, leafTag c = some tg → tagOk tg = true := by
  refine RendersList.rec (strict := strict) (motive_1 := fun _ _ _ => True)
    (motive_2 := fun cs body _ => ((cs = [] ∧ body = []) ∨ (cs ≠ [] ∧ StartsName body)) ∧
      ∀ c, cs.getLast? = some c → ∀ tg, leafTag c = some tg → tagOk tg = true)
    ?_ ?_ ?_ ?_ ?_ ?_ ?_ h
  · intros; trivial
  · intros; trivial
  · intros; trivial
  · intros; trivial
  · intros; trivial
  · exact ⟨Or.inl ⟨rfl, rfl⟩, by intro c hc; cases hc⟩
  · intro c cs s w s' hr hw hl _ ih
    obtain ⟨hs, hk⟩ := renders_facts hr
    refine ⟨Or.inr ⟨by simp, ?_⟩, ?_⟩
    · obtain ⟨a, r, rfl, ha⟩ := hs
      exact ⟨a, r ++ (w ++ s'), by simp, ha⟩
    · intro c' hc'
      cases cs with
      | nil => simp at hc'; subst hc'; exact hk
      | cons d ds => rw [List.getLast?_cons_cons] at hc'; exact ih.2 c' hc'

def addKids (cs : List Tree) (st : St) : St :=
  match st.stack with
  | [] => st
  | f :: fs => { st with stack := { f with children := f.children ++ cs } :: fs }

theorem addKids_nil (st : St) : addKids [] st = st := by
  obtain ⟨stack, root⟩ := st
  cases stack with
  | nil => rfl
  | cons f fs => simp [addKids]

theorem addKids_emit (c : Tree) (cs : List Tree) (st : St) (h : st.stack ≠ []) :
    addKids cs (st.emit c) = addKids (c :: cs) st := by
  obtain ⟨stack, root⟩ := st
  cases stack with
  | nil => exact absurd rfl h
  | cons f fs => simp [addKids, St.emit, Frame.add]

theorem emit_stack_ne (c : Tree) (st : St) (h : st.stack ≠ []) : (st.emit c).stack ≠ [] := by
  obtain ⟨stack, root⟩ := st
  cases stack with
  | nil => exact absurd rfl h
  | cons f fs => simp [St.emit]

/-- `Cont (leafTag t)`: only a data element's regex match can swallow a following `</t>` as its own end tag, so only
    after a data element must the continuation not start with it — the whole origin of G3. -/
def ElemOk (t : Tree) (s : Str) : Prop :=
  ∀ (w rest : Str) (st : St), ws w = true → Cont (leafTag t) rest → st.CanStart →
    run (s ++ (w ++ rest)) st = run rest (st.emit t)

def ListOk (cs : List Tree) (body : Str) : Prop :=
  ∀ (rest : Str) (st : St), st.stack ≠ [] → After rest →
    (∀ c, cs.getLast? = some c → ∀ tg, leafTag c = some tg → dropPrefix (endTag tg) rest = none) →
    run (body ++ rest) st = run rest (addKids cs st)

theorem notLt_pad {w1 d w2 : Str} (h1 : ws w1 = true) (hd : ∀ c ∈ d, notLt c = true) (h2 : ws w2 = true) :
    ∀ c ∈ w1 ++ (d ++ w2), notLt c = true := by
  intro c hc
  simp only [List.mem_append] at hc
  rcases hc with h | h | h
  · exact ws_notLt h1 c h
  · exact hd c h
  · exact ws_notLt h2 c h

theorem dataOk_parts {d : Str} (h : dataOk d = true) :
    d ≠ [] ∧ (∀ c ∈ d, notLt c = true) ∧ trimmed d = true := by
  simp only [dataOk, Bool.and_eq_true, List.all_eq_true] at h
  refine ⟨?_, h.1.2, h.2⟩
  intro e; subst e; simp at h

theorem cdataOk_notNl {d : Str} (h : cdataOk d = true) : ∀ c ∈ d, notNl c = true := by
  simp only [cdataOk, Bool.and_eq_true, List.all_eq_true] at h
  exact h.1.2

theorem cdataOk_noClose {d : Str} (h : cdataOk d = true) : containsSub cdataClose d = false := by
  simp only [cdataOk, Bool.and_eq_true] at h
  simpa using h.2

theorem tagChars {t : Str} (ht : tagOk t = true) : t ≠ [] ∧ ∀ c ∈ t, isTagChar c = true := by
  obtain ⟨c, cs, rfl, -, hn⟩ := tagOk_cons ht
  exact ⟨by simp, fun x hx => isTagChar_of_name (hn x hx)⟩

theorem leafOpen_ok (t d w1 : Str) (ht : tagOk t = true) (hd : dataOk d = true) (h1 : ws w1 = true) :
    ElemOk (Tree.leaf t d) (startTag t ++ (w1 ++ d)) := by
  intro w rest st hw hc hst
  obtain ⟨hdne, hdlt, hdtr⟩ := dataOk_parts hd
  obtain ⟨htne, htc⟩ := tagChars ht
  have hx := notLt_pad h1 hdlt hw
  have hxne : w1 ++ (d ++ w) ≠ [] := by simp [hdne]
  have hm := matchHere_open t (w1 ++ (d ++ w)) rest htne htc hx (after_stops hc.1)
    (dropPrefix_cdataOpen_notLt _ _ hxne hx) (hc.2 t rfl)
  have e : (startTag t ++ (w1 ++ d)) ++ (w ++ rest) = startTag t ++ ((w1 ++ (d ++ w)) ++ rest) := by simp
  rw [e]
  refine run_tok _ (startTag t ++ (w1 ++ (d ++ w))) rest _ st _ (by simp) hm rfl ?_
  exact step_leaf _ st d ⟨htne, Or.inl rfl, Or.inl rfl⟩ ht rfl (groom_pad w1 d w h1 hw hdne hdtr) hdne hst

theorem leafClosed_ok (t d w1 w2 : Str) (ht : tagOk t = true) (hd : dataOk d = true) (h1 : ws w1 = true)
    (h2 : ws w2 = true) : ElemOk (Tree.leaf t d) (startTag t ++ (w1 ++ (d ++ (w2 ++ endTag t)))) := by
  intro w rest st hw hc hst
  obtain ⟨hdne, hdlt, hdtr⟩ := dataOk_parts hd
  obtain ⟨htne, htc⟩ := tagChars ht
  have hx := notLt_pad h1 hdlt h2
  have hm := matchHere_closed t (w1 ++ (d ++ w2)) w rest htne htc hx (ws_notLt hw) (after_stops hc.1)
  have e : (startTag t ++ (w1 ++ (d ++ (w2 ++ endTag t)))) ++ (w ++ rest)
      = startTag t ++ ((w1 ++ (d ++ w2)) ++ (endTag t ++ (w ++ rest))) := by simp
  rw [e]
  refine run_tok _ (startTag t ++ ((w1 ++ (d ++ w2)) ++ (endTag t ++ w))) rest _ st _ (by simp) hm rfl ?_
  exact step_leaf _ st d ⟨htne, Or.inr rfl, Or.inl rfl⟩ ht (blank_optStr hw) (groom_pad w1 d w2 h1 h2 hdne hdtr) hdne hst

theorem cdataOpen_ok (t d : Str) (ht : tagOk t = true) (hd : dataOk d = true) (hcd : cdataOk d = true) :
    ElemOk (Tree.leaf t d) (startTag t ++ cdataOf d) := by
  intro w rest st hw hc hst
  obtain ⟨hdne, -, -⟩ := dataOk_parts hd
  obtain ⟨htne, htc⟩ := tagChars ht
  have hg : containsSub cdataClose d = false := cdataOk_noClose hcd
  have hm := matchHere_cdata_open t d w rest htne htc hdne (cdataOk_notNl hcd) ((ws_iff w).mp hw) (after_stops hc.1) hg
    (hc.2 t rfl)
  have e : (startTag t ++ cdataOf d) ++ (w ++ rest) = startTag t ++ (cdataOf d ++ (w ++ rest)) := by simp
  rw [e]
  refine run_tok _ (startTag t ++ (cdataOf d ++ w)) rest _ st _ (by simp) hm rfl ?_
  exact step_leaf _ st d (wf_cdata htne hdne (Or.inl rfl) ..) ht rfl (dataOf_cdata hdne ..) hdne hst

theorem cdataClosed_ok (t d w1 : Str) (ht : tagOk t = true) (hd : dataOk d = true) (hcd : cdataOk d = true)
    (h1 : ws w1 = true) : ElemOk (Tree.leaf t d) (startTag t ++ (cdataOf d ++ (w1 ++ endTag t))) := by
  intro w rest st hw hc hst
  obtain ⟨hdne, -, -⟩ := dataOk_parts hd
  obtain ⟨htne, htc⟩ := tagChars ht
  have hg : containsSub cdataClose d = false := cdataOk_noClose hcd
  have hm := matchHere_cdata_closed t d w1 w rest htne htc hdne (cdataOk_notNl hcd) ((ws_iff w1).mp h1) (ws_notLt hw)
    (after_stops hc.1) hg
  have e : (startTag t ++ (cdataOf d ++ (w1 ++ endTag t))) ++ (w ++ rest)
      = startTag t ++ (cdataOf d ++ (w1 ++ (endTag t ++ (w ++ rest)))) := by simp
  rw [e]
  refine run_tok _ (startTag t ++ (cdataOf d ++ (w1 ++ (endTag t ++ w)))) rest _ st _ (by simp) hm rfl ?_
  exact step_leaf _ st d (wf_cdata htne hdne (Or.inr rfl) ..) ht (blank_optStr hw)
    (dataOf_cdata hdne ..) hdne hst

theorem startsName_append {b : Str} (x : Str) (h : StartsName b) : StartsName (b ++ x) := by
  obtain ⟨a, r, rfl, ha⟩ := h
  exact ⟨a, r ++ x, by simp, ha⟩

theorem addKids_push (t : Str) (cs : List Tree) (st : St) :
    addKids cs (st.push t) = { st with stack := ⟨t, none, cs⟩ :: st.stack } := by
  simp [addKids, St.push]

theorem tagChars_end {t : Str} (ht : tagOk t = true) : ∀ c ∈ '/' :: t, isTagChar c = true := by
  intro c hc
  rcases List.mem_cons.mp hc with rfl | h
  · exact tagChar_slash
  · exact (tagChars ht).2 c h

theorem run_open (t w0 R : Str) (st : St) (ht : tagOk t = true) (h0 : ws w0 = true) (hR : After R)
    (hcl : dropPrefix (endTag t) R = none) (hst : st.CanStart) :
    run (startTag t ++ (w0 ++ R)) st = run R (st.push t) := by
  obtain ⟨htne, htc⟩ := tagChars ht
  exact run_tok _ (startTag t ++ w0) R _ st _ (by simp)
    (matchHere_open t w0 R htne htc (ws_notLt h0) (after_stops hR)
      (dropPrefix_lt_ws _ w0 R ⟨_, rfl⟩ h0 (after_nocdata hR)) hcl) rfl
    (step_open t _ _ st ht (blank_optStr h0) hst)

theorem agg_prefix_run (t w0 : Str) (cs : List Tree) (body R : Str) (st : St) (ht : tagOk t = true)
    (h0 : ws w0 = true) (hl : RendersList true cs body) (ih : ListOk cs body) (hst : st.CanStart) (hR : After R)
    (hlast : ∀ c, cs.getLast? = some c → ∀ tg, leafTag c = some tg → dropPrefix (endTag tg) R = none)
    (hRt : cs = [] → dropPrefix (endTag t) R = none) :
    run (startTag t ++ (w0 ++ (body ++ R))) st = run R (addKids cs (st.push t)) := by
  have hbody : After (body ++ R) ∧ dropPrefix (endTag t) (body ++ R) = none := by
    rcases (rendersList_facts hl).1 with ⟨hc, rfl⟩ | ⟨-, hb⟩
    · exact ⟨hR, hRt hc⟩
    · have := startsName_append R hb
      exact ⟨Or.inr (Or.inl this), startsName_noEnd t this⟩
  rw [run_open t w0 _ st ht h0 hbody.1 hbody.2 hst]
  exact ih R (st.push t) (by simp [St.push]) hR hlast

theorem agg_body_run (t w0 : Str) (cs : List Tree) (body y : Str) (st : St) (ht : tagOk t = true)
    (h0 : ws w0 = true) (hl : RendersList true cs body) (ih : ListOk cs body) (hst : st.CanStart) (hne : cs ≠ [])
    (hself : ∀ c, cs.getLast? = some c → leafTag c ≠ some t) :
    run (startTag t ++ (w0 ++ (body ++ (endTag t ++ y)))) st = run (endTag t ++ y) (addKids cs (st.push t)) :=
  agg_prefix_run t w0 cs body _ st ht h0 hl ih hst (Or.inr (Or.inr (startsEnd_endTag t y ht)))
    (fun c hcl tg htg => dropPrefix_endTag_ne tg t _ ((rendersList_facts hl).2 c hcl tg htg) ht
      (fun e => hself c hcl (e ▸ htg)))
    (fun h => absurd h hne)

/-- the regex takes the text `x` after an aggregate into the last token (the tail of `<t> </t>`, the text of `</t>`),
    where white space is passed over and anything else raises -/
theorem agg_run (t w0 : Str) (cs : List Tree) (body x rest : Str) (st : St) (ht : tagOk t = true) (h0 : ws w0 = true)
    (hl : RendersList true cs body) (hself : ∀ c, cs.getLast? = some c → leafTag c ≠ some t) (ih : ListOk cs body)
    (hx : ∀ c ∈ x, notLt c = true) (hr : After rest) (hst : st.CanStart) :
    run ((startTag t ++ (w0 ++ (body ++ endTag t))) ++ (x ++ rest)) st =
      if blank (optStr x) = true then run rest (st.emit (Tree.agg t cs)) else .error .parse := by
  rcases (rendersList_facts hl).1 with ⟨rfl, rfl⟩ | ⟨hne, -⟩
  · -- empty aggregate: one match `<t> w0 </t> x`
    obtain ⟨htne, htc⟩ := tagChars ht
    have hm := matchHere_closed t w0 x rest htne htc (ws_notLt h0) hx (after_stops hr)
    have e : (startTag t ++ (w0 ++ ([] ++ endTag t))) ++ (x ++ rest) = startTag t ++ (w0 ++ (endTag t ++ (x ++ rest))) := by
      simp
    rw [e, run_tok_step _ (startTag t ++ (w0 ++ (endTag t ++ x))) rest _ st (by simp) hm rfl,
      step_empty t _ _ _ st ht (blank_optStr h0) hst]
    cases blank (optStr x) <;> rfl
  · -- start tag and children, then the end tag as a token of its own
    have e : (startTag t ++ (w0 ++ (body ++ endTag t))) ++ (x ++ rest)
        = startTag t ++ (w0 ++ (body ++ (endTag t ++ (x ++ rest)))) := by simp
    rw [e, agg_body_run t w0 cs body _ st ht h0 hl ih hst hne hself]
    have hcd : dropPrefix cdataOpen (x ++ rest) = none := by
      cases x with
      | nil => exact after_nocdata hr
      | cons c x => exact dropPrefix_cdataOpen_notLt _ _ (List.cons_ne_nil c x) hx
    have hm := matchHere_open ('/' :: t) x rest (by simp) (tagChars_end ht) hx (after_stops hr) hcd (after_noEndEnd t hr)
    rw [run_tok_step (endTag t ++ (x ++ rest)) (startTag ('/' :: t) ++ x) rest _ _ (by simp [endTag, startTag])
      hm rfl, step_end, addKids_push, end_push t none cs st]
    cases blank (optStr x) <;> rfl

theorem agg_ok (t w0 : Str) (cs : List Tree) (body : Str) (ht : tagOk t = true) (h0 : ws w0 = true)
    (hl : RendersList true cs body) (hself : ∀ c, cs.getLast? = some c → leafTag c ≠ some t)
    (ih : ListOk cs body) : ElemOk (Tree.agg t cs) (startTag t ++ (w0 ++ (body ++ endTag t))) := by
  intro w rest st hw hc hst
  rw [agg_run t w0 cs body w rest st ht h0 hl hself ih (ws_notLt hw) hc.1 hst, blank_optStr hw]
  rfl

theorem list_nil_ok : ListOk [] [] := by
  intro rest st _ _ _
  simp [addKids_nil]

theorem list_cons_ok (c : Tree) (cs : List Tree) (s w s' : Str) (_hr : Renders true c s) (hw : ws w = true)
    (hl : RendersList true cs s') (ih1 : ElemOk c s) (ih2 : ListOk cs s') : ListOk (c :: cs) (s ++ (w ++ s')) := by
  intro rest st hst haft hlast
  obtain ⟨hshape, -⟩ := rendersList_facts hl
  have e : (s ++ (w ++ s')) ++ rest = s ++ (w ++ (s' ++ rest)) := by simp
  rw [e]
  have hcont : Cont (leafTag c) (s' ++ rest) := by
    rcases hshape with ⟨rfl, rfl⟩ | ⟨-, hs'⟩
    · exact ⟨by simpa using haft, fun tg htg => by simpa using hlast c rfl tg htg⟩
    · have := startsName_append rest hs'
      exact ⟨Or.inr (Or.inl this), fun tg _ => startsName_noEnd tg this⟩
  rw [ih1 w (s' ++ rest) st hw hcont (canStart_of_stack hst)]
  have hlast2 : ∀ c', cs.getLast? = some c' → ∀ tg, leafTag c' = some tg → dropPrefix (endTag tg) rest = none := by
    intro c' hc' tg htg
    cases cs with
    | nil => cases hc'
    | cons d ds => exact hlast c' (by rw [List.getLast?_cons_cons]; exact hc') tg htg
  rw [ih2 rest (st.emit c) (emit_stack_ne c st hst) haft hlast2, addKids_emit c cs st hst]

mutual
  theorem renders_ok : ∀ {t : Tree} {s : Str}, Renders true t s → ElemOk t s
    | _, _, .leafOpen t d w1 ht hd h1 => leafOpen_ok t d w1 ht hd h1
    | _, _, .leafClosed t d w1 w2 ht hd h1 h2 => leafClosed_ok t d w1 w2 ht hd h1 h2
    | _, _, .cdataOpen t d ht hd hcd => cdataOpen_ok t d ht hd hcd
    | _, _, .cdataClosed t d w ht hd hcd hw => cdataClosed_ok t d w ht hd hcd hw
    | _, _, .agg t w0 cs body ht h0 hl hself => agg_ok t w0 cs body ht h0 hl (hself rfl) (rendersList_ok hl)
  theorem rendersList_ok : ∀ {cs : List Tree} {body : Str}, RendersList true cs body → ListOk cs body
    | _, _, .nil => list_nil_ok
    | _, _, .cons c cs s w s' hr hw hl => list_cons_ok c cs s w s' hr hw hl (renders_ok hr) (rendersList_ok hl)
end

/-- the full-strength statement: every rendering of the grammar of DESIGN 6.2 parses to the rendered tree -/
def C02_complete_full : Prop := ∀ t s, Renders false t s → parse s = .ok (some t)

theorem C02_complete_partial (t : Tree) (s : Str) (h : Renders true t s) : parse s = .ok (some t) := by
  have := renders_ok h [] [] St.init rfl ⟨Or.inl rfl, fun _ _ => rfl⟩ rfl
  rw [parse_eq]
  simp only [List.append_nil] at this
  rw [this, run_nil]
  rfl

/-- … and so does the same body with whitespace around the root -/
theorem C02_complete_doc (t : Tree) (s : Str) (h : RendersDoc true t s) : parse s = .ok (some t) := by
  obtain ⟨w1, s0, w2, h1, h2, hr, rfl⟩ := h
  have := renders_ok hr w2 [] St.init h2 ⟨Or.inl rfl, fun _ _ => rfl⟩ rfl
  rw [parse_eq, run_skip w1 _ _ h1]
  simp only [List.append_nil] at this
  rw [this, run_nil]
  rfl

theorem C02_unique (t t' : Tree) (s : Str) (h : Renders true t s) (h' : Renders true t' s) : t = t' := by
  have a := C02_complete_partial t s h
  have b := C02_complete_partial t' s h'
  rw [a] at b
  injection b with b; injection b

/-- all renderings of one tree parse alike -/
theorem C02_same (t : Tree) (s₁ s₂ : Str) (h₁ : Renders true t s₁) (h₂ : Renders true t s₂) : parse s₁ = parse s₂ := by
  rw [C02_complete_partial t s₁ h₁, C02_complete_partial t s₂ h₂]

mutual
  /-- guard G3 as a predicate of the tree: at every aggregate, the last child is not a data element bearing the
      aggregate's own tag -/
  def g3Tree : Tree → Bool
    | .node t _ _ cs => (match cs.getLast? with | some c => leafTag c != some t | none => true) && g3List cs
  def g3List : List Tree → Bool
    | [] => true
    | c :: cs => g3Tree c && g3List cs
end

theorem g3Tree_leaf (t d : Str) : g3Tree (Tree.leaf t d) = true := by
  simp [Tree.leaf, g3Tree, g3List]

theorem g3Tree_agg (t : Str) (cs : List Tree) :
    g3Tree (Tree.agg t cs) = ((match cs.getLast? with | some c => leafTag c != some t | none => true) && g3List cs) := by
  simp [Tree.agg, g3Tree]

mutual
  theorem renders_strict_of_g3 : ∀ {t : Tree} {s : Str}, Renders false t s → g3Tree t = true → Renders true t s
    | _, _, .leafOpen t d w1 ht hd h1, _ => .leafOpen t d w1 ht hd h1
    | _, _, .leafClosed t d w1 w2 ht hd h1 h2, _ => .leafClosed t d w1 w2 ht hd h1 h2
    | _, _, .cdataOpen t d ht hd hcd, _ => .cdataOpen t d ht hd hcd
    | _, _, .cdataClosed t d w ht hd hcd hw, _ => .cdataClosed t d w ht hd hcd hw
    | _, _, .agg t w0 cs body ht h0 hl _, hg => by
      rw [g3Tree_agg, Bool.and_eq_true] at hg
      exact .agg t w0 cs body ht h0 (rendersList_strict_of_g3 hl hg.2) (fun _ c hc => by simpa [hc] using hg.1)
  theorem rendersList_strict_of_g3 :
      ∀ {cs : List Tree} {body : Str}, RendersList false cs body → g3List cs = true → RendersList true cs body
    | _, _, .nil, _ => .nil
    | _, _, .cons c cs s w s' hr hw hl, hg => by
      simp only [g3List, Bool.and_eq_true] at hg
      exact .cons c cs s w s' (renders_strict_of_g3 hr hg.1) hw (rendersList_strict_of_g3 hl hg.2)
end

theorem renders_strict_g3 {t : Tree} {s : Str} (h : Renders true t s) : Renders false t s ∧ g3Tree t = true := by
  refine Renders.rec (strict := true) (motive_1 := fun t s _ => Renders false t s ∧ g3Tree t = true)
    (motive_2 := fun cs body _ => RendersList false cs body ∧ g3List cs = true) ?_ ?_ ?_ ?_ ?_ ?_ ?_ h
  · intro t d w1 ht hd h1; exact ⟨Renders.leafOpen t d w1 ht hd h1, g3Tree_leaf t d⟩
  · intro t d w1 w2 ht hd h1 h2; exact ⟨Renders.leafClosed t d w1 w2 ht hd h1 h2, g3Tree_leaf t d⟩
  · intro t d ht hd hcd; exact ⟨Renders.cdataOpen t d ht hd hcd, g3Tree_leaf t d⟩
  · intro t d w ht hd hcd hw; exact ⟨Renders.cdataClosed t d w ht hd hcd hw, g3Tree_leaf t d⟩
  · intro t w0 cs body ht h0 _ hself ih
    refine ⟨Renders.agg t w0 cs body ht h0 ih.1 (by intro h; cases h), ?_⟩
    rw [g3Tree_agg, Bool.and_eq_true]
    refine ⟨?_, ih.2⟩
    cases hl : cs.getLast? with
    | none => rfl
    | some c => simpa using hself rfl c hl
  · exact ⟨RendersList.nil, rfl⟩
  · intro c cs s w s' _ hw _ ih1 ih2
    exact ⟨RendersList.cons c cs s w s' ih1.1 hw ih2.1, by simp [g3List, ih1.2, ih2.2]⟩

theorem renders_strict_iff (t : Tree) (s : Str) : Renders true t s ↔ (Renders false t s ∧ g3Tree t = true) :=
  ⟨renders_strict_g3, fun h => renders_strict_of_g3 h.1 h.2⟩

/-- every rendering of the full grammar of DESIGN 6.2 — every end-tag / whitespace / CDATA choice, white space after
    `]]>` included — of a tree that satisfies G3 parses to exactly that tree -/
theorem C02_complete_g3 (t : Tree) (s : Str) (h : Renders false t s) (hg : g3Tree t = true) : parse s = .ok (some t) :=
  C02_complete_partial t s (renders_strict_of_g3 h hg)

/-- the guard of `C02_complete_g3` holds of a non-trivial tree (nested aggregates of the same tag, a data element
    bearing its parent's tag that is not the last child) -/
example : g3Tree (Tree.agg ['A'] [Tree.leaf ['A'] ['1'], Tree.agg ['A'] [Tree.leaf ['B'] ['x'], Tree.agg ['B'] []]]) = true := by
  decide

theorem ok_after (strict : Bool) (r : RTree) (h : r.ok strict = true) : ws r.after = true := by
  cases r with
  | leaf t d w1 w2 close a => simp only [RTree.ok, Bool.and_eq_true] at h; exact h.2
  | cdata t d w close a => simp only [RTree.ok, Bool.and_eq_true] at h; exact h.2
  | agg t w0 kids a => simp only [RTree.ok, Bool.and_eq_true] at h; exact h.1.1.2

mutual
  theorem render_renders (strict : Bool) : (r : RTree) → r.ok strict = true → Renders strict r.tree r.str
    | .leaf t d w1 w2 close a, h => by
      simp only [RTree.ok, Bool.and_eq_true] at h
      obtain ⟨⟨⟨⟨ht, hd⟩, h1⟩, h2⟩, _⟩ := h
      cases close with
      | true => exact Renders.leafClosed t d w1 w2 ht hd h1 h2
      | false => exact Renders.leafOpen t d w1 ht hd h1
    | .cdata t d w close a, h => by
      simp only [RTree.ok, Bool.and_eq_true] at h
      obtain ⟨⟨⟨⟨ht, hd⟩, hcd⟩, hw⟩, _⟩ := h
      cases close with
      | true => exact Renders.cdataClosed t d w ht hd hcd hw
      | false => exact Renders.cdataOpen t d ht hd hcd
    | .agg t w0 kids a, h => by
      simp only [RTree.ok, Bool.and_eq_true] at h
      obtain ⟨⟨⟨⟨ht, h0⟩, _⟩, hk⟩, hs⟩ := h
      refine Renders.agg t w0 _ _ ht h0 (renders_list strict kids hk) ?_
      intro hst c hc
      subst hst
      simp only [hc, Bool.not_true, Bool.false_or] at hs
      simpa using hs
  theorem renders_list (strict : Bool) : (ks : List RTree) → RTree.oks strict ks = true →
      RendersList strict (RTree.trees ks) (RTree.strs ks)
    | [], _ => RendersList.nil
    | k :: ks, h => by
      simp only [RTree.oks, Bool.and_eq_true] at h
      exact RendersList.cons _ _ _ _ _ (render_renders strict k h.1) (ok_after strict k h.1) (renders_list strict ks h.2)
end

/-- every strict output of the renderer parses back to the tree it was rendered from -/
theorem C02_render_roundtrip (r : RTree) (h : r.ok true = true) : parse r.str = .ok (some r.tree) :=
  C02_complete_partial _ _ (render_renders true r h)

private def tA : Str := ['A']
private def tB : Str := ['B']
private def tC : Str := ['C']
private def dx : Str := ['x']
private def dy : Str := ['y']

def witnessG1 : Str := "<A><B><![CDATA[x]]><C><![CDATA[y]]></A>".toList
def witnessG1Tree : Tree := Tree.agg tA [Tree.leaf tB dx, Tree.leaf tC dy]

/- A witness is shown to be a rendering by naming the `RTree` it is the text of. `rw [String.toList_ofList]`
   reads the literal as `String.ofList` of its characters, so the literal is never decoded. -/
theorem witnessG1_renders (strict : Bool) : Renders strict witnessG1Tree witnessG1 := by
  unfold witnessG1
  rw [String.toList_ofList]
  exact render_renders strict (.agg tA [] [.cdata tB dx [] false [], .cdata tC dy [] false []] [])
    (by cases strict <;> decide)

/-- CDATA element data ends at the first `]]>` -/
theorem C02_G1_repaired : parse witnessG1 = .ok (some witnessG1Tree) :=
  C02_complete_partial _ _ (witnessG1_renders true)

/-- whitespace between `]]>` and the element's own end tag -/
def witnessG2 : Str := "<A><B><![CDATA[x]]> </B></A>".toList
def witnessG2Tree : Tree := Tree.agg tA [Tree.leaf tB dx]

theorem witnessG2_renders (strict : Bool) : Renders strict witnessG2Tree witnessG2 := by
  unfold witnessG2
  rw [String.toList_ofList]
  exact render_renders strict (.agg tA [] [.cdata tB dx [' '] true []] []) (by cases strict <;> decide)

/-- the blank after `]]>` is not taken as tail -/
theorem C02_G2_repaired : parse witnessG2 = .ok (some witnessG2Tree) :=
  C02_complete_partial _ _ (witnessG2_renders true)

/-- line breaks and other white space after `]]>`, with and without the element's own end tag, followed by a sibling
    or by the parent's end tag -/
def exampleG2 : Str := "<A>\n<B><![CDATA[x]]>\r\n </B>\n<C><![CDATA[a b]]>\t\n<D><![CDATA[>]]>\u00a0</D></A>".toList

theorem C02_G2_example : parse exampleG2 =
    .ok (some (Tree.agg tA [Tree.leaf tB dx, Tree.leaf tC "a b".toList, Tree.leaf ['D'] ['>']])) := by
  unfold exampleG2
  rw [String.toList_ofList, String.toList_ofList]
  exact C02_render_roundtrip (.agg tA ['\n'] [.cdata tB dx ['\r', '\n', ' '] true ['\n'],
    .cdata tC ['a', ' ', 'b'] [] false ['\t', '\n'], .cdata ['D'] ['>'] ['\u00a0'] true []] []) (by decide)

/-- the last child of aggregate B is an unclosed data element B -/
def witnessG3 : Str := "<A><B><B>1</B><C>2</A>".toList
def witnessG3Tree : Tree := Tree.agg tA [Tree.agg tB [Tree.leaf tB ['1']], Tree.leaf tC ['2']]

theorem witnessG3_renders : Renders false witnessG3Tree witnessG3 := by
  unfold witnessG3
  rw [String.toList_ofList]
  exact render_renders false (.agg tA [] [.agg tB [] [.leaf tB ['1'] [] [] false []] [], .leaf tC ['2'] [] [] false []] [])
    (by decide)

/-- G3 cannot be dropped: `</B>` is taken as the data element's own end tag, aggregate `B` stays open and
    `</A>` does not match it (`ParseError`) -/
theorem C02_G3_needed : ¬ ∀ t s, Renders false t s → parse s = .ok (some t) := by
  intro h
  have := h _ _ witnessG3_renders
  unfold witnessG3 at this
  rw [String.toList_ofList] at this
  -- `parse` of the literal evaluates to `.error .parse`
  cases this

/-- by the G3 witness (the G2 witness is accepted, `C02_G2_repaired`) -/
theorem C02_complete_full_false : ¬ C02_complete_full := C02_G3_needed

/-- the guards of `C02_complete_partial` are satisfiable by a non-trivial body: nested aggregates, an SGML leaf, an XML
    leaf with padding, a CDATA leaf with end tag, an empty aggregate, line breaks -/
def exampleBody : Str := "<A>\n <B>1 2\n <C.1> a&amp;b </C.1>\r\n <B><D><![CDATA[x>y]]></D>\n<E></E></B>\n</A>".toList

example : ∃ t, Renders true t exampleBody := by
  unfold exampleBody
  rw [String.toList_ofList]
  exact ⟨_, render_renders true (.agg tA ['\n', ' '] [.leaf tB ['1', ' ', '2'] [] [] false ['\n', ' '],
    .leaf ['C', '.', '1'] ['a', '&', 'a', 'm', 'p', ';', 'b'] [' '] [' '] true ['\r', '\n', ' '],
    .agg tB [] [.cdata ['D'] ['x', '>', 'y'] [] true ['\n'], .agg ['E'] [] [] []] ['\n']] []) (by decide)⟩

end Ofx.C02
