/-
C07 — unknown and vendor-specific tags never change or break the converted result.

Generic in the schema `S` and the converters `cv`: no well-formedness premise is needed.
The model `Agg.fromEtree` is tied to `Aggregate.from_etree` by `harness/corr/C07.py`.
-/
import OfxProofs.Lemmas.Agg
namespace Ofx.Agg
open Ofx

/-- `t'` is `t` with one extra subtree, unknown to the enclosing aggregate's class, inserted at some
    child position of some aggregate node. -/
inductive InsertUnknown (S : Schema) : Tree → Tree → Prop
  | here (tag : Str) (x tl : Option Str) (pre : List Tree) (u : Tree) (post : List Tree) :
      (∀ ci c, S.findIdx? tag = some ci → S.cls? ci = some c → Unknown c u.tag) →
      InsertUnknown S (.node tag x tl (pre ++ post)) (.node tag x tl (pre ++ u :: post))
  | deeper (tag : Str) (x tl : Option Str) (pre : List Tree) (ch ch' : Tree) (post : List Tree) :
      InsertUnknown S ch ch' →
      InsertUnknown S (.node tag x tl (pre ++ ch :: post)) (.node tag x tl (pre ++ ch' :: post))

theorem InsertUnknown.tag_text {S : Schema} {t t' : Tree} (h : InsertUnknown S t t') :
    t'.tag = t.tag ∧ t'.text = t.text := by
  cases h <;> exact ⟨rfl, rfl⟩

/-- C07: inserting an element its parent's class does not know, at any depth, changes nothing in what the reader
    returns, instance or error -/
theorem C07_invariant (S : Schema) (cv : Conv) (t t' : Tree) (h : InsertUnknown S t t') :
    fromEtree S cv t' = fromEtree S cv t := by
  induction h with
  | here tag x tl pre u post hu =>
    refine fromEtree_congr S cv tag x tl x tl _ _ (fun ci c hf hc => ?_)
    rw [childInsts_append, childInsts_append]
    exact foldChildren_insert c u _ (hu ci c hf hc) pre post _ _ _ (childInsts_length S cv pre)
  | deeper tag x tl pre ch ch' post hin ih =>
    obtain ⟨ht, hx⟩ := hin.tag_text
    refine fromEtree_congr S cv tag x tl x tl _ _ (fun ci c _ _ => ?_)
    simp only [childInsts_append, childInsts, ih]
    exact foldChildren_replace c ch ch' _ ht hx pre post _ _ _ (childInsts_length S cv pre)

inductive InsertUnknowns (S : Schema) : Tree → Tree → Prop
  | refl (t : Tree) : InsertUnknowns S t t
  | step (t t' t'' : Tree) : InsertUnknowns S t t' → InsertUnknown S t' t'' → InsertUnknowns S t t''

/-- C07: a document with any number of unknown / vendor-prefixed elements or subtrees inserted at any
    positions converts exactly as the document without them (same instance, or the same error). -/
theorem C07_invariant_many (S : Schema) (cv : Conv) (t t' : Tree) (h : InsertUnknowns S t t') :
    fromEtree S cv t' = fromEtree S cv t := by
  induction h with
  | refl => rfl
  | step _ _ _ hstep ih => rw [C07_invariant S cv _ _ hstep, ih]

/-- a vendor-prefixed tag is unknown to every class whose `groom` does not rename exactly that tag -/
theorem C07_dotted_unknown (c : Cls) (tag : Str) (hd : '.' ∈ tag)
    (hg : ∀ r, c.groom = some r → tag ≠ r.fromTag) : Unknown c tag := ⟨hg, Or.inl hd⟩

private def tinyCls : Cls :=
  { name := "A".toList, exported := true, abstract := false, ancestors := [], spec := [],
    optMutex := [], reqMutex := [], declOptMutex := [], declReqMutex := [], elementList := false,
    extra := .none, groom := none, ungroom := none }
private def tinySchema : Schema := { classes := [tinyCls], enums := [] }

example : InsertUnknown tinySchema (.node "A".toList none none [])
    (.node "A".toList none none [.node "INTU.BID".toList (some "1".toList) none []]) :=
  InsertUnknown.here "A".toList none none [] _ [] (fun ci c hf hc => by
    have : ci = 0 := by
      simp [Schema.findIdx?, tinySchema, tinyCls] at hf
      omega
    subst this
    simp [Schema.cls?, tinySchema] at hc
    subst hc
    exact ⟨fun r h => by simp [tinyCls] at h, Or.inl (by decide)⟩)

end Ofx.Agg
