/-
C14, cookie clauses — "cookies a server sets are replayed on later requests of the same client and never appear in
requests of another client instance" — for the policy of CPython's `http.cookiejar` as `ofxtools/Client.py:post_request`
uses it (model and scope: `OfxModel/Ofx/CookieJar.lean`; tie: `harness/corr/C14.py`, which drives the real
`http.cookiejar` through the real `OFXClient.post_request`).

Every theorem quantifies over **every** network (`Net`: the clock and the answer to the n-th request, which may depend on
everything on the wire), every number of client instances, and every history of posts by them.  The posts of a history
of whole operations of `ClientSM` are such a history (each operation is at most two posts by one client,
`ClientSM.C14_count`), and `C14c_clientSM_posts` states `C14c_header_iff` for them; nothing relates `ClientSM.World.net`,
or the state machine's own jar, to the network and the jar here.  The master statement is `C14c_header_iff`.
-/
import OfxProofs.Lemmas.CookieTrace
import OfxModel.Ofx.ClientSM

namespace Ofx.CookieJar

/-- **path specificity first**: the header lists cookies with longer paths before cookies with shorter ones -/
theorem cookieHeader_ordered (jar : Jar) (req : Req) (now : Int) :
    ∃ cs : List Cookie, PathOrdered cs ∧ cookieHeader jar req now = cs.map fun c => (c.name, c.value) :=
  ⟨_, sortByPath_ordered _, rfl⟩

theorem touches_nil {req : Req} {k : Key} : ¬ Touches req [] k := by
  rintro (h | ⟨_, h, _⟩) <;> cases h

variable (net : Net)

theorem step_ev (s : Sys) (n who : Nat) (req : Req) :
    (step net s n who req).2.who = who ∧ (step net s n who req).2.req = req ∧
      (step net s n who req).2.now = net.tReq n := ⟨rfl, rfl, rfl⟩

section Props
variable (s0 : Sys) (hjar : ∀ i, (s0 i).jar = []) (hist : List (Nat × Req))
include hjar

/-- Start any number of client instances with empty jars (as `OFXClient.__init__` creates them)
    and let them post any history of requests against any network on any clock.  Look at any request `e` on the wire and
    the requests `pre` before it.  The items of its `Cookie:` header are exactly the name/value pairs of the cookies
    that are live for the sending instance after `pre` and pass the policy's gates for this request — and there are
    none when the instance does not keep cookies. -/
theorem C14c_header_iff (pre : List Ev) (e : Ev) (post : List Ev) (h : run net s0 0 hist = pre ++ e :: post)
    (nv : Str × Str) :
    nv ∈ e.header ↔
      (s0 e.who).persist = true ∧ ∃ x, Live e.who pre x ∧ sendable e.req e.now x = true ∧ (x.name, x.value) = nv := by
  have := run_header_iff net hist s0 0 [] (inv_init s0 hjar) pre e post h nv
  simpa using this

/-- `persist_cookies=False`: no request of that instance ever carries a cookie. -/
theorem C14c_persist_false (pre : List Ev) (e : Ev) (post : List Ev) (h : run net s0 0 hist = pre ++ e :: post)
    (hp : (s0 e.who).persist = false) : e.header = [] := by
  apply List.eq_nil_iff_forall_not_mem.mpr
  intro nv hnv
  have := ((C14c_header_iff net s0 hjar hist pre e post h nv).mp hnv).1
  rw [hp] at this; cases this

/-- Every cookie a request carries was set by the response to an earlier request **of the
    same client instance**, whose `Set-Cookie` header the policy accepted for that request; it has not expired, and the
    request goes to a host and a path the cookie belongs to, over https if the cookie is `Secure`. -/
theorem C14c_origin (pre : List Ev) (e : Ev) (post : List Ev) (h : run net s0 0 hist = pre ++ e :: post)
    (nv : Str × Str) (hnv : nv ∈ e.header) :
    ∃ e0 ∈ pre, e0.who = e.who ∧ ∃ scs, e0.reply.set = some scs ∧ ∃ sc ∈ scs, sc.name = nv.1 ∧ sc.value = nv.2 ∧
      ∃ x, mkCookie e0.req e0.reply.tResp sc = .cookie x ∧ setOk e0.req x = true ∧
        HostMatch e.req x ∧ PathMatch e.req x ∧ (x.secure = true → e.req.https = true) ∧
        (∀ t, x.expires = some t → e.now < t) := by
  obtain ⟨_, x, ⟨a, e0, mid, rfl, hw0, hst, _⟩, hs, rfl⟩ := (C14c_header_iff net s0 hjar hist pre e post h nv).mp hnv
  refine ⟨e0, by simp, hw0, ?_⟩
  unfold Ev.made at hst
  cases hset : e0.reply.set with
  | none => rw [hset] at hst; exact absurd hst stores_nil
  | some scs =>
    rw [hset] at hst
    obtain ⟨hok, sc, hsc, hmk, hn, hv⟩ := stores_origin hst
    exact ⟨scs, rfl, sc, hsc, hn, hv, x, hmk, hok, sendable_sound hs⟩

/-- A name/value pair that no response to this client's own earlier requests set is never sent —
    whatever the servers gave to other client instances. -/
theorem C14c_isolation (pre : List Ev) (e : Ev) (post : List Ev) (h : run net s0 0 hist = pre ++ e :: post)
    (nv : Str × Str)
    (hforeign : ∀ e0 ∈ pre, e0.who = e.who → ∀ scs, e0.reply.set = some scs → ∀ sc ∈ scs, (sc.name, sc.value) ≠ nv) :
    nv ∉ e.header := by
  intro hnv
  obtain ⟨e0, he0, hw, scs, hset, sc, hsc, hn, hv, _⟩ := C14c_origin net s0 hjar hist pre e post h nv hnv
  exact hforeign e0 he0 hw scs hset sc hsc (by rw [hn, hv])

/-- A cookie `x` that the response to request `e0` of a client stored (made from one of its
    `Set-Cookie` headers, accepted, last of its key in that response) is sent on **every** later request `e` of the same
    client that it matches — as long as the client keeps cookies, no response to that client in between touched its key
    (overwrote or deleted it), and it was not expired at any of the client's requests in between. -/
theorem C14c_replay (a : List Ev) (e0 : Ev) (mid : List Ev) (e : Ev) (post : List Ev)
    (h : run net s0 0 hist = a ++ e0 :: (mid ++ e :: post)) (hw : e0.who = e.who)
    (hp : (s0 e.who).persist = true) (x : Cookie) (hst : Stores e0.req e0.made x)
    (hmid : ∀ e1 ∈ mid, e1.who = e.who → x.isExpired e1.now = false ∧ ¬ Touches e1.req e1.made x.key)
    (hs : sendable e.req e.now x = true) : (x.name, x.value) ∈ e.header := by
  have h' : run net s0 0 hist = (a ++ e0 :: mid) ++ e :: post := by simpa using h
  exact (C14c_header_iff net s0 hjar hist _ e post h' _).mpr ⟨hp, x, ⟨a, e0, mid, rfl, hw, hst, hmid⟩, hs, rfl⟩

end Props

/-- After a response to client `e.who` deleted key `k` (a `Set-Cookie` for it that is already expired:
    `Max-Age=0`, a negative `Max-Age`, an `Expires` in the past) and did not itself store `k` again, no cookie with key
    `k` is live for that client until a later response to it stores `k` again (so, by `C14c_header_iff`, none is sent). -/
theorem C14c_deleted {i : Nat} (a : List Ev) (ed : Ev) (mid : List Ev) (k : Key) (hw : ed.who = i)
    (hdel : Made.expired k ∈ ed.made) (hnot : ∀ x, Stores ed.req ed.made x → x.key ≠ k)
    (hmid : ∀ e1 ∈ mid, e1.who = i → ∀ x, Stores e1.req e1.made x → x.key ≠ k)
    (x : Cookie) (hl : Live i (a ++ ed :: mid) x) : x.key ≠ k := by
  obtain ⟨a', e0, mid', hpre, hw0, hst, hmid'⟩ := hl
  -- the response that stored `x` is the deleting one, a later one, or an earlier one: then `ed` touched `x`
  rcases List.split_cmp hpre with ⟨_, rfl, _⟩ | ⟨t, _, rfl⟩ | ⟨t, _, rfl⟩
  · exact hnot x hst
  · exact hmid e0 (by simp) hw0 x hst
  · exact fun hk => (hmid' ed (by simp) hw).2 (.inl (hk ▸ hdel))

/-- … in particular one with `Max-Age=0` or a negative `Max-Age` (the last one in the header) -/
theorem mkCookie_maxAge_nonpos (req : Req) (now v : Int) (name value : Str) (pre post : List Attr)
    (hpost : ∀ a ∈ post, ∀ w, a ≠ .maxAge w) (hv : v ≤ 0) :
    ∃ k, mkCookie req now ⟨name, value, pre ++ .maxAge v :: post⟩ = .expired k ∧ k.name = name :=
  mkCookie_expired (normalize_lastMaxAge now v pre post hpost) (by omega)

/-- … and one whose expiry is in the future is a cookie with that expiry -/
theorem mkCookie_live {req : Req} {now t : Int} {sc : SetCookie} (h : (normalize now sc.attrs).expires = some t)
    (ht : now < t) : ∃ x, mkCookie req now sc = .cookie x ∧ x.expires = some t ∧ x.name = sc.name ∧ x.value = sc.value := by
  rw [mkCookie_eq, h]
  exact ⟨_, if_neg (Int.not_le.mpr ht), h, rfl, rfl⟩

/-- One jar: a response whose only header for key `k` is already expired leaves no cookie
    with key `k` in the jar -/
theorem C14c_maxage0_removes {jar : Jar} (hc : Cons jar) (req : Req) (now : Int) (scs : List SetCookie) (k : Key)
    (hdel : ∃ sc ∈ scs, mkCookie req now sc = .expired k)
    (honly : ∀ sc ∈ scs, ∀ x, mkCookie req now sc = .cookie x → x.key ≠ k) :
    ∀ x ∈ cookies (extract jar req now scs), x.key ≠ k := by
  intro x hx
  obtain ⟨d, p, hat⟩ := mem_cookies.mp hx
  rcases (at_extractMade jar req _).mp hat with ⟨_, _, ma, mb, hm, _⟩ | ⟨hold, hno⟩
  · have : Made.cookie x ∈ scs.map (mkCookie req now) := by rw [hm]; simp
    obtain ⟨sc, hsc, hmk⟩ := List.mem_map.mp this
    exact honly sc hsc x hmk
  · obtain ⟨rfl, rfl⟩ := hc d p x hold
    rintro rfl
    obtain ⟨sc, hsc, hmk⟩ := hdel
    exact hno (.inl (show Made.expired x.key ∈ _ from hmk ▸ List.mem_map_of_mem hsc))

/-- a cookie set without a `Domain` attribute by host `r0` goes to `r0`'s effective host and to its sub-domains — and to
    no other host -/
theorem hostMatch_hostOnly {r r0 : Req} {x : Cookie} (hx : x.domain = erhn r0) (hne : erhn r0 ≠ [])
    (hdot : startsWith dot (erhn r0) = false) :
    HostMatch r x ↔ erhn r = erhn r0 ∨ ∃ sub, erhn r = sub ++ '.' :: erhn r0 := by
  unfold HostMatch
  rw [hx, dotDomain_of hne hdot]
  constructor
  · rintro ⟨pre, h⟩
    cases pre with
    | nil => simp only [List.nil_append, List.cons.injEq, true_and] at h; exact .inl h
    | cons c pre' =>
      simp only [List.cons_append, List.cons.injEq] at h
      exact .inr ⟨pre', h.2⟩
  · rintro (h | ⟨sub, h⟩)
    · exact ⟨[], by simp [h]⟩
    · exact ⟨'.' :: sub, by simp [h]⟩

theorem mkCookie_hostOnly {req : Req} {now : Int} {sc : SetCookie} {x : Cookie} (h : mkCookie req now sc = .cookie x)
    (hd : (normalize now sc.attrs).domain = none) : x.domain = erhn req ∧ x.domainSpecified = false := by
  rw [mkCookie_cookie h]
  simp only [cookieOf, hd, Option.isSome_none, and_self]

/-- the posts a history of whole `ClientSM` operations puts on the wire, given how its abstract URLs are spelled -/
def postsOf (urlOf : ClientSM.Url → Req) (tr : List ClientSM.Ev) : List (Nat × Req) :=
  tr.map fun e => (e.who, urlOf e.req.url)

/-- `run_posts` and `C14c_header_iff` at the posts of any history of whole operations of the client state machine of
    `ClientSM.lean`: request for request the same client posts to the same URL, and the `Cookie:` header of each is
    characterised as there.  It holds of any list of posts: nothing relates `w.net` to `net`. -/
theorem C14c_clientSM_posts (w : ClientSM.World) (sys : ClientSM.Sys) (ops : List (Nat × ClientSM.Op))
    (urlOf : ClientSM.Url → Req) (net : Net) (s0 : Sys) (hjar : ∀ i, (s0 i).jar = []) :
    (run net s0 0 (postsOf urlOf (ClientSM.Sys.trace w sys ops))).map (fun e => (e.who, e.req)) =
        (ClientSM.Sys.trace w sys ops).map (fun e => (e.who, urlOf e.req.url)) ∧
    ∀ pre e post, run net s0 0 (postsOf urlOf (ClientSM.Sys.trace w sys ops)) = pre ++ e :: post → ∀ nv,
      (nv ∈ e.header ↔
        (s0 e.who).persist = true ∧ ∃ x, Live e.who pre x ∧ sendable e.req e.now x = true ∧ (x.name, x.value) = nv) :=
  ⟨run_posts .., fun pre e post h nv => C14c_header_iff net s0 hjar _ pre e post h nv⟩

/-- what a bare `name=value` header makes: a host-only session cookie for the directory of the request path -/
theorem mkCookie_plain (req : Req) (now : Int) (n v : Str) :
    mkCookie req now ⟨n, v, []⟩ = .cookie ⟨n, v, erhn req, false, defaultPath req, false, false, none⟩ := rfl

section
variable (net : Net) (s0 : Sys) (hjar : ∀ i, (s0 i).jar = []) (hist : List (Nat × Req))
include hjar

/-- The clause of C14 as the property text has it, for the cookies OFX servers typically set.
    A bare `name=value` cookie in the response to a request of a client that keeps cookies is sent on **every** later
    request of the same client to the same URL, as long as no response to that client in between (nor a later header of
    the same response) carried a `Set-Cookie` of that name. -/
theorem C14c_replay_plain (a : List Ev) (e0 : Ev) (mid : List Ev) (e : Ev) (post : List Ev)
    (h : run net s0 0 hist = a ++ e0 :: (mid ++ e :: post)) (hw : e0.who = e.who)
    (hp : (s0 e.who).persist = true) (scs1 scs2 : List SetCookie) (n v : Str)
    (hset : e0.reply.set = some (scs1 ++ ⟨n, v, []⟩ :: scs2)) (hlast : ∀ sc ∈ scs2, sc.name ≠ n)
    (hmid : ∀ e1 ∈ mid, e1.who = e.who → ∀ scs, e1.reply.set = some scs → ∀ sc ∈ scs, sc.name ≠ n)
    (hreq : e.req = e0.req) (hne : erhn e0.req ≠ []) (hdot : startsWith dot (erhn e0.req) = false) :
    (n, v) ∈ e.header := by
  let x : Cookie := ⟨n, v, erhn e0.req, false, defaultPath e0.req, false, false, none⟩
  have hst : Stores e0.req e0.made x := by
    refine ⟨scs1.map (mkCookie e0.req e0.reply.tResp), scs2.map (mkCookie e0.req e0.reply.tResp), ?_, setOk_hostOnly rfl, ?_⟩
    · simp [Ev.made, hset, mkCookie_plain, x]
    · intro c' hc' _ hk
      obtain ⟨sc, hsc, hmk⟩ := List.mem_map.mp hc'
      have h1 := mkCookie_key_name e0.req e0.reply.tResp sc
      rw [hmk] at h1
      have h2 : c'.key.name = n := by rw [hk]; rfl
      exact hlast sc hsc (by rw [← h1]; exact h2)
  have := C14c_replay net s0 hjar hist a e0 mid e post h hw hp x hst ?_ (by rw [hreq]; exact sendable_plain_same _ _ _ _ hne hdot)
  · exact this
  · intro e1 he1 hw1
    refine ⟨rfl, ?_⟩
    rintro (hd | ⟨c', hc', _, hk⟩)
    · obtain ⟨scs, hs, sc, hsc, hn⟩ := made_name_mem hd
      exact hmid e1 he1 hw1 scs hs sc hsc hn.symm
    · obtain ⟨scs, hs, sc, hsc, hn⟩ := made_name_mem hc'
      refine hmid e1 he1 hw1 scs hs sc hsc ?_
      rw [← hn]
      show c'.key.name = n
      rw [hk]; rfl
end

section Examples

private def rq (https : Bool) (host path : String) : Req := ⟨https, host.toList, path.toList⟩
private def ck (n v : String) (attrs : List Attr) : SetCookie := ⟨n.toList, v.toList, attrs⟩

/-- the n-th request leaves at the first time and is answered at the second with these `Set-Cookie` headers -/
def exScript : List (Int × Int × Option (List SetCookie)) :=
  [ (1000, 1000, some [ck "sid" "A" [.path "/ofx".toList, .secure, .other],
                       ck "pref" "B" [.domain "bank.example".toList, .maxAge 100], ck "t" "C" []]),
    (1001, 1001, some [ck "sid" "D" []]),
    (1010, 1010, some []), (1020, 1020, some []), (1030, 1030, some []),
    (1040, 1041, some [ck "sid" "X" [.maxAge 0, .path "/ofx".toList]]),
    (1050, 1050, some []), (1200, 1200, some []), (1201, 1201, none),
    (1202, 1202, some [ck "sid" "E" []]), (1203, 1203, some []) ]

def exNet : Net :=
  { tReq := fun n => match exScript[n]? with | some e => e.1 | none => 0,
    reply := fun n _ _ => match exScript[n]? with | some e => ⟨e.2.1, e.2.2⟩ | none => ⟨0, none⟩ }

/-- instances 0 and 1 keep cookies, instance 2 does not -/
def exSys : Sys := fun i => ⟨i != 2, []⟩

def exHist : List (Nat × Req) :=
  [ (0, rq true "bank.example" "/ofx/v1"), (1, rq true "bank.example" "/ofx/v1"),
    (0, rq true "www.bank.example" "/ofx/v1/x"), (0, rq false "bank.example" "/ofx"),
    (0, rq true "notbank.example" "/ofx"), (0, rq true "bank.example" "/ofx/v1"), (0, rq true "bank.example" "/ofx/v1"),
    (0, rq true "bank.example" "/ofx/v1"), (1, rq true "bank.example" "/other"),
    (2, rq true "bank.example" "/ofx/v1"), (2, rq true "bank.example" "/ofx/v1") ]

private def nv (n v : String) : Str × Str := (n.toList, v.toList)

/-- the concrete history on the wire, request by request: number, instance, request, `Cookie:` header -/
theorem exRun_wire : (run exNet exSys 0 exHist).map (fun e => ((e.n, e.who), e.req, e.header)) =
    [ ((0, 0), rq true "bank.example" "/ofx/v1", []), ((1, 1), rq true "bank.example" "/ofx/v1", []),
      ((2, 0), rq true "www.bank.example" "/ofx/v1/x", [nv "sid" "A", nv "t" "C", nv "pref" "B"]),
      ((3, 0), rq false "bank.example" "/ofx", [nv "t" "C", nv "pref" "B"]),
      ((4, 0), rq true "notbank.example" "/ofx", []),
      ((5, 0), rq true "bank.example" "/ofx/v1", [nv "sid" "A", nv "t" "C", nv "pref" "B"]),
      ((6, 0), rq true "bank.example" "/ofx/v1", [nv "t" "C", nv "pref" "B"]),
      ((7, 0), rq true "bank.example" "/ofx/v1", [nv "t" "C"]),
      ((8, 1), rq true "bank.example" "/other", []), ((9, 2), rq true "bank.example" "/ofx/v1", []),
      ((10, 2), rq true "bank.example" "/ofx/v1", []) ] := by decide +kernel

/-- the event behind the `k`-th line of `exRun_wire` -/
theorem exRun_get {k : Nat} {t : (Nat × Nat) × Req × List (Str × Str)}
    (h : ((run exNet exSys 0 exHist).map (fun e => ((e.n, e.who), e.req, e.header)))[k]? = some t) :
    ∃ e ∈ run exNet exSys 0 exHist, e.n = t.1.1 ∧ e.req = t.2.1 ∧ e.header = t.2.2 := by
  obtain ⟨e, he, rfl⟩ := List.mem_map.mp (List.mem_of_getElem? h)
  exact ⟨e, he, rfl, rfl, rfl⟩

/-- what goes over the wire: instance 0 gets its three cookies back on a sub-domain (host-only cookies go to
    sub-domains under the default policy), not the `Secure` one over http, none at a look-alike host; `Max-Age=0`
    removes `sid`; `pref` is gone after its 100 seconds; instance 1 never sees instance 0's cookies nor sends its own to
    a foreign path; instance 2 (`persist_cookies=False`) sends nothing although the server set a cookie for it -/
example : (run exNet exSys 0 exHist).map (fun e => (e.who, e.header)) =
    [ (0, []), (1, []),
      (0, [nv "sid" "A", nv "t" "C", nv "pref" "B"]), (0, [nv "t" "C", nv "pref" "B"]), (0, []),
      (0, [nv "sid" "A", nv "t" "C", nv "pref" "B"]), (0, [nv "t" "C", nv "pref" "B"]), (0, [nv "t" "C"]),
      (1, []), (2, []), (2, []) ] := by
  have h := congrArg (List.map fun t => (t.1.2, t.2.2)) exRun_wire
  rw [List.map_map] at h
  exact h

-- `C14c_replay` / `C14c_header_iff`: a live, matching cookie exists (the third request of the history carries one)
example : ∃ pre e post, run exNet exSys 0 exHist = pre ++ e :: post ∧
    ∃ x, Live e.who pre x ∧ sendable e.req e.now x = true ∧ (x.name, x.value) = nv "sid" "A" := by
  obtain ⟨e, he, -, -, hh⟩ := exRun_get (k := 2) (by rw [exRun_wire]; rfl)
  have hnv : nv "sid" "A" ∈ e.header := by rw [hh]; exact List.mem_cons_self
  obtain ⟨pre, post, hrun⟩ := List.append_of_mem he
  exact ⟨pre, e, post, hrun, ((C14c_header_iff exNet exSys (fun _ => rfl) exHist pre e post hrun _).mp hnv).2⟩

-- `C14c_deleted` / `C14c_maxage0_removes` / `mkCookie_maxAge_nonpos`: the sixth response deletes exactly one key
example : mkCookie (rq true "bank.example" "/ofx/v1") 1041 (ck "sid" "X" [.maxAge 0, .path "/ofx".toList]) =
    .expired ⟨"bank.example".toList, "/ofx".toList, "sid".toList⟩ := by decide +kernel

-- `sendable_iff`, `hostMatch_hostOnly`: ordinary hosts do not begin with a dot and are not empty
example : startsWith dot (erhn (rq true "bank.example" "/ofx")) = false ∧ erhn (rq true "bank.example" "/ofx") ≠ [] ∧
    erhn (rq true "localhost" "/") = "localhost.local".toList := by decide +kernel

-- `set_ok_domain`: a parent domain is accepted, a foreign or dot-less one is not
example : (["bank.example", ".bank.example", "www.bank.example", "example", "other.test", "k.example"].map fun d =>
      match mkCookie (rq true "www.bank.example" "/") 0 (ck "a" "b" [.domain d.toList]) with
      | .cookie c => setOk (rq true "www.bank.example" "/") c
      | .expired _ => false) = [true, true, true, false, false, false] := by decide +kernel

-- `escape_path`
example : escapePath "/a b/%7euser/é".toList = "/a%20b/%7Euser/%C3%A9".toList := by decide +kernel

-- `C14c_replay_plain`: the first response carries the bare cookie `t=C` last, and instance 0 posts to the same URL again
example : ∃ e ∈ run exNet exSys 0 exHist, e.n = 5 ∧ e.req = rq true "bank.example" "/ofx/v1" ∧ nv "t" "C" ∈ e.header := by
  obtain ⟨e, he, hn, hr, hh⟩ := exRun_get (k := 5) (by rw [exRun_wire]; rfl)
  exact ⟨e, he, hn, hr, by rw [hh]; exact List.mem_cons_of_mem _ List.mem_cons_self⟩

end Examples

end Ofx.CookieJar
