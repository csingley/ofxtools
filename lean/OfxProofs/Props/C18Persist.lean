/-
C18, persistence clause, as an IFF: exactly which saved runs read back.  Spec: `OfxModel/Spec/PersistOk.lean`;
lemmas: `OfxProofs/Lemmas/C18Persist.lean`.
-/
import OfxProofs.Lemmas.C18Persist
import OfxProofs.Props.C18

namespace Ofx.Ofxget
open Ofx Ofx.Spec.Ofxget Ofx.Spec.Persist

/-- Save (`ofxget … s --write`, any command line, any ofxget.cfg, any FI database, any OFX
    Home table), then run again without the option: the value in effect for a CONFIGURABLE option `k` is the same
    **if and only if** `PersistOk` holds of the option's view — for every outcome of `test_cfg_val` (written; written
    because stored; skipped as empty; skipped as the global CLIENTUID; skipped as the library default) and every
    kind of value.  `low` is what ranks below the files at the second run: the OFX Home record under the id in
    effect then, else `DEFAULTS[k]`.  `ns1` and `lowSave` only fill the view's fields `cliSet` and `lowSave`, which
    `PersistOk` does not read (`lossClass` does): that is why no hypothesis ties them to `c1`. -/
theorem C18_persist_iff (T : Tables) (hwf : T.WF = true) (hnd : (T.configurable.map (·.1)).Nodup)
    (lookup : Str → Option OhRec) (ns1 : Map) (lowSave : Option CfgVal)
    (fidb user : FileC) (c1 : Chain) (uuid : Str) (cfg' : Ini) (s : Str)
    (hs : s ≠ defaultSect) (hnick : serverNick c1 = .ok s)
    (hmk : mkServerCfg T c1 (loadUser fidb user) (loadLib fidb) user uuid = .ok cfg')
    (k : Name) (ty : CfgTy) (hkt : (k, ty) ∈ T.configurable) (v : CfgVal) (hv : effective c1 k = some v)
    (libCfg : Map) (hlib : readConfig T (loadLib fidb) s = .ok libCfg)
    (d : CfgVal) (hd : T.defaults.lookup k = some d)
    (ns2 : Map) (c2 : Chain) (dr : CfgVal)
    (hsrv2 : (extractns ns2).lookup "server".toList = some (.str s))
    (hdry2 : (extractns ns2).lookup "dryrun".toList = some dr) (htd : truthy dr = true)
    (hk2 : (extractns ns2).lookup k = none)
    (h2 : mergeConfig T lookup ns2 (loadUser fidb cfg'.toFile) = .ok c2) :
    effective c2 k = effective c1 k ↔
      PersistOk T (viewOf ns1 fidb user uuid s k ty v ((libCfg.lookup k).getD d) lowSave
        (lowOf T lookup (effective c2 "ofxhome".toList) k)) = true := by
  have hmem := canon_loadUser fidb user
  obtain ⟨hdef, hcanon, hhas⟩ := mkServerCfg_defaults T c1 _ _ hmem user uuid cfg' s hs hnick hmk
  obtain ⟨g, hg⟩ := Option.isSome_iff_exists.mp (reloadCfg_has_uid (loadUser fidb user) user uuid)
  have hlook := mkServerCfg_look T (Tables.wf_lower hwf) hnd c1 _ _ hmem user uuid cfg' s hs hnick hmk k ty hkt v hv libCfg hlib d hd g hg
  -- what the next run reads, in the form in which `PersistOk` says what reads as `v`
  have hr := rerun_effective T hwf hnd lookup fidb cfg' hcanon s hs hhas k ty hkt ns2 c2 dr hsrv2 hdry2 htd hk2 h2 v
  have hsaves := saves_viewOf ns1 fidb user uuid s hs k ty v d libCfg lowSave
    (lowOf T lookup (effective c2 "ofxhome".toList) k) g hg
  rw [hv]
  cases hsv : turnSaves (reloadCfg (loadUser fidb user) user uuid) libCfg s k v d g with
  | true =>
    obtain ⟨txt, htxt, hlk⟩ := hlook.1 hsv
    rw [hlk] at hr
    rw [PersistOk_saved (hsaves.trans hsv)]
    exact hr.trans (savedReadsBack_iff htxt).symm
  | false =>
    have hdl : cfg'.look defaultSect k = (reloadCfg (loadUser fidb user) user uuid).look defaultSect k := by
      rw [look_default, look_default, hdef]
    rw [hlook.2 hsv, hdl, ← keptText_viewOf ns1 fidb user uuid s hs k ty v ((libCfg.lookup k).getD d) lowSave
      (lowOf T lookup (effective c2 "ofxhome".toList) k)] at hr
    rw [PersistOk_kept (hsaves.trans hsv)]
    exact hr.trans (keptReads_iff T _).symm

/-- Save, then run again without the option: for every CONFIGURABLE option
    `k` whose value in effect `v` at the saving run (a) is not empty, not the global CLIENTUID and not equal to the
    library default (`WillWrite`: the three tests of `test_cfg_val`) and (b) reads back at value level
    (`typed(strip(arg2config v)) = v`), the next run `ofxget … s --dryrun` that does not give `k` on the command
    line has exactly `v` in effect — for every prior content of ofxget.cfg, every FI database, every OFX Home table,
    every other option.  (`WillWrite` failing is where the known findings live: empty CLI values, `--clientuid` equal
    to the global one.  The second run's `--dryrun` only makes `merge_config` return the merged mapping at once,
    without its "Missing URL" tail, so that its command-line map is `extractns ns2`; it is not about writing.) -/
theorem C18_persist_partial (T : Tables) (hwf : T.WF = true) (hnd : (T.configurable.map (·.1)).Nodup)
    (lookup : Str → Option OhRec) (fidb user : FileC) (c1 : Chain) (uuid : Str) (cfg' : Ini) (s : Str)
    (hs : s ≠ defaultSect) (hnick : serverNick c1 = .ok s)
    (hmk : mkServerCfg T c1 (loadUser fidb user) (loadLib fidb) user uuid = .ok cfg')
    (k : Name) (ty : CfgTy) (hkt : (k, ty) ∈ T.configurable) (v : CfgVal) (hv : effective c1 k = some v)
    (libCfg : Map) (hlib : readConfig T (loadLib fidb) s = .ok libCfg)
    (hw : WillWrite T (reloadCfg (loadUser fidb user) user uuid).defaults libCfg k v)
    (hrb : readsBack T ty v = true)
    (ns2 : Map) (c2 : Chain) (d : CfgVal)
    (hsrv2 : (extractns ns2).lookup "server".toList = some (.str s))
    (hdry2 : (extractns ns2).lookup "dryrun".toList = some d) (htd : truthy d = true)
    (hk2 : (extractns ns2).lookup k = none)
    (h2 : mergeConfig T lookup ns2 (loadUser fidb cfg'.toFile) = .ok c2) :
    effective c2 k = effective c1 k := by
  obtain ⟨d0, hd0, _⟩ := Tables.wf_default hwf k ty hkt
  obtain ⟨g, hg⟩ := Option.isSome_iff_exists.mp (reloadCfg_has_uid (loadUser fidb user) user uuid)
  refine (C18_persist_iff T hwf hnd lookup [] none fidb user c1 uuid cfg' s hs hnick hmk k ty hkt v hv libCfg hlib d0 hd0
    ns2 c2 d hsrv2 hdry2 htd hk2 h2).mpr ?_
  -- `WillWrite`: the option is saved; what is left of `PersistOk` is the value-level guard
  rw [PersistOk_saved ((saves_viewOf [] fidb user uuid s hs k ty v d0 libCfg none _ g hg).trans (hw.turnSaves s hd0 hg))]
  exact hrb

/-- known finding `string-edge-blanks-lost`, as a class: a saved string option with a blank at either end does not
    persist — and a saved string option without one does -/
theorem C18_strEdgeBlank_iff (T : Tables) (w : View) (s : Str) (hsv : saves w = true) (hty : w.ty = .str)
    (hv : w.v = .str s) : PersistOk T w = true ↔ strip s = s := by
  rw [PersistOk_saved hsv, hty, hv]
  exact savedReadsBack_str T s

theorem C18_strEdgeBlank_not_PersistOk (T : Tables) (w : View) (s : Str) (hsv : saves w = true) (hty : w.ty = .str)
    (hv : w.v = .str s) (hblank : strip s ≠ s) : PersistOk T w = false := by
  have := C18_strEdgeBlank_iff T w s hsv hty hv
  cases hp : PersistOk T w with
  | false => rfl
  | true => exact absurd (this.mp hp) hblank

/-- known finding `cli-null-value-not-saved`, as a class: an empty string in effect (`--user ''`) while the files
    hold a non-empty text for the option — the stored text is back on the next run -/
theorem C18_cliNull_not_PersistOk (T : Tables) (w : View) (t : Str) (hty : w.ty = .str) (hv : w.v = .str [])
    (hkept : keptText w = some t) (hne : t ≠ []) : PersistOk T w = false := by
  rw [PersistOk_kept (saves_null w (by rw [hv]; rfl))]
  simp only [keptReads, hkept, hty, typedOfStr, hv]
  simpa using hne

/-- `cli-null-value-not-saved` for an empty account list (`[]`) against any stored text -/
theorem C18_cliNullList_not_PersistOk (T : Tables) (w : View) (t : Str) (hty : w.ty = .list) (hv : w.v = .list [])
    (hkept : keptText w = some t) : PersistOk T w = false := by
  rw [PersistOk_kept (saves_null w (by rw [hv]; rfl))]
  simp only [keptReads, hkept, hty, typedOfStr, hv]
  have : convertList t ≠ [] := by
    intro h
    have := convertList_length t
    rw [h] at this
    simp at this
  simpa using this

/-- known finding `default-section-ignored-for-new-server`, as a class: an empty string value in effect at the
    saving run (the DEFAULT section was not consulted: no section yet), nothing in either server section, and a
    non-empty text in the DEFAULT section — in effect from the next run on -/
theorem C18_defaultSection_not_PersistOk (T : Tables) (w : View) (t : Str) (hty : w.ty = .str) (hv : w.v = .str [])
    (hsect : w.sect = none) (hfi : w.fiSect = none) (hd : w.dflt = some t) (hne : strip t ≠ []) :
    PersistOk T w = false :=
  C18_cliNull_not_PersistOk T w (strip t) hty hv (by simp [keptText, hsect, hfi, hd]) hne

/-- known finding `clientuid-equal-to-global-not-saved`, as a class: `--clientuid` equal to the global one is not
    written, so a different CLIENTUID held by the server's section (of ofxget.cfg, or else of fi.cfg) wins again -/
theorem C18_uidEqualsGlobal_not_PersistOk (T : Tables) (w : View) (g t : Str) (huid : w.isUid = true)
    (hty : w.ty = .str) (hg : w.globalUid = some g) (hv : w.v = .str g)
    (hkept : keptText w = some t) (hne : t ≠ g) : PersistOk T w = false := by
  have hsk : uidSkip w = true := by
    simp only [uidSkip, huid, hg, hv, pyEq, Bool.true_and, beq_self_eq_true]
  have hsv : saves w = false := by simp [saves, hsk]
  rw [PersistOk_kept hsv]
  simp only [keptReads, hkept, hty, typedOfStr, hv]
  simpa using hne

/-- known finding `list-member-characters-lost`, as a class (the `,` part, exact direction): a saved account list
    with a member containing `,` does not persist — the reader splits that member -/
theorem C18_listComma_not_PersistOk (T : Tables) (w : View) (l : List Str) (hsv : saves w = true) (hty : w.ty = .list)
    (hv : w.v = .list l) (hcomma : ∃ m ∈ l, ',' ∈ m) : PersistOk T w = false := by
  rw [PersistOk_saved hsv, hty, hv]
  exact savedReadsBack_list_comma T l hcomma

theorem C18_listClean_PersistOk (T : Tables) (w : View) (l : List Str) (hsv : saves w = true) (hty : w.ty = .list)
    (hv : w.v = .list l) (hne : l ≠ []) (h : ∀ m ∈ l, CleanMember m) : PersistOk T w = true := by
  rw [PersistOk_saved hsv, hty, hv]
  exact savedReadsBack_list T l hne h

theorem savedReadsBack_list_tables (T T' : Tables) (v : CfgVal) :
    savedReadsBack T .list v = savedReadsBack T' .list v := by
  unfold savedReadsBack
  cases arg2config .list v <;> rfl

/-- the other characters of the class, on witnesses: a quote, a backslash, an edge blank, a control character -/
theorem C18_listMember_witnesses (T : Tables) :
    savedReadsBack T .list (.list ["it's".toList]) = false ∧
    savedReadsBack T .list (.list ["a\\b".toList]) = false ∧
    savedReadsBack T .list (.list [" a".toList]) = false ∧
    savedReadsBack T .list (.list ["a\tb".toList]) = false := by
  simp only [savedReadsBack_list_tables T Generated.ofxgetTables]
  refine ⟨?_, ?_, ?_, ?_⟩ <;> decide +kernel

/-- what holds of the view of any run of the real program on typed values (proved of `viewOf` by
    `viewOf_consistent`) -/
structure ViewConsistent (T : Tables) (w : View) : Prop where
  typed : typeOfVal w.v = some w.ty ∨ w.v = .null
  libTyped : typeOfVal w.libDefault = some w.ty
  /-- `clear()` keeps DEFAULT: what fi.cfg's DEFAULT section says is in the re-read configuration's DEFAULT -/
  dfltIncl : w.dflt = none → w.fiDflt = none
  fiLib : ∀ t, w.fiSect = some t → typedOfStr T w.ty t = .ok w.libDefault
  /-- the built-in default is also what ranks lowest at the next run: OFX Home only sets options whose built-in
      default is empty -/
  lowLib : w.fiSect = none → w.fiDflt = none → isNullArg w.libDefault = false → w.low = some w.libDefault
  /-- what the saving run read for an option the command line does not give (the nickname having a section, or the
      DEFAULT section being silent; the DEFAULT-section CLIENTUID not a fresh one) -/
  saveRead : w.cliSet = false → (w.known = true ∨ w.dflt = none) → freshUid w = false →
    match keptText w with
    | some t => typedOfStr T w.ty t = .ok w.v
    | none => w.lowSave = some w.v

theorem skipDefault_PersistOk (T : Tables) (w : View) (hc : ViewConsistent T w) (hnull : isNullArg w.v = false)
    (hp : pyEq w.v w.libDefault = true) (hst : stored w = false) : keptReads T w = true := by
  have hvt : typeOfVal w.v = some w.ty := by
    rcases hc.typed with h | h
    · exact h
    · rw [h] at hnull; cases hnull
  have hveq : w.v = w.libDefault := pyEq_eq_of_typed _ _ _ hvt hc.libTyped hp
  simp only [stored, Bool.or_eq_false_iff, Option.isSome_eq_false_iff, Option.isNone_iff_eq_none] at hst
  have hfd := hc.dfltIncl hst.2
  unfold keptReads keptText
  rw [hst.1, hst.2, hfd]
  cases hfs : w.fiSect with
  | some t =>
    simp only [Option.map_none, Option.none_or, Option.or_none, hc.fiLib t hfs, hveq, beq_self_eq_true]
  | none =>
    simp only [Option.map_none, Option.or_none]
    rw [hc.lowLib hfs hfd (by rw [← hveq]; exact hnull), hveq]
    simp

/-- what an answer of the classifier says about the view: the tests on the way to the one leaf that gives it -/
def lossFacts (T : Tables) (w : View) : Option Loss → Prop
  | none => PersistOk T w = true
  | some .cliNull => PersistOk T w = false ∧ saves w = false ∧ isNullArg w.v = true ∧ w.cliSet = true
  | some .freshGlobalUid =>
    PersistOk T w = false ∧ saves w = false ∧ isNullArg w.v = true ∧ w.cliSet = false ∧ freshUid w = true
  | some .defaultSectionIgnored =>
    PersistOk T w = false ∧ saves w = false ∧ isNullArg w.v = true ∧ w.cliSet = false ∧ w.known = false ∧
      w.dflt.isSome = true
  | some .emptyFollows =>
    PersistOk T w = false ∧ saves w = false ∧ isNullArg w.v = true ∧ w.cliSet = false ∧ w.low ≠ w.lowSave
  | some .uidEqualsGlobal => PersistOk T w = false ∧ saves w = false ∧ isNullArg w.v = false ∧ uidSkip w = true
  | some .strEdgeBlank => PersistOk T w = false ∧ saves w = true ∧ w.ty = .str
  | some .listMember =>
    PersistOk T w = false ∧ saves w = true ∧ w.ty = .list ∧ savedReadsBack T .list w.v = false
  | some .unexpected => PersistOk T w = false ∧
      ((saves w = true ∧ (w.ty = .int ∨ w.ty = .bool) ∧ savedReadsBack T w.ty w.v = false) ∨
       (saves w = false ∧ isNullArg w.v = true ∧ w.cliSet = false ∧ freshUid w = false ∧
          (w.known = true ∨ w.dflt = none) ∧ w.low = w.lowSave) ∨
       (saves w = false ∧ isNullArg w.v = false ∧ uidSkip w = false))

/-- one walk down the decision tree serves all labels: at each test the branch taken is recorded, at each leaf the
    record is what `lossFacts` asks for (`repeat' split` finds the same leaves but is far slower to check) -/
theorem lossClass_facts (T : Tables) (w : View) : lossFacts T w (lossClass T w) := by
  unfold lossClass
  by_cases h1 : PersistOk T w = true
  · rw [if_pos h1]
    exact h1
  have h1' : PersistOk T w = false := Bool.eq_false_iff.mpr h1
  rw [if_neg h1]
  by_cases h2 : saves w = true
  · rw [if_pos h2]
    have h3 : savedReadsBack T w.ty w.v = false := PersistOk_saved h2 ▸ h1'
    cases hty : w.ty with
    | str => exact ⟨h1', h2, hty⟩
    | list => exact ⟨h1', h2, hty, hty ▸ h3⟩
    | int => exact ⟨h1', .inl ⟨h2, .inl hty, h3⟩⟩
    | bool => exact ⟨h1', .inl ⟨h2, .inr hty, h3⟩⟩
  have h2' : saves w = false := Bool.eq_false_iff.mpr h2
  rw [if_neg h2]
  by_cases h3 : isNullArg w.v = true
  · rw [if_pos h3]
    by_cases h4 : w.cliSet = true
    · rw [if_pos h4]
      exact ⟨h1', h2', h3, h4⟩
    have h4' : w.cliSet = false := Bool.eq_false_iff.mpr h4
    rw [if_neg h4]
    by_cases h5 : freshUid w = true
    · rw [if_pos h5]
      exact ⟨h1', h2', h3, h4', h5⟩
    rw [if_neg h5]
    by_cases h6 : (!w.known && w.dflt.isSome) = true
    · rw [if_pos h6]
      simp only [Bool.and_eq_true, Bool.not_eq_true'] at h6
      exact ⟨h1', h2', h3, h4', h6.1, h6.2⟩
    rw [if_neg h6]
    by_cases h7 : (w.low != w.lowSave) = true
    · rw [if_pos h7]
      exact ⟨h1', h2', h3, h4', by simpa using h7⟩
    rw [if_neg h7]
    refine ⟨h1', .inr (.inl ⟨h2', h3, h4', Bool.eq_false_iff.mpr h5, ?_, by simpa using h7⟩)⟩
    cases hk : w.known <;> cases hd : w.dflt <;> simp_all
  rw [if_neg h3]
  by_cases h4 : uidSkip w = true
  · rw [if_pos h4]
    exact ⟨h1', h2', Bool.eq_false_iff.mpr h3, h4⟩
  rw [if_neg h4]
  exact ⟨h1', .inr (.inr ⟨h2', Bool.eq_false_iff.mpr h3, Bool.eq_false_iff.mpr h4⟩)⟩

theorem lossClass_none_iff (T : Tables) (w : View) : lossClass T w = none ↔ PersistOk T w = true := by
  refine ⟨fun h => (h ▸ lossClass_facts T w : lossFacts T w none), fun h => ?_⟩
  unfold lossClass
  rw [if_pos h]

theorem lossClass_listMember (T : Tables) (w : View) (h : lossClass T w = some .listMember) :
    PersistOk T w = false ∧ saves w = true ∧ w.ty = .list ∧ savedReadsBack T .list w.v = false :=
  (h ▸ lossClass_facts T w : lossFacts T w (some .listMember))

/-- Inside the typed domain an option that does not persist is lost in one of the seven
    named ways — the five known findings (`cliNull`, `defaultSectionIgnored`, `uidEqualsGlobal`, `strEdgeBlank`,
    `listMember`), the designed first global CLIENTUID (`freshGlobalUid`), or an empty value whose lower-ranking
    places changed under it (`emptyFollows`) — never otherwise: integers and booleans always read back, and an
    option left out as "equal to the library default" is always back by itself.  Every label of `lossClass` has a
    test of its own; `unexpected` is what passes none: it is excluded here by proof, from `ViewConsistent`, not by
    the shape of the classifier. -/
theorem C18_no_sixth_way (T : Tables) (hb : T.BoolOk = true) (w : View) (hc : ViewConsistent T w) :
    lossClass T w ≠ some .unexpected := by
  intro h
  obtain ⟨hok, hleaf⟩ : lossFacts T w (some .unexpected) := h ▸ lossClass_facts T w
  rcases hleaf with ⟨hsv, hty, hrb⟩ | ⟨hsv, hn, hcs, hfu, hkn, hlo⟩ | ⟨hsv, hn, hu⟩
  · -- a saved integer or boolean always reads back
    have hvt : typeOfVal w.v = some w.ty := hc.typed.resolve_right fun e => by
      rw [saves_null w (by rw [e]; rfl)] at hsv
      cases hsv
    rcases hty with hty | hty <;> rw [hty] at hvt hrb <;> cases hv : w.v <;> rw [hv] at hvt hrb <;>
      first
      | (cases hvt; done)
      | (rw [savedReadsBack_int] at hrb; cases hrb)
      | (rw [savedReadsBack_bool T hb] at hrb; cases hrb)
  · -- an empty value the command line did not give: the next run reads what the saving run read
    have hsr := hc.saveRead hcs hkn hfu
    rw [← hlo] at hsr
    rw [PersistOk_kept hsv, (keptReads_iff T w).mpr hsr] at hok
    cases hok
  · -- left out as equal to the library default: back by itself
    have hsv' := hsv
    simp only [saves, hn, hu, Bool.not_false, Bool.true_and, Bool.or_eq_false_iff, Bool.not_eq_false'] at hsv'
    rw [PersistOk_kept hsv, skipDefault_PersistOk T w hc hn hsv'.1 hsv'.2] at hok
    cases hok

theorem libCfg_lookup (T : Tables) (hnd : (T.configurable.map (·.1)).Nodup) (fidb : FileC) (s : Str)
    (hs : s ≠ defaultSect) (libCfg : Map) (hlib : readConfig T (loadLib fidb) s = .ok libCfg)
    (k : Name) (ty : CfgTy) (hkt : (k, ty) ∈ T.configurable) :
    (∀ t, ((loadLib fidb).sect s).lookup k = some t → ∃ tv, typedOfStr T ty t = .ok tv ∧ libCfg.lookup k = some tv) ∧
    (((loadLib fidb).sect s).lookup k = none → (loadLib fidb).defaults.lookup k = none → libCfg.lookup k = none) ∧
    (∀ tv, libCfg.lookup k = some tv → typeOfVal tv = some ty) := by
  -- `LIBCFG` is `USERCFG` with an empty user file
  have hl := userCfg_lookup T fidb [] s hs libCfg hlib k ty (List.lookup_of_mem_nodup hnd hkt)
  have hS : ((loadLib fidb).sect s).lookup k = fileLookup fidb s k := by
    rw [← loadLib_look, Ini.look, if_neg hs]
  rw [hS, ← look_default, loadLib_look]
  simp only [filesSay, fileHasSection, List.any_nil, Bool.or_false, fileLookup, Option.none_or] at hl
  refine ⟨fun t ht => ?_, fun h1 h2 => ?_, fun tv htv => ?_⟩
  · have hkn : fidb.any (fun sec => sec.1 == s) = true := by
      cases h : fidb.any (fun sec => sec.1 == s) with
      | true => rfl
      | false => rw [fileLookup_no_section fidb s k h] at ht; cases ht
    rw [if_pos hkn, ht] at hl
    exact hl
  · rw [h1, h2, Option.or_none, ite_self] at hl
    exact hl
  · split at hl
    · rw [hl] at htv; cases htv
    · obtain ⟨tv', h1, h2⟩ := hl
      cases h2.symm.trans htv
      exact typedOfStr_type T ty _ _ h1

theorem reloadCfg_default_incl (fidb user : FileC) (uuid : Str) (k : Name)
    (h : (reloadCfg (loadUser fidb user) user uuid).defaults.lookup k = none) :
    (loadLib fidb).defaults.lookup k = none := by
  rw [← look_default, reloadCfg_look, if_pos rfl, loadUser_default] at h
  rw [← look_default, loadLib_look]
  exact (Option.or_eq_none_iff.mp (Option.or_eq_none_iff.mp (Option.or_eq_none_iff.mp h).1).2).2

/-- a successful `serverNick` excludes the "URL given as the server positional" detour of `merge_config`: the
    command-line source is the namespace without its `None` entries -/
theorem saveRun_sources (T : Tables) (hwf : T.WF = true) (lookup : Str → Option OhRec) (ns1 : Map) (cfg : Ini)
    (c1 : Chain) (s : Str) (hnick : serverNick c1 = .ok s) (h1 : mergeConfig T lookup ns1 cfg = .ok c1) :
    ∃ userCfg1, userCfgOf T cfg (extractns ns1) = .ok userCfg1 ∧
      (∀ k, effective c1 k =
        firstSetter [extractns ns1, userCfg1, ohSource lookup [extractns ns1, userCfg1, T.defaults], T.defaults] k) ∧
      effective c1 "ofxhome".toList = Chain.get? [extractns ns1, userCfg1, T.defaults] "ofxhome".toList := by
  obtain ⟨cli, userCfg1, hu1, hcliEq, he1⟩ := mergeConfig_effective T hwf lookup ns1 _ c1 h1
  have hcli' : cli = extractns ns1 := by
    rcases hcliEq with h | ⟨server, _, h⟩
    · exact h
    · exfalso
      have hsn : c1.get? "server".toList = some .null := by
        have := he1 "server".toList
        simp only [effective] at this
        rw [this, h]
        simp [firstSetter, sloppy, lookup_mapSet]
      unfold serverNick at hnick
      rw [hsn] at hnick
      simp [truthy] at hnick
  subst hcli'
  exact ⟨userCfg1, hu1, he1, effective_ofxhome he1⟩

theorem saveRun_reads (T : Tables) (hwf : T.WF = true) (hnd : (T.configurable.map (·.1)).Nodup)
    (lookup : Str → Option OhRec) (fidb user : FileC) (ns1 : Map) (c1 : Chain) (s : Str)
    (hs : s ≠ defaultSect) (hnick : serverNick c1 = .ok s)
    (h1 : mergeConfig T lookup ns1 (loadUser fidb user) = .ok c1)
    (hsrv1 : (extractns ns1).lookup "server".toList = some (.str s))
    (k : Name) (ty : CfgTy) (hkt : (k, ty) ∈ T.configurable) (v : CfgVal) (hv : effective c1 k = some v)
    (hcli : (extractns ns1).lookup k = none)
    (hknown : (fileHasSection fidb s || fileHasSection user s) = true ∨
      (fileLookup user defaultSect k).or (fileLookup fidb defaultSect k) = none) :
    match ((fileLookup user s k).or (fileLookup fidb s k)).or
        ((fileLookup user defaultSect k).or (fileLookup fidb defaultSect k)) with
    | some t => typedOfStr T ty t = .ok v
    | none => lowOf T lookup (effective c1 "ofxhome".toList) k = some v := by
  obtain ⟨userCfg1, hu1, he1, _⟩ := saveRun_sources T hwf lookup ns1 _ c1 s hnick h1
  have hr := (run_reads T lookup ns1 fidb user c1 s hs hsrv1 userCfg1 hu1 he1 k ty
    (List.lookup_of_mem_nodup hnd hkt) hcli v).mp hv
  rw [filesSay] at hr
  by_cases hkn : (fileHasSection fidb s || fileHasSection user s) = true
  · rwa [if_pos hkn] at hr
  · rw [if_neg hkn] at hr
    have hknf := Bool.or_eq_false_iff.mp (Bool.eq_false_iff.mpr hkn)
    rwa [fileLookup_no_section user s k hknf.2, fileLookup_no_section fidb s k hknf.1, hknown.resolve_left hkn]

theorem known_viewOf (fidb user : FileC) (s : Str) (hs : s ≠ defaultSect) :
    (loadUser fidb user).hasSection s = (fileHasSection fidb s || fileHasSection user s) := by
  have := loadUser_contains fidb user s hs
  have hsf : (s == defaultSect) = false := beq_false_of_ne hs
  simpa [Ini.contains, hsf] using this

/-- what the specification's `keptText` reads off the reloaded state is what the two files held before the run, outside
    the two loss classes the hypotheses exclude: a new nickname while DEFAULT sets `k` (`hkn`), and a global CLIENTUID
    drawn in this very run (`hfu`) -/
theorem keptText_eq_filesSay (ns1 : Map) (fidb user : FileC) (uuid s : Str) (hs : s ≠ defaultSect) (k : Name)
    (ty : CfgTy) (v ld : CfgVal) (lowSave low : Option CfgVal)
    (hkn : (loadUser fidb user).hasSection s = true ∨
      (reloadCfg (loadUser fidb user) user uuid).defaults.lookup k = none)
    (hfu : freshUid (viewOf ns1 fidb user uuid s k ty v ld lowSave low) = false) :
    keptText (viewOf ns1 fidb user uuid s k ty v ld lowSave low) = filesSay fidb user s k := by
  have hfu' : ((k == "clientuid".toList) &&
      ((reloadCfg (loadUser fidb user) user uuid).look s k).isNone &&
      ((loadLib fidb).look s k).isNone &&
      ((reloadCfg (loadUser fidb user) user uuid).defaults.lookup k).isSome &&
      ((reloadCfg (loadUser fidb user) user uuid).defaults.lookup k ==
        (reloadCfg (loadUser fidb user) user uuid).defaults.lookup "clientuid".toList)) = false := by
    have := hfu
    simpa only [freshUid, viewOf, Ini.look, hs, if_false] using this
  rw [reloadCfg_look_sect _ user uuid s hs k, loadLib_look] at hfu'
  rw [keptText_viewOf ns1 fidb user uuid s hs k ty v _ _ _, reloadCfg_look_sect _ user uuid s hs k,
    fileLookup_strip, look_default, filesSay, ← known_viewOf fidb user s hs]
  cases hA : (fileLookup user s k).or (fileLookup fidb s k) with
  | some t0 =>
    rw [if_pos]
    · rfl
    · rw [known_viewOf fidb user s hs]
      cases hkk : (fileHasSection fidb s || fileHasSection user s) with
      | true => rfl
      | false =>
        simp only [Bool.or_eq_false_iff] at hkk
        rw [fileLookup_no_section user s k hkk.2, fileLookup_no_section fidb s k hkk.1] at hA
        cases hA
  | none =>
    obtain ⟨hu, hf⟩ := Option.or_eq_none_iff.mp hA
    by_cases hkc : k = "clientuid".toList
    · -- `clientuid` with nothing in a server section: the DEFAULT-section id is the (possibly fresh) global one
      exfalso
      subst hkc
      obtain ⟨g, hl⟩ := Option.isSome_iff_exists.mp (reloadCfg_has_uid (loadUser fidb user) user uuid)
      rw [hu, hf, hl] at hfu'
      simp at hfu'
    · have hD := reloadCfg_look_default fidb user uuid k hkc
      rw [hD] at hkn ⊢
      rw [map_strip_or, fileLookup_strip, fileLookup_strip]
      by_cases hk : (loadUser fidb user).hasSection s = true
      · rw [if_pos hk]
        cases fileLookup user defaultSect k <;> cases fileLookup fidb defaultSect k <;> rfl
      · rw [if_neg hk, hkn.resolve_left hk]
        rw [(Option.or_eq_none_iff.mp (hkn.resolve_left hk)).2]
        rfl

theorem viewOf_saveRead (T : Tables) (hwf : T.WF = true) (hnd : (T.configurable.map (·.1)).Nodup)
    (lookup : Str → Option OhRec) (ns1 : Map) (fidb user : FileC) (c1 : Chain)
    (uuid s : Str) (hs : s ≠ defaultSect) (hnick : serverNick c1 = .ok s)
    (h1 : mergeConfig T lookup ns1 (loadUser fidb user) = .ok c1)
    (hsrv1 : (extractns ns1).lookup "server".toList = some (.str s))
    (k : Name) (ty : CfgTy) (hkt : (k, ty) ∈ T.configurable) (v : CfgVal) (hv : effective c1 k = some v)
    (ld : CfgVal) (low : Option CfgVal)
    (hcs : ((extractns ns1).lookup k).isSome = false)
    (hkn : (loadUser fidb user).hasSection s = true ∨
      (reloadCfg (loadUser fidb user) user uuid).defaults.lookup k = none)
    (hfu : freshUid (viewOf ns1 fidb user uuid s k ty v ld (lowOf T lookup (effective c1 "ofxhome".toList) k) low)
      = false) :
    match keptText (viewOf ns1 fidb user uuid s k ty v ld (lowOf T lookup (effective c1 "ofxhome".toList) k) low) with
    | some t => typedOfStr T ty t = .ok v
    | none => lowOf T lookup (effective c1 "ofxhome".toList) k = some v := by
  obtain ⟨userCfg1, hu1, he1, _⟩ := saveRun_sources T hwf lookup ns1 _ c1 s hnick h1
  have hr := (run_reads T lookup ns1 fidb user c1 s hs hsrv1 userCfg1 hu1 he1 k ty
    (List.lookup_of_mem_nodup hnd hkt) (Option.isNone_iff_eq_none.mp (Option.isSome_eq_false_iff.mp hcs)) v).mp hv
  rwa [← keptText_eq_filesSay ns1 fidb user uuid s hs k ty v ld _ low hkn hfu] at hr

/-- every real run is inside the domain of `C18_no_sixth_way` -/
theorem viewOf_consistent (T : Tables) (hwf : T.WF = true) (hnd : (T.configurable.map (·.1)).Nodup)
    (hoh : T.OhDefaultsEmpty = true) (lookup : Str → Option OhRec) (ns1 : Map) (fidb user : FileC) (c1 : Chain)
    (uuid s : Str) (hs : s ≠ defaultSect) (hnick : serverNick c1 = .ok s)
    (h1 : mergeConfig T lookup ns1 (loadUser fidb user) = .ok c1)
    (hsrv1 : (extractns ns1).lookup "server".toList = some (.str s))
    (k : Name) (ty : CfgTy) (hkt : (k, ty) ∈ T.configurable) (v : CfgVal) (hv : effective c1 k = some v)
    (hvt : typeOfVal v = some ty ∨ v = .null)
    (libCfg : Map) (hlib : readConfig T (loadLib fidb) s = .ok libCfg)
    (d : CfgVal) (hd : T.defaults.lookup k = some d) (id : Option CfgVal) :
    ViewConsistent T (viewOf ns1 fidb user uuid s k ty v ((libCfg.lookup k).getD d)
      (lowOf T lookup (effective c1 "ofxhome".toList) k) (lowOf T lookup id k)) := by
  obtain ⟨hsome, hnone, htyped⟩ := libCfg_lookup T hnd fidb s hs libCfg hlib k ty hkt
  have hdty : typeOfVal d = some ty := by
    obtain ⟨d', hd', h⟩ := Tables.wf_default hwf k ty hkt
    rw [hd] at hd'
    cases hd'
    exact h
  refine ⟨hvt, ?_, ?_, ?_, ?_, ?_⟩
  · show typeOfVal ((libCfg.lookup k).getD d) = some ty
    cases hl : libCfg.lookup k with
    | none => exact hdty
    | some tv => exact htyped tv hl
  · intro h
    exact reloadCfg_default_incl fidb user uuid k h
  · intro t ht
    obtain ⟨tv, h1, h2⟩ := hsome t ht
    show typedOfStr T ty t = .ok ((libCfg.lookup k).getD d)
    rw [h2]
    exact h1
  · intro h1 h2 h3
    have hl : libCfg.lookup k = none := hnone h1 h2
    show lowOf T lookup id k = some ((libCfg.lookup k).getD d)
    have h3' : isNullArg d = false := by
      have : isNullArg ((libCfg.lookup k).getD d) = false := h3
      rw [hl] at this
      exact this
    rw [hl]
    simp only [lowOf, firstSetter, Option.getD_none]
    cases ho : (ohRecord lookup id).lookup k with
    | none => simp only [hd]
    | some x =>
      have hk := ohRecord_lookup_some lookup id k x ho
      have := List.all_eq_true.mp hoh k hk
      simp only [hd] at this
      rw [this] at h3'
      cases h3'
  · exact viewOf_saveRead T hwf hnd lookup ns1 fidb user c1 uuid s hs hnick h1 hsrv1 k ty hkt v hv _ _

/-- **an option the save leaves alone follows nothing but the OFX Home id.**  Saving run `ofxget … s --write` from
    the command line `ns1` on a nickname that already has a section (in ofxget.cfg or fi.cfg) — or a new one while
    the DEFAULT sections say nothing for the option; `k` (not `clientuid`) is CONFIGURABLE, not given on that
    command line and not saved (`saves = false`: empty, or equal to the library
    default with nothing stored).  If the OFX Home id in effect at the next run is the one in effect at the saving
    run, `k` keeps its value.  So the loss class `emptyFollows` only occurs together with a lost `ofxhome`. -/
theorem C18_kept_follows_ofxhome (T : Tables) (hwf : T.WF = true) (hnd : (T.configurable.map (·.1)).Nodup)
    (lookup : Str → Option OhRec) (fidb user : FileC) (ns1 : Map) (c1 : Chain) (uuid : Str) (cfg' : Ini) (s : Str)
    (hs : s ≠ defaultSect) (hnick : serverNick c1 = .ok s)
    (h1 : mergeConfig T lookup ns1 (loadUser fidb user) = .ok c1)
    (hsrv1 : (extractns ns1).lookup "server".toList = some (.str s))
    (hmk : mkServerCfg T c1 (loadUser fidb user) (loadLib fidb) user uuid = .ok cfg')
    (k : Name) (ty : CfgTy) (hkt : (k, ty) ∈ T.configurable) (hkuid : k ≠ "clientuid".toList)
    (hknown : (fileHasSection fidb s || fileHasSection user s) = true ∨
      (fileLookup user defaultSect k).or (fileLookup fidb defaultSect k) = none)
    (v : CfgVal) (hv : effective c1 k = some v)
    (libCfg : Map) (hlib : readConfig T (loadLib fidb) s = .ok libCfg)
    (d : CfgVal) (hd : T.defaults.lookup k = some d)
    (hcli : (extractns ns1).lookup k = none)
    (lowSave low : Option CfgVal)
    (hns : saves (viewOf ns1 fidb user uuid s k ty v ((libCfg.lookup k).getD d) lowSave low) = false)
    (ns2 : Map) (c2 : Chain) (dr : CfgVal)
    (hsrv2 : (extractns ns2).lookup "server".toList = some (.str s))
    (hdry2 : (extractns ns2).lookup "dryrun".toList = some dr) (htd : truthy dr = true)
    (hk2 : (extractns ns2).lookup k = none)
    (h2 : mergeConfig T lookup ns2 (loadUser fidb cfg'.toFile) = .ok c2)
    (hoh : effective c2 "ofxhome".toList = effective c1 "ofxhome".toList) :
    effective c2 k = effective c1 k := by
  rw [C18_persist_iff T hwf hnd lookup ns1 (lowOf T lookup (effective c1 "ofxhome".toList) k) fidb user c1 uuid cfg' s
    hs hnick hmk k ty hkt v hv libCfg hlib d hd ns2 c2 dr hsrv2 hdry2 htd hk2 h2, hoh]
  -- not saved, so the next run reads what the saving run read: the same texts, and below them the same id
  have hsr := viewOf_saveRead T hwf hnd lookup ns1 fidb user c1 uuid s hs hnick h1 hsrv1 k ty hkt v hv
    ((libCfg.lookup k).getD d) (lowOf T lookup (effective c1 "ofxhome".toList) k) (by rw [hcli]; rfl)
    (hknown.imp (fun h => (known_viewOf fidb user s hs).trans h)
      (fun h => (reloadCfg_look_default fidb user uuid k hkuid).trans h))
    (by simp only [freshUid, viewOf, beq_false_of_ne hkuid, Bool.false_and])
  have hns' : saves (viewOf ns1 fidb user uuid s k ty v ((libCfg.lookup k).getD d)
      (lowOf T lookup (effective c1 "ofxhome".toList) k) (lowOf T lookup (effective c1 "ofxhome".toList) k)) = false := hns
  exact (PersistOk_kept hns').trans ((keptReads_iff T _).mpr hsr)

/-- `strEdgeBlank`, for a value of the option's type: it is a string with a blank at either end -/
theorem C18_strEdgeBlank_sound (T : Tables) (w : View) (hvt : typeOfVal w.v = some w.ty ∨ w.v = .null)
    (h : lossClass T w = some .strEdgeBlank) : ∃ s, w.v = .str s ∧ strip s ≠ s := by
  obtain ⟨hp, hsv, hty⟩ : lossFacts T w (some .strEdgeBlank) := h ▸ lossClass_facts T w
  have hnn : isNullArg w.v = false := by
    cases hn : isNullArg w.v with
    | false => rfl
    | true => rw [saves_null w hn] at hsv; cases hsv
  rw [hty] at hvt
  cases hv : w.v with
  | str s =>
    refine ⟨s, rfl, fun hs => ?_⟩
    have := (C18_strEdgeBlank_iff T w s hsv hty hv).mpr hs
    rw [hp] at this; cases this
  | null => rw [hv] at hnn; cases hnn
  | int _ => rw [hv] at hvt; rcases hvt with h | h <;> cases h
  | bool _ => rw [hv] at hvt; rcases hvt with h | h <;> cases h
  | list _ => rw [hv] at hvt; rcases hvt with h | h <;> cases h

/-- **`emptyFollows` means the OFX Home id in effect differs between the two runs** — for the view of a run, whose
    `lowSave` / `low` are what OFX Home (under the id in effect at the saving / at the next run) and DEFAULTS say -/
theorem C18_emptyFollows_sound (T : Tables) (lookup : Str → Option OhRec) (ns1 : Map) (fidb user : FileC)
    (uuid s : Str) (k : Name) (ty : CfgTy) (v ld : CfgVal) (id1 id2 : Option CfgVal)
    (h : lossClass T (viewOf ns1 fidb user uuid s k ty v ld (lowOf T lookup id1 k) (lowOf T lookup id2 k))
      = some .emptyFollows) :
    id2 ≠ id1 ∧ isNullArg v = true ∧ (extractns ns1).lookup k = none := by
  obtain ⟨_, _, hn, hc, hl⟩ : lossFacts T _ (some .emptyFollows) := h ▸ lossClass_facts T _
  refine ⟨fun e => ?_, hn, ?_⟩
  · subst e
    exact hl rfl
  · exact Option.isNone_iff_eq_none.mp (Option.isSome_eq_false_iff.mp hc)

/-- **`cliNull` means the saving command line gave the option, with an empty value** (the value in effect) -/
theorem C18_cliNull_sound (T : Tables) (hwf : T.WF = true) (lookup : Str → Option OhRec) (ns1 : Map)
    (fidb user : FileC) (c1 : Chain) (uuid s : Str) (hnick : serverNick c1 = .ok s)
    (h1 : mergeConfig T lookup ns1 (loadUser fidb user) = .ok c1)
    (k : Name) (ty : CfgTy) (v ld : CfgVal) (hv : effective c1 k = some v) (lowSave low : Option CfgVal)
    (h : lossClass T (viewOf ns1 fidb user uuid s k ty v ld lowSave low) = some .cliNull) :
    (extractns ns1).lookup k = some v ∧ isNullArg v = true := by
  obtain ⟨_, _, hn, hc⟩ : lossFacts T _ (some .cliNull) := h ▸ lossClass_facts T _
  refine ⟨?_, hn⟩
  have hc' : ((extractns ns1).lookup k).isSome = true := hc
  obtain ⟨userCfg1, _, he1, _⟩ := saveRun_sources T hwf lookup ns1 _ c1 s hnick h1
  cases hk : (extractns ns1).lookup k with
  | none => rw [hk] at hc'; cases hc'
  | some x =>
    have := he1 k
    rw [hv] at this
    simp only [firstSetter, hk, Option.some.injEq] at this
    rw [this]

/-- **`defaultSectionIgnored` means the nickname had no section in either file, the command line did not give the
    option, its value in effect was empty, and the DEFAULT section the save re-read holds the option** -/
theorem C18_defaultSectionIgnored_sound (T : Tables) (ns1 : Map) (fidb user : FileC) (uuid s : Str)
    (hs : s ≠ defaultSect) (k : Name) (ty : CfgTy) (v ld : CfgVal) (lowSave low : Option CfgVal)
    (h : lossClass T (viewOf ns1 fidb user uuid s k ty v ld lowSave low) = some .defaultSectionIgnored) :
    (fileHasSection fidb s || fileHasSection user s) = false ∧ (extractns ns1).lookup k = none ∧
      isNullArg v = true ∧ ((reloadCfg (loadUser fidb user) user uuid).defaults.lookup k).isSome = true := by
  obtain ⟨_, _, hn, hc, hk, hd⟩ : lossFacts T _ (some .defaultSectionIgnored) := h ▸ lossClass_facts T _
  refine ⟨?_, ?_, hn, hd⟩
  · rw [← known_viewOf fidb user s hs]; exact hk
  · exact Option.isNone_iff_eq_none.mp (Option.isSome_eq_false_iff.mp hc)

/-- **`freshGlobalUid` means the option is `clientuid`, not given on the command line and empty in effect** (that no
    server section holds it and the DEFAULT section holds the global one is the `freshUid` conjunct of
    `lossFacts`, not restated on the run) -/
theorem C18_freshGlobalUid_sound (T : Tables) (ns1 : Map) (fidb user : FileC) (uuid s : Str)
    (k : Name) (ty : CfgTy) (v ld : CfgVal) (lowSave low : Option CfgVal)
    (h : lossClass T (viewOf ns1 fidb user uuid s k ty v ld lowSave low) = some .freshGlobalUid) :
    k = "clientuid".toList ∧ isNullArg v = true ∧ ((extractns ns1).lookup k).isSome = false := by
  obtain ⟨_, _, hn, hc, hf⟩ : lossFacts T _ (some .freshGlobalUid) := h ▸ lossClass_facts T _
  refine ⟨?_, hn, hc⟩
  simp only [freshUid, viewOf, Bool.and_eq_true, beq_iff_eq] at hf
  exact hf.1.1.1.1

/-- **`uidEqualsGlobal` means the option is `clientuid` and its (non-empty) value in effect equals the global one** -/
theorem C18_uidEqualsGlobal_sound (T : Tables) (ns1 : Map) (fidb user : FileC) (uuid s : Str)
    (k : Name) (ty : CfgTy) (v ld : CfgVal) (lowSave low : Option CfgVal)
    (h : lossClass T (viewOf ns1 fidb user uuid s k ty v ld lowSave low) = some .uidEqualsGlobal) :
    k = "clientuid".toList ∧ isNullArg v = false ∧
      ∃ g, (reloadCfg (loadUser fidb user) user uuid).defaults.lookup "clientuid".toList = some g ∧
        pyEq v (.str g) = true := by
  obtain ⟨_, _, hn, hu⟩ : lossFacts T _ (some .uidEqualsGlobal) := h ▸ lossClass_facts T _
  simp only [uidSkip, viewOf, Bool.and_eq_true, beq_iff_eq] at hu
  refine ⟨hu.1, hn, ?_⟩
  cases hg : (reloadCfg (loadUser fidb user) user uuid).defaults.lookup "clientuid".toList with
  | none => rw [hg] at hu; cases hu.2
  | some g => rw [hg] at hu; exact ⟨g, rfl, hu.2⟩

theorem C18_generated_boolOk : Generated.ofxgetTables.BoolOk = true := Gen.ofxgetTables_boolOk

theorem C18_generated_ohDefaultsEmpty : Generated.ofxgetTables.OhDefaultsEmpty = true := Gen.ofxgetTables_ohDefaultsEmpty

/-- `ofxget` as generated from the source.  For every saving run
    `merge_config(ns1)` that gets through `mk_server_cfg` under a nickname other than `DEFAULT`, every CONFIGURABLE
    option whose value in effect has the option's type (or is `None`), and every next run `ofxget … s --dryrun` that
    does not give the option: the value is the same **iff** `PersistOk` holds of the option's view; when it does not
    hold `lossClass` names the way it is lost, and the label is never `unexpected` — by proof (every label has its own
    test; `cliSet`, `known`, `lowSave` are read off `ns1`, the two files and the saving run, not free);
    `emptyFollows` implies that the OFX Home id in effect differs between the two runs. -/
theorem C18_persist_characterised (lookup : Str → Option OhRec) (ns1 : Map) (fidb user : FileC) (c1 : Chain)
    (uuid : Str) (cfg' : Ini) (s : Str) (hs : s ≠ defaultSect) (hnick : serverNick c1 = .ok s)
    (h1 : mergeConfig Generated.ofxgetTables lookup ns1 (loadUser fidb user) = .ok c1)
    (hsrv1 : (extractns ns1).lookup "server".toList = some (.str s))
    (hmk : mkServerCfg Generated.ofxgetTables c1 (loadUser fidb user) (loadLib fidb) user uuid = .ok cfg')
    (k : Name) (ty : CfgTy) (hkt : (k, ty) ∈ Generated.ofxgetTables.configurable) (v : CfgVal)
    (hv : effective c1 k = some v) (hvt : typeOfVal v = some ty ∨ v = .null)
    (libCfg : Map) (hlib : readConfig Generated.ofxgetTables (loadLib fidb) s = .ok libCfg)
    (d : CfgVal) (hd : Generated.ofxgetTables.defaults.lookup k = some d)
    (ns2 : Map) (c2 : Chain) (dr : CfgVal)
    (hsrv2 : (extractns ns2).lookup "server".toList = some (.str s))
    (hdry2 : (extractns ns2).lookup "dryrun".toList = some dr) (htd : truthy dr = true)
    (hk2 : (extractns ns2).lookup k = none)
    (h2 : mergeConfig Generated.ofxgetTables lookup ns2 (loadUser fidb cfg'.toFile) = .ok c2) :
    let w := viewOf ns1 fidb user uuid s k ty v ((libCfg.lookup k).getD d)
      (lowOf Generated.ofxgetTables lookup (effective c1 "ofxhome".toList) k)
      (lowOf Generated.ofxgetTables lookup (effective c2 "ofxhome".toList) k)
    (effective c2 k = effective c1 k ↔ PersistOk Generated.ofxgetTables w = true) ∧
    (effective c2 k = effective c1 k ↔ lossClass Generated.ofxgetTables w = none) ∧
    lossClass Generated.ofxgetTables w ≠ some .unexpected ∧
    (lossClass Generated.ofxgetTables w = some .emptyFollows →
      effective c2 "ofxhome".toList ≠ effective c1 "ofxhome".toList) := by
  intro w
  have hiff := C18_persist_iff Generated.ofxgetTables Gen.ofxgetTables_wf Gen.configurable_nodup lookup ns1
    (lowOf Generated.ofxgetTables lookup (effective c1 "ofxhome".toList) k) fidb user c1 uuid
    cfg' s hs hnick hmk k ty hkt v hv libCfg hlib d hd ns2 c2 dr hsrv2 hdry2 htd hk2 h2
  have hcons := viewOf_consistent Generated.ofxgetTables Gen.ofxgetTables_wf Gen.configurable_nodup
    C18_generated_ohDefaultsEmpty lookup ns1 fidb user c1 uuid s hs hnick h1 hsrv1 k ty hkt v hv hvt libCfg hlib d hd
    (effective c2 "ofxhome".toList)
  refine ⟨hiff, ?_, C18_no_sixth_way _ C18_generated_boolOk w hcons, fun h => ?_⟩
  · rw [hiff, lossClass_none_iff]
  · exact (C18_emptyFollows_sound _ lookup ns1 fidb user uuid s k ty v _ _ _ h).1

/-- the hypothesis `hd` of `C18_persist_iff` can always be met (`Tables.WF`) -/
theorem configurable_has_default (T : Tables) (hwf : T.WF = true) (k : Name) (ty : CfgTy)
    (hkt : (k, ty) ∈ T.configurable) : ∃ d, T.defaults.lookup k = some d :=
  (Tables.wf_default hwf k ty hkt).imp fun _ h => h.1

/-- the hypothesis `hlib` of `C18_persist_iff` can always be met -/
theorem mkServerCfg_libCfg (T : Tables) (args : Chain) (mem lib : Ini) (disk : FileC) (uuid : Str) (cfg' : Ini)
    (s : Str) (hnick : serverNick args = .ok s) (h : mkServerCfg T args mem lib disk uuid = .ok cfg') :
    ∃ libCfg, readConfig T lib s = .ok libCfg := by
  obtain ⟨s', libCfg, hs', hlib, _⟩ := mkServerCfg_ok h
  cases hnick.symm.trans hs'
  exact ⟨libCfg, hlib⟩

/-- the domain of `C18_persist_iff` is inhabited: `ofxget stmt srv1 --write --url https://h/ --version 102` on empty
    files gets through `merge_config` and `mk_server_cfg` under the nickname `srv1`, and the next run
    `ofxget stmt srv1 --dryrun` gets through `merge_config` (and has 102 in effect) -/
example :
    (match mergeConfig Generated.ofxgetTables (fun _ => none)
        (nsWrite [("url".toList, .str "https://h/".toList), ("version".toList, .int 102)]) (loadUser [] []) with
     | .ok c1 =>
       (match serverNick c1, mkServerCfg Generated.ofxgetTables c1 (loadUser [] []) (loadLib []) [] "U".toList with
        | .ok s, .ok cfg' =>
          s == "srv1".toList &&
          (match mergeConfig Generated.ofxgetTables (fun _ => none) (probeNs (.str s)) (loadUser [] cfg'.toFile) with
           | .ok c2 => effective c2 "version".toList == some (.int 102)
           | .error _ => false)
        | _, _ => false)
     | .error _ => false) = true := by decide +kernel

/-- `C18_persist_iff` feeds `PersistOk` with `low`, which depends on the OFX
    Home id in effect at the NEXT run.  In two steps everything is decided from the saving run and its environment:
    (1) for the option `ofxhome` itself `low` does not depend on any id (an OFX Home record never sets `ofxhome`), so
    "`ofxhome` persists" is `PersistOk` of a view computed from the saving run only;
    (2) if it holds, then for every CONFIGURABLE option the iff holds with `low` computed from the id in effect at
    the SAVING run. -/
theorem C18_persist_iff_from_first_run (T : Tables) (hwf : T.WF = true) (hnd : (T.configurable.map (·.1)).Nodup)
    (lookup : Str → Option OhRec) (ns1 : Map) (fidb user : FileC) (c1 : Chain) (uuid : Str) (cfg' : Ini) (s : Str)
    (hs : s ≠ defaultSect) (hnick : serverNick c1 = .ok s)
    (hmk : mkServerCfg T c1 (loadUser fidb user) (loadLib fidb) user uuid = .ok cfg')
    (libCfg : Map) (hlib : readConfig T (loadLib fidb) s = .ok libCfg)
    (tyO : CfgTy) (hktO : ("ofxhome".toList, tyO) ∈ T.configurable) (vO : CfgVal)
    (hvO : effective c1 "ofxhome".toList = some vO) (dO : CfgVal) (hdO : T.defaults.lookup "ofxhome".toList = some dO)
    (ns2 : Map) (c2 : Chain) (dr : CfgVal)
    (hsrv2 : (extractns ns2).lookup "server".toList = some (.str s))
    (hdry2 : (extractns ns2).lookup "dryrun".toList = some dr) (htd : truthy dr = true)
    (hkO2 : (extractns ns2).lookup "ofxhome".toList = none)
    (h2 : mergeConfig T lookup ns2 (loadUser fidb cfg'.toFile) = .ok c2) :
    let wO := viewOf ns1 fidb user uuid s "ofxhome".toList tyO vO ((libCfg.lookup "ofxhome".toList).getD dO)
      (some dO) (some dO)
    (effective c2 "ofxhome".toList = effective c1 "ofxhome".toList ↔ PersistOk T wO = true) ∧
    (PersistOk T wO = true →
      ∀ (k : Name) (ty : CfgTy), (k, ty) ∈ T.configurable → ∀ v, effective c1 k = some v →
        ∀ d, T.defaults.lookup k = some d → (extractns ns2).lookup k = none →
        (effective c2 k = effective c1 k ↔
          PersistOk T (viewOf ns1 fidb user uuid s k ty v ((libCfg.lookup k).getD d)
            (lowOf T lookup (effective c1 "ofxhome".toList) k)
            (lowOf T lookup (effective c1 "ofxhome".toList) k)) = true)) := by
  intro wO
  have hO := C18_persist_iff T hwf hnd lookup ns1 (some dO) fidb user c1 uuid cfg' s hs hnick hmk
    "ofxhome".toList tyO hktO vO hvO libCfg hlib dO hdO ns2 c2 dr hsrv2 hdry2 htd hkO2 h2
  rw [lowOf_ofxhome, hdO] at hO
  refine ⟨hO, fun hp k ty hkt v hv d hd hk2 => ?_⟩
  have hoh := hO.mpr hp
  have := C18_persist_iff T hwf hnd lookup ns1 (lowOf T lookup (effective c1 "ofxhome".toList) k) fidb user c1 uuid
    cfg' s hs hnick hmk k ty hkt v hv libCfg hlib d hd ns2 c2 dr hsrv2 hdry2 htd hk2 h2
  rw [hoh] at this
  exact this

private abbrev GT := Generated.ofxgetTables

/-- `cli-null-value-not-saved`: `--user ''` while ofxget.cfg holds `user = bob` -/
theorem C18_witness_cliNull :
    lossClass GT (viewOf [("user".toList, .str [])] [] [("srv1".toList, [("user".toList, "bob".toList)])]
      "U".toList "srv1".toList "user".toList .str (.str []) (.str []) (some (.str [])) (some (.str [])))
      = some .cliNull := by decide +kernel

/-- the same view with the option NOT on the command line is not the view of any run (an empty `user` cannot be in
    effect while the section says `bob`): it passes no label's test and is `unexpected` — no finding's label serves
    as a catch-all -/
theorem C18_witness_not_a_run :
    lossClass GT (viewOf [] [] [("srv1".toList, [("user".toList, "bob".toList)])]
      "U".toList "srv1".toList "user".toList .str (.str []) (.str []) (some (.str [])) (some (.str [])))
      = some .unexpected := by decide +kernel

/-- `list-member-characters-lost`: `--checking a,b` -/
theorem C18_witness_listMember :
    lossClass GT (viewOf [("checking".toList, .list ["a,b".toList])] [] [] "U".toList "srv1".toList
      "checking".toList .list (.list ["a,b".toList]) (.list []) (some (.list [])) (some (.list [])))
      = some .listMember := by decide +kernel

/-- `string-edge-blanks-lost`: `--user ' bob'` -/
theorem C18_witness_strEdgeBlank :
    lossClass GT (viewOf [("user".toList, .str " bob".toList)] [] [] "U".toList "srv1".toList "user".toList .str
      (.str " bob".toList) (.str []) (some (.str [])) (some (.str []))) = some .strEdgeBlank := by decide +kernel

/-- `clientuid-equal-to-global-not-saved`: `--clientuid G`, DEFAULT holds `G`, the server's section `S` -/
theorem C18_witness_uidEqualsGlobal :
    lossClass GT (viewOf [("clientuid".toList, .str "G".toList)] []
      [("DEFAULT".toList, [("clientuid".toList, "G".toList)]),
        ("srv1".toList, [("clientuid".toList, "S".toList)])] "U".toList "srv1".toList "clientuid".toList .str
      (.str "G".toList) (.str []) (some (.str [])) (some (.str []))) = some .uidEqualsGlobal := by decide +kernel

/-- `default-section-ignored-for-new-server`: DEFAULT holds `bankid = 123`, the nickname is new -/
theorem C18_witness_defaultSectionIgnored :
    lossClass GT (viewOf [] []
      [("DEFAULT".toList, [("clientuid".toList, "G".toList), ("bankid".toList, "123".toList)])]
      "U".toList "new".toList "bankid".toList .str (.str []) (.str []) (some (.str [])) (some (.str [])))
      = some .defaultSectionIgnored := by decide +kernel

/-- `emptyFollows`: `org` empty at the saving run (no OFX Home id in effect), an OFX Home record says `ORG` at the
    next run -/
theorem C18_witness_emptyFollows :
    lossClass GT (viewOf [] [] [("srv1".toList, [])] "U".toList "srv1".toList "org".toList .str (.str []) (.str [])
      (some (.str [])) (some (.str "ORG".toList))) = some .emptyFollows := by decide +kernel

/-- and a plain saved value persists: `--version 102` -/
theorem C18_witness_ok :
    lossClass GT (viewOf [("version".toList, .int 102)] [] [] "U".toList "srv1".toList "version".toList .int
      (.int 102) (.int 203) (some (.int 203)) (some (.int 203))) = none := by decide +kernel

/-- the hypotheses of `C18_kept_follows_ofxhome` hold together: `ofxget stmt srv1 --write --url https://h/
    --version 102` on an ofxget.cfg that has the section, `k = user` (empty, not given, not saved), next run
    `ofxget stmt srv1 --dryrun` -/
theorem C18_kept_follows_ofxhome_witness :
    (match mergeConfig GT (fun _ => none)
        (nsWrite [("url".toList, .str "https://h/".toList), ("version".toList, .int 102)])
        (loadUser [] [("srv1".toList, [])]) with
     | .ok c1 =>
       (match serverNick c1,
          mkServerCfg GT c1 (loadUser [] [("srv1".toList, [])]) (loadLib []) [("srv1".toList, [])] "U".toList,
          readConfig GT (loadLib []) "srv1".toList, effective c1 "user".toList, GT.defaults.lookup "user".toList with
        | .ok s, .ok cfg', .ok libCfg, some v, some d =>
          s == "srv1".toList && (fileHasSection [] s || fileHasSection [("srv1".toList, [])] s) &&
          GT.configurable.contains ("user".toList, .str) &&
          ((extractns (nsWrite [("url".toList, .str "https://h/".toList), ("version".toList, .int 102)])).lookup
            "user".toList).isNone &&
          !saves (viewOf (nsWrite [("url".toList, .str "https://h/".toList), ("version".toList, .int 102)]) []
            [("srv1".toList, [])] "U".toList s "user".toList .str v ((libCfg.lookup "user".toList).getD d) none none) &&
          (match mergeConfig GT (fun _ => none) (probeNs (.str s)) (loadUser [] cfg'.toFile) with
           | .ok c2 =>
             ((extractns (probeNs (.str s))).lookup "user".toList).isNone &&
             (effective c2 "ofxhome".toList == effective c1 "ofxhome".toList) &&
             (effective c2 "user".toList == effective c1 "user".toList)
           | .error _ => false)
        | _, _, _, _, _ => false)
     | .error _ => false) = true := by decide +kernel

end Ofx.Ofxget
