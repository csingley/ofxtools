/-
C17 — parsing, converting and writing are pure, repeatable and safe to run in threads.

In the model the pipeline operations (`Pipeline.writeFile`, `readFile`, `parseFile`, `Agg.fromEtree`,
`Agg.toEtree`, `Builder.parse`, `Types.conv`) are functions: "the same input gives an equal result" holds of them
by construction and is not restated here.  What the theorems below decide is the part of the code that is *not*
a function: the process-wide dispatch tables of `DateTime.unconvert` / `Time.unconvert` (rewritten at run time
by `DateTime.normalize_to_gmt`), their dispatch caches, and the per-instance dicts, modelled in
`OfxModel/Ofx/Registry.lean`.

PARTIAL.  Assumptions the model cannot discharge (they are exercised, not proved, by harness/corr/C17.py):
(1) the five dict operations — `registry[cls] = f`, `dispatch_cache.popitem()`, `dispatch_cache[cls]`, `registry[cls]` /
    `_find_impl`, `dispatch_cache[cls] = impl`: the constructors of `Pc` other than `idle` — are atomic (CPython: one
    C-level call each under the GIL; a free-threaded build or a pure-Python dict would void it); (2) there is no shared mutable state beyond what `Registry` lists (the harness
    snapshots module globals, class dicts, converter attributes and all 15 registries before/after);
(3) `_find_impl` is modelled for concrete classes (no ABC registered, so `cache_token` stays `None`).
-/
import OfxModel.Ofx.Pipeline
import OfxProofs.Lemmas.Registry

namespace Ofx.Registry
open Ofx Ofx.DateTime Ofx.Spec.Purity

/-- states reachable from the import state by uninterrupted operations -/
inductive Reachable (tzs : List (Str × Int)) : Registry → Prop
  | init : Reachable tzs init
  | step {R : Registry} (op : Op) : Reachable tzs R → Reachable tzs (stepOp tzs R op).1

theorem Reachable.inv {tzs : List (Str × Int)} {R : Registry} (h : Reachable tzs R) : Inv R := by
  induction h with
  | init => exact inv_init
  | step op _ ih => exact stepOp_inv tzs ih op

/-- Every registry reachable by any history of conversions dispatches every value, for every converter
    instance, observationally like the import-time registry. -/
theorem C17_registry_inert (tzs : List (Str × Int)) {R : Registry} (h : Reachable tzs R) : R ≈ init :=
  h.inv.obsEq

/-- … and `unconvert` in such a state *is* the function of the pure model (`dtUnconvert` / `tmUnconvert`). -/
theorem C17_dispatch_is_pure (tzs : List (Str × Int)) {R : Registry} (h : Reachable tzs R) (obj : ConvInst) (v : Val) :
    R.unconvert obj v = unconvRes obj v :=
  h.inv.unconvert obj v

theorem C17_registry_inert_history (tzs : List (Str × Int)) (ops : List Op) : (runOps tzs init ops).1 ≈ init :=
  (runOps_inv tzs inv_init ops).obsEq

/-- the handler registered at run time differs from the import-time one (so `≈` is not `=`): guard witness -/
example : (stepOp [] init (.convert ⟨7, false, true⟩ (.str "20200101".toList))).1.dt.registry.lookup .datetime
    = some ⟨.dtDatetime, some ⟨7, false, true⟩⟩ := by decide +kernel

/-- The decidable check `inertB` — the one the driver evaluates on the model state and whose Python twin the
    harness evaluates on the real `dispatcher.registry` / `dispatch_cache` — is sound for `≈`. -/
theorem C17_inertB_sound {R : Registry} (h : inertB R = true) : R ≈ init := (inertB_inv h).obsEq

/-- every accepted date-time text re-registers: the run-time write happens on the main path, not a corner -/
theorem C17_accepted_text_registers (tzs : List (Str × Int)) (obj : ConvInst) (s : Str) (v : Val)
    (ht : obj.time = false) (h : convRes tzs obj (.str s) = .ok v) : registers tzs obj (.str s) = true := by
  simp only [convRes, ht, Bool.false_eq_true, if_false, dtConvertWith] at h
  simp only [registers, ht, Bool.not_false, Bool.true_and]
  exact dtRegisters_of_ok tzs s v h

/-- For every history `ops` and every operation `x` whose value does not depend on the heap (`pureOp`: the
    conversions, and `setAttr`): running `ops` and then `x` gives the result of `x` alone. -/
theorem C17_history_free (tzs : List (Str × Int)) (ops : List Op) (x : Op) (r : PyM Val)
    (hx : pureOp tzs x = some r) :
    (stepOp tzs (runOps tzs init ops).1 x).2 = r ∧ (stepOp tzs init x).2 = r :=
  ⟨stepOp_pure tzs (runOps_inv tzs inv_init ops) hx, stepOp_pure tzs inv_init hx⟩

/-- a history that does not write instance `o` leaves every attribute of `o` as it was (values are stored on the
    instance — `obj.__dict__` — never on the shared descriptor) -/
theorem C17_inputs_intact_instances (tzs : List (Str × Int)) (R : Registry) (ops : List Op) (o : Nat) (n : Str)
    (h : ∀ op ∈ ops, Op.writes? op ≠ some o) : (runOps tzs R ops).1.heap.get o n = R.heap.get o n := by
  induction ops generalizing R with
  | nil => rfl
  | cons op ops ih =>
    simp only [runOps]
    rw [ih _ (fun op' h' => h op' (List.mem_cons_of_mem _ h')), stepOp_heap]
    cases op with
    | setAttr o' n' v =>
      have : o' ≠ o := fun e => h (.setAttr o' n' v) (by simp) (by simp [Op.writes?, e])
      exact Heap.get_put_other _ _ _ _ _ _ (fun e => this (Prod.mk.inj e).1.symm)
    | _ => rfl

/-- Whole workloads: a program `p` run after an arbitrary history `ops` (other converters, failing conversions,
    other model instances) returns exactly what it returns when run alone — provided the history did not write
    the model instances `p` works on. -/
theorem C17_history_free_run (tzs : List (Str × Int)) (ops p : List Op)
    (hd : ∀ o, writes ops o → ¬ touches p o) :
    (runOps tzs (runOps tzs init ops).1 p).2 = (runOps tzs init p).2 := by
  refine runOps_congr tzs (runOps_inv tzs inv_init ops) inv_init p ?_
  intro o n ht
  refine C17_inputs_intact_instances tzs init ops o n ?_
  intro op hm hw
  exact hd o ⟨op, hm, hw⟩ ht

/-- repetition: running a program that writes no instance (conversions, attribute reads) twice in a row gives the
    same results both times -/
theorem C17_repeatable (tzs : List (Str × Int)) (ops p : List Op) (hp : ∀ o, ¬ writes p o) :
    (runOps tzs (runOps tzs (runOps tzs init ops).1 p).1 p).2 = (runOps tzs (runOps tzs init ops).1 p).2 := by
  have h1 : Inv (runOps tzs init ops).1 := runOps_inv tzs inv_init ops
  refine runOps_congr tzs (runOps_inv tzs h1 p) h1 p ?_
  intro o n _
  refine C17_inputs_intact_instances tzs _ p o n ?_
  intro op hm hw
  exact hp o ⟨op, hm, hw⟩

/-- results of a program of conversions are the pure model's values, in every state that satisfies the invariant -/
theorem C17_sequential_is_pure (tzs : List (Str × Int)) {R : Registry} (hR : Inv R) (p : List Op) :
    (∀ op ∈ p, (pureOp tzs op).isSome) → (runOps tzs R p).2.map some = p.map (pureOp tzs) := by
  induction p generalizing R with
  | nil => intro _; rfl
  | cons op p ih =>
    intro h
    obtain ⟨r, hr⟩ := Option.isSome_iff_exists.mp (h op (by simp))
    simp only [runOps, List.map_cons, stepOp_pure tzs hR hr, hr,
      ih (stepOp_inv tzs hR op) (fun op' hm => h op' (List.mem_cons_of_mem _ hm))]

/-- For k threads with arbitrary programs, started in the import state, under EVERY schedule of the atomic actions
    (`sched` lists which thread performs its next dict operation; any length, any order, fair or not):
    at every point each thread has returned exactly the results of running the completed part of its own program
    alone from the import state, and at most one operation is in flight.  (That the shared tables stay `≈ init` is
    `C17_registry_inert_threads`.) -/
theorem C17_interleave (tzs : List (Str × Int)) (progs : List (List Op)) (hd : DisjointInstances progs)
    (sched : List Nat) (i : Nat) (T : Thread) (p : List Op)
    (hT : ((Sys.start init progs).run tzs sched).threads[i]? = some T) (hp : progs[i]? = some p) :
    ∃ done cur, p = done ++ cur ++ T.prog ∧ cur.length ≤ 1 ∧ T.out = (runOps tzs init done).2 := by
  obtain ⟨done, cur, h1, h2, h3, _⟩ := ((SysInv.start tzs progs).run hd sched).thr i T p hT hp
  exact ⟨done, cur, h1, pcMatch_length h2, h3⟩

/-- … so a thread that has finished returned the sequential results of its program, -/
theorem C17_interleave_finished (tzs : List (Str × Int)) (progs : List (List Op)) (hd : DisjointInstances progs)
    (sched : List Nat) (i : Nat) (T : Thread) (p : List Op)
    (hT : ((Sys.start init progs).run tzs sched).threads[i]? = some T) (hp : progs[i]? = some p)
    (hf : T.finished = true) : T.out = (runOps tzs init p).2 := by
  obtain ⟨done, cur, h1, h2, h3, _⟩ := ((SysInv.start tzs progs).run hd sched).thr i T p hT hp
  obtain ⟨prog, pc, out⟩ := T
  simp only [Thread.finished, Bool.and_eq_true, List.isEmpty_iff] at hf
  obtain ⟨hprog, hpc⟩ := hf
  subst hprog
  cases pc with
  | idle =>
    simp only [PcMatch] at h2; subst h2
    simp only [List.append_nil] at h1; subst h1
    exact h3
  | _ => simp at hpc

/-- … which for conversions are the pure model's values: concurrency is unobservable. -/
theorem C17_interleave_pure (tzs : List (Str × Int)) (progs : List (List Op)) (hd : DisjointInstances progs)
    (sched : List Nat) (i : Nat) (T : Thread) (p : List Op)
    (hT : ((Sys.start init progs).run tzs sched).threads[i]? = some T) (hp : progs[i]? = some p)
    (hf : T.finished = true) (hc : ∀ op ∈ p, (pureOp tzs op).isSome) :
    T.out.map some = p.map (pureOp tzs) := by
  rw [C17_interleave_finished tzs progs hd sched i T p hT hp hf]
  exact C17_sequential_is_pure tzs inv_init p hc

/-- the shared tables stay observationally initial at every point of every interleaving -/
theorem C17_registry_inert_threads (tzs : List (Str × Int)) (progs : List (List Op)) (hd : DisjointInstances progs)
    (sched : List Nat) : ((Sys.start init progs).run tzs sched).reg ≈ init :=
  ((SysInv.start tzs progs).run hd sched).reg.obsEq

/-- guards are satisfiable: two threads, conversions that register, shared converter, own instances -/
example : DisjointInstances
    [[.convert ⟨0, false, false⟩ (.str "20200101".toList), .setAttr 1 "a".toList (.int 1), .getAttr 1 "a".toList],
     [.unconvert ⟨0, false, false⟩ .none, .setAttr 2 "a".toList (.int 2)]] := by
  intro i j p q hij hp hq o hw ht
  match i, j with
  | 0, 0 => exact hij rfl
  | 1, 1 => exact hij rfl
  | 0, 1 =>
    simp at hp hq; subst hp; subst hq
    obtain ⟨op, hm, ho⟩ := hw; obtain ⟨op', hm', ho'⟩ := ht
    simp at hm hm'
    rcases hm with rfl | rfl | rfl <;> rcases hm' with rfl | rfl <;> simp_all [Op.writes?, Op.obj?] <;> omega
  | 1, 0 =>
    simp at hp hq; subst hp; subst hq
    obtain ⟨op, hm, ho⟩ := hw; obtain ⟨op', hm', ho'⟩ := ht
    simp at hm hm'
    rcases hm with rfl | rfl <;> rcases hm' with rfl | rfl | rfl <;> simp_all [Op.writes?, Op.obj?] <;> omega
  | i + 2, _ => simp at hp
  | 0, j + 2 => simp at hq
  | 1, j + 2 => simp at hq

/-- a schedule in which a stale handler is stored into the cache *after* another thread re-registered and cleared
    it (the race the invariant is about): thread 0 reads the registry, thread 1 converts (write + clear), thread 0
    stores — the cache then holds the old plain function while the registry holds the bound method -/
example :
    let S := (Sys.start init [[.unconvert ⟨0, false, false⟩ (.dt ⟨2020, 1, 1, 0, 0, 0, 0, some utcTz⟩)],
                             [.convert ⟨1, false, true⟩ (.str "20200101".toList)]]).run []
              [0, 0, 0, 1, 1, 1, 0]
    S.reg.dt.cache.lookup .datetime = some ⟨.dtDatetime, none⟩ ∧
    S.reg.dt.registry.lookup .datetime = some ⟨.dtDatetime, some ⟨1, false, true⟩⟩ := by decide +kernel

/-- conversions never write any instance dict -/
theorem C17_inputs_intact_conversions (tzs : List (Str × Int)) (R : Registry) (obj : ConvInst) (v : Val) :
    (stepOp tzs R (.convert obj v)).1.heap = R.heap ∧ (stepOp tzs R (.unconvert obj v)).1.heap = R.heap :=
  ⟨stepOp_heap tzs R _, stepOp_heap tzs R _⟩

/-- a `convert` that does not reach `normalize_to_gmt` (`registers = false`: in particular every `Time` conversion and
    every value that is not a text) leaves the whole shared state as it is -/
theorem C17_inputs_intact_registry (tzs : List (Str × Int)) (R : Registry) (obj : ConvInst) (v : Val)
    (h : registers tzs obj v = false) : (stepOp tzs R (.convert obj v)).1 = R := by
  simp [stepOp, h]

/-- `serialize(prettyprint=True)` indents the tree that `to_etree` has just built — never a tree the caller holds:
    the pretty-printed file is the plain writer applied to `indent (toEtree inst)`. -/
theorem C17_inputs_intact_indent (E : Pipeline.Env) (version : Nat) (old new : Option Str) (close : Bool) (inst : Node) :
    Pipeline.writeFile E version old new true close inst = (do
      let hdr ← Header.makeHeader E.p1 E.p2 (.int version) none old new
      let tree ← Agg.toEtree E.S E.cv inst
      let text ← Serialize.serialize E.htmlEmpty (Header.strHdr hdr) version close false (Serialize.indent tree 0)
      Codec.encode E.cp1252 .utf8 text) := by
  simp only [Pipeline.writeFile, Serialize.serialize, Serialize.serializeBody]
  rfl

end Ofx.Registry
