/-
C09 — date-time and time values mean the instant the OFX notation denotes.

Model: `OfxModel/Ofx/DateTime.lean` (+ `Py/Cal.lean`); specification: `OfxModel/Spec/Instant.lean`.
The model follows /repo HEAD: the sign of `-0.MM` is kept; offset minutes are `\.[0-5][0-9]`; patterns end in `\Z`.
All theorems are about `dtConvertWith tzs` / `tmConvertWith tzs` for *every* zone table `tzs`
(`dtConvert`/`tmConvert` are the instances at the generated `TZS`) and about `dtUnconvert`/`tmUnconvert`.
-/
import OfxProofs.Lemmas.DateTimeRead
import OfxProofs.Lemmas.PyM
import OfxProofs.Defs.ReadBack

namespace Ofx.DateTime
open Ofx Ofx.Cal Ofx.Spec.Instant

/-- CPython's `int()` refuses more than 4300 digits (`sys.get_int_max_str_digits()`); the hours of an offset are
    written with at most that many digits.  (Not an ofxtools matter; `C09_read_full_false` shows it is needed.) -/
def lenOk (p : Parts) : Bool :=
  match p.off with | some o => decide (o.hdigits.length ≤ intMaxStrDigits) | none => true

theorem offsetOf_parts (tzs : List (Str × Int)) {p : Parts} {t : Bool} (hwf : p.wf t = true) (hg : lenOk p = true) :
    offsetOf tzs (p.off.map rawOff) = .ok (offMinutes p.off) := by
  cases ho : p.off with
  | none => rfl
  | some o => exact offsetOf_notation tzs o ((wf_ms_off hwf).2 o ho) (by simpa [lenOk, ho] using hg)

/-- `v` is the UTC value denoting the instant `us` (microseconds) -/
def IsUtcOf (v : Val) (us : Int) : Prop :=
  ∃ r : DT, v = .dt r ∧ dtValid r = true ∧ r.tz = some utc ∧ dtInstantUs r = some us

def IsUtcTimeOf (v : Val) (us : Int) : Prop :=
  ∃ t : TM, v = .tm t ∧ tmValid t = true ∧ t.tz = some utc ∧ tmInstantUs t = some us

theorem utc_eq : utcTz = utc := rfl

theorem dtInstantUs_local (d : DT) (tz : Tz) (hv : dtValid d = true) (htz : d.tz = some tz) :
    dtInstantUs d = some (localUs d - tz.offUs) := by
  obtain ⟨_, _, m1, m2, _, _⟩ := validDate_bounds (dtValid_iff.mp hv).1
  unfold dtInstantUs localUs toUs
  rw [htz, Option.map_some, spec_ordinal_eq _ _ _ ⟨m1, m2⟩]

theorem isUtcOf_fields (f : Fields) (I : Int)
    (v1 : Cal.validDate f.year f.month f.day = true) (v2 : validTime f.hour f.minute f.second f.us = true)
    (v3 : toUs f.year f.month f.day f.hour f.minute f.second f.us = I) :
    IsUtcOf (.dt (dtOfFields f (some utcTz))) I := by
  obtain ⟨a, b, c, e⟩ := validTime_iff.mp v2
  have hv : dtValid (dtOfFields f (some utcTz)) = true :=
    dtValid_iff.mpr ⟨spec_validDate_eq .. ▸ v1, validTod_iff.mpr ⟨a, b, c⟩, e⟩
  exact ⟨_, rfl, hv, rfl, by rw [dtInstantUs_local _ utcTz hv rfl, ← v3]; exact congrArg some (Int.sub_zero _)⟩

theorem readRaw_dt (tzs : List (Str × Int)) (date : Nat × Nat × Nat) (tod : Option (Nat × Nat × Nat)) (ms : Option Nat)
    (b : Option RawOff) (off : Int)
    (ho : offsetOf tzs b = .ok off) (hd : Spec.Instant.validDate date.1 date.2.1 date.2.2 = true)
    (ht : validTod (tod.getD (0, 0, 0)).1 (tod.getD (0, 0, 0)).2.1 (tod.getD (0, 0, 0)).2.2 = true)
    (hms : ∀ x, ms = some x → x < 1000)
    (hrange : minInstant ≤ instantOf date.1 date.2.1 date.2.2 (tod.getD (0, 0, 0)).1 (tod.getD (0, 0, 0)).2.1
        (tod.getD (0, 0, 0)).2.2 (ms.getD 0) off
      ∧ instantOf date.1 date.2.1 date.2.2 (tod.getD (0, 0, 0)).1 (tod.getD (0, 0, 0)).2.1
        (tod.getD (0, 0, 0)).2.2 (ms.getD 0) off < endInstant) :
    ∃ v, readRaw tzs ⟨some date, tod, ms, b⟩ = .ok v
      ∧ IsUtcOf v (1000 * instantOf date.1 date.2.1 date.2.2 (tod.getD (0, 0, 0)).1 (tod.getD (0, 0, 0)).2.1
        (tod.getD (0, 0, 0)).2.2 (ms.getD 0) off) := by
  obtain ⟨y, m, d⟩ := date
  simp only [readRaw, ho, PyM.ok_bind, PyM.pure_eq]
  generalize tod.getD (0, 0, 0) = t at *
  obtain ⟨_, _, m1, m2, _, _⟩ := validDate_bounds hd
  obtain ⟨t1, t2, t3⟩ := validTod_iff.mp ht
  have hmsv := getD_lt ms 1000 (by decide) hms
  obtain ⟨u1, u2⟩ := range_us _ hrange
  rw [← toUs_instant y m d t.1 t.2.1 t.2.2 (ms.getD 0) ⟨m1, m2⟩ off] at u1 u2 ⊢
  obtain ⟨f, hf, v1, v2, v3⟩ := fromUs_spec _ u1 u2
  refine ⟨_, ?_, isUtcOf_fields f _ v1 v2 v3⟩
  have hvd : Cal.validDate y m d = true := spec_validDate_eq .. ▸ hd
  have hvt : validTime t.1 t.2.1 t.2.2 (1000 * ms.getD 0) = true := validTime_iff.mpr ⟨t1, t2, t3, by omega⟩
  simp only [hvd, hvt, Bool.and_self, Bool.not_true, Bool.false_eq_true, if_false, hf, PyM.ok_bind]

/-- Every text of the four date-time notations — `YYYYMMDD`, `YYYYMMDDHHMMSS`, with `.XXX`, with `[offset]` after
    either — with valid fields, offset in [-12:00, +14:00] written as sign? digits+ (`.MM`)? (`:name`)?, any name
    without line feed, denoting an instant within years 1..9999, converts to the UTC value denoting `instantOf`. -/
theorem C09_read (tzs : List (Str × Int)) (required : Bool) (p : Parts)
    (hwf : p.wf false = true) (hg : lenOk p = true)
    (hrange : minInstant ≤ p.instant ∧ p.instant < endInstant) :
    ∃ v, dtConvertWith tzs required (.str p.render) = .ok v ∧ IsUtcOf v (1000 * p.instant) := by
  obtain ⟨hd, ht, hms, _⟩ := (Parts.wf_iff false p).mp hwf
  rw [← rawOf_text, dtConvertWith_str, dtConvertStr_text tzs _ (rawOf_ok hwf)]
  have ho := offsetOf_parts tzs hwf hg
  obtain ⟨date, tod, ms, off⟩ := p
  rcases date with _ | date
  · cases hd
  · rw [instant_date] at hrange ⊢
    refine readRaw_dt tzs date tod ms (off.map rawOff) _ ho hd.2 ?_ hms hrange
    rcases tod with _ | x
    · decide
    · exact ht

/-- `C09_read` for the time notation `HHMMSS[.XXX][[offset]]`, instants modulo 24 h. -/
theorem C09_time_read (tzs : List (Str × Int)) (required : Bool) (p : Parts)
    (hwf : p.wf true = true) (hg : lenOk p = true) :
    ∃ v, tmConvertWith tzs required (.str p.render) = .ok v ∧ IsUtcTimeOf v (1000 * p.instant) := by
  have ho := offsetOf_parts tzs hwf hg
  rw [← rawOf_text, tmConvertWith_str, tmConvertStr_text tzs _ (rawOf_ok hwf)]
  obtain ⟨h, mi, s, ms, off, rfl, ht, hmsv, _⟩ := wf_tm_cases hwf
  obtain ⟨t1, t2, t3⟩ := validTod_iff.mp ht
  have hms := getD_lt ms 1000 (by decide) hmsv
  have hvt : validTime h mi s (1000 * ms.getD 0) = true := validTime_iff.mpr ⟨t1, t2, t3, by omega⟩
  simp only [readRaw, rawOf, ho, Option.getD_some, hvt, PyM.ok_bind, PyM.pure_eq, Bool.not_true,
    Bool.false_eq_true, if_false]
  generalize hT : toUs 1999 6 8 h mi s (1000 * ms.getD 0) - offMinutes off * 60000000 = T
  obtain ⟨c1, c2, c3, c4, c5⟩ := todOfUs_spec T
  refine ⟨_, rfl, _, rfl, tmValid_iff.mpr ⟨validTod_iff.mpr ⟨c1, c2, c3⟩, c4⟩, rfl, ?_⟩
  rw [instant_time]
  unfold toUs at hT
  generalize ymd2ord 1999 6 8 = N at hT
  unfold tmInstantUs todInstantOf utcTz
  simp only [Option.map_some, Option.some.injEq, c5]
  unfold usPerDay
  omega

/-- the hypotheses are satisfiable by non-trivial values: the parts of `20240229235959.999[-3.30:NST]` (rendering
    checked as well) and those of `235959.999[+05.45:a:b]` -/
example : (⟨some (2024, 2, 29), some (23, 59, 59), some 999, some ⟨some true, [3], some 30, some "NST".toList⟩⟩ : Parts).wf false = true
    ∧ lenOk ⟨some (2024, 2, 29), some (23, 59, 59), some 999, some ⟨some true, [3], some 30, some "NST".toList⟩⟩ = true
    ∧ (⟨some (2024, 2, 29), some (23, 59, 59), some 999, some ⟨some true, [3], some 30, some "NST".toList⟩⟩ : Parts).render
        = "20240229235959.999[-3.30:NST]".toList := by decide +kernel
example : (⟨none, some (23, 59, 59), some 999, some ⟨some false, [0, 5], some 45, some "a:b".toList⟩⟩ : Parts).wf true = true
    ∧ lenOk ⟨none, some (23, 59, 59), some 999, some ⟨some false, [0, 5], some 45, some "a:b".toList⟩⟩ = true := by
  decide +kernel

def okIs (r : PyM Val) (v : Val) : Bool := match r with | .ok x => decide (x = v) | .error _ => false
theorem eq_of_okIs {r : PyM Val} {v : Val} (h : okIs r v = true) : r = .ok v := by
  unfold okIs at h
  cases r with
  | error e => simp at h
  | ok x => simp at h; rw [h]
def isErr (r : PyM Val) (e : Err) : Bool := match r with | .ok _ => false | .error x => decide (x = e)
theorem eq_of_isErr {r : PyM Val} {e : Err} (h : isErr r e = true) : r = .error e := by
  unfold isErr at h
  cases r with
  | ok x => simp at h
  | error x => simp at h; rw [h]

/-- the sign of `-0.MM` is kept -/
theorem fixed_negZero : dtConvertWith [] false (.str "20200101120000.000[-0.30]".toList)
    = .ok (.dt ⟨2020, 1, 1, 12, 30, 0, 0, some utcTz⟩) := eq_of_okIs (by decide +kernel)

/-- `[5:30]` is offset +5 with zone name "30" -/
theorem fixed_nameDigits : dtConvertWith [] false (.str "20200101120000[5:30]".toList)
    = .ok (.dt ⟨2020, 1, 1, 7, 0, 0, 0, some utcTz⟩) := eq_of_okIs (by decide +kernel)

/-- `[5x30]`, `[5.75]`, a final line feed: rejected (OFXSpecError) -/
theorem fixed_lenient :
    dtConvertWith [] false (.str "20200101120000[5x30]".toList) = .error .spec
    ∧ dtConvertWith [] false (.str "20200101120000[5.75]".toList) = .error .spec
    ∧ dtConvertWith [] false (.str "20200101\n".toList) = .error .spec
    ∧ tmConvertWith [] false (.str "120000\n".toList) = .error .spec :=
  ⟨eq_of_isErr (by decide +kernel), eq_of_isErr (by decide +kernel), eq_of_isErr (by decide +kernel),
   eq_of_isErr (by decide +kernel)⟩

/-- A naive `datetime` is refused (ValueError) by `convert` and by `unconvert`. -/
theorem C09_naive (tzs : List (Str × Int)) (required : Bool) (d : DT) (h : d.tz = none) :
    dtConvertWith tzs required (.dt d) = .error .value ∧ dtUnconvert required (.dt d) = .error .value := by
  simp [dtConvertWith, dtUnconvert, utcoffset, h]

/-- A naive `time` is refused both ways. -/
theorem C09_time_naive (tzs : List (Str × Int)) (required : Bool) (t : TM) (h : t.tz = none) :
    tmConvertWith tzs required (.tm t) = .error .value ∧ tmUnconvert required (.tm t) = .error .value := by
  simp [tmConvertWith, tmUnconvert, utcoffset, h]

/-- aware values with an admissible `utcoffset()` pass through `convert` unchanged -/
theorem C09_aware_passthrough (tzs : List (Str × Int)) (required : Bool) (d : DT) (tz : Tz)
    (h : d.tz = some tz) (hr : -usPerDay < tz.offUs ∧ tz.offUs < usPerDay) :
    dtConvertWith tzs required (.dt d) = .ok (.dt d) := by
  have : ¬ (tz.offUs ≤ -usPerDay ∨ tz.offUs ≥ usPerDay) := by omega
  simp [dtConvertWith, utcoffset, h, this]

theorem C09_time_aware_passthrough (tzs : List (Str × Int)) (required : Bool) (t : TM) (tz : Tz)
    (h : t.tz = some tz) (hr : -usPerDay < tz.offUs ∧ tz.offUs < usPerDay) :
    tmConvertWith tzs required (.tm t) = .ok (.tm t) := by
  have : ¬ (tz.offUs ≤ -usPerDay ∨ tz.offUs ≥ usPerDay) := by omega
  simp [tmConvertWith, utcoffset, h, this]

/-- `None` passes through unless the element is required (OFXSpecError) -/
theorem C09_none (tzs : List (Str × Int)) (required : Bool) :
    dtConvertWith tzs required .none = (if required then .error .spec else .ok .none)
    ∧ dtUnconvert required .none = (if required then .error .spec else .ok .none)
    ∧ tmConvertWith tzs required .none = (if required then .error .spec else .ok .none)
    ∧ tmUnconvert required .none = (if required then .error .spec else .ok .none) := by
  simp [dtConvertWith, dtUnconvert, tmConvertWith, tmUnconvert, enforceRequired]

/-- values of any other type are refused with TypeError: a `time` by `DateTime`, a `datetime` by `Time`,
    strings by `unconvert`, numbers, decimals, booleans and everything else by all four -/
theorem C09_foreign_types (tzs : List (Str × Int)) (required : Bool) (v : Val) :
    ((∀ s, v ≠ .str s) → (∀ d, v ≠ .dt d) → v ≠ .none → dtConvertWith tzs required v = .error .type)
    ∧ ((∀ d, v ≠ .dt d) → v ≠ .none → dtUnconvert required v = .error .type)
    ∧ ((∀ s, v ≠ .str s) → (∀ t, v ≠ .tm t) → v ≠ .none → tmConvertWith tzs required v = .error .type)
    ∧ ((∀ t, v ≠ .tm t) → v ≠ .none → tmUnconvert required v = .error .type) := by
  cases v <;> simp [dtConvertWith, dtUnconvert, tmConvertWith, tmUnconvert]

/-! Remark on tzinfos whose offset depends on the wall-clock time (zoneinfo zones, PEP-495 classes).  A `DT`/`TM` value
carries the pair `(utcoffset(), tzname())` *of the value itself*; the write theorems below take that pair as input and
state that the written offset and name are exactly it (`p.off = canonOff (tz.offUs / 60000000) tz.name`) while the
date/time fields are those of the value bumped by 500 µs.  Taking `utcoffset()`/`tzname()` from the *bumped* value
instead — which differs in the last 500 µs before a transition, e.g. 2021-11-07 01:59:59.9996 EDT — violates precisely
this statement; the correspondence exercises it with transition tzinfos canonicalised by the original value's pair. -/

/-- An aware, valid datetime whose offset is a whole number of minutes in
    [-12:00, +14:00], whose zone name (if any) has no line feed and whose wall-clock time plus 500 µs lies in years
    1000..9999 is written as the text of the notation `YYYYMMDDHHMMSS.XXX[±h(.mm)?(:name)?]` (structurally: `p.render`
    with a date, a time of day, milliseconds and the canonical offset `canonOff`), and that text denotes the value's
    instant rounded to the nearest millisecond. -/
theorem C09_write (required : Bool) (d : DT) (tz : Tz)
    (hv : dtValid d = true) (htz : d.tz = some tz)
    (hwhole : tz.offUs % 60000000 = 0)
    (hoff : -720 ≤ tz.offUs / 60000000 ∧ tz.offUs / 60000000 ≤ 840)
    (hname : ∀ n, tz.name = some n → '\n' ∉ n)
    (hyear : us1000 ≤ localUs d + 500 ∧ localUs d + 500 < usEnd) :
    ∃ (p : Parts) (us : Int), dtInstantUs d = some us
      ∧ dtUnconvert required (.dt d) = .ok (.str p.render)
      ∧ p.wf false = true
      ∧ p.date.isSome = true ∧ p.tod.isSome = true ∧ p.ms.isSome = true
      ∧ p.off = some (canonOff (tz.offUs / 60000000) tz.name)
      ∧ p.instant = roundMs us := by
  unfold us1000 usEnd at hyear
  have hr : -usPerDay < tz.offUs ∧ tz.offUs < usPerDay := by unfold usPerDay; omega
  obtain ⟨b, hb, v1, v2, v3⟩ := fromUs_spec (localUs d + 500) (by unfold usPerDay; omega)
    (by unfold usPerDay maxOrdinal; omega)
  obtain ⟨y1, y2, m1, m2, d1, d2'⟩ := validDate_iff.mp v1
  obtain ⟨t1, t2, t3, t4⟩ := validTime_iff.mp v2
  have hy1000 : 1000 ≤ b.year := ymd2ord_year_ge _ _ _ y1 ⟨m1, m2⟩ d2' (by unfold toUs at v3; omega)
  have hoffmin := canonOff_minutesEast (tz.offUs / 60000000) tz.name
  refine ⟨⟨some (b.year, b.month, b.day), some (b.hour, b.minute, b.second), some (b.us / 1000),
    some (canonOff (tz.offUs / 60000000) tz.name)⟩, localUs d - tz.offUs, dtInstantUs_local d tz hv htz, ?_, ?_,
    rfl, rfl, rfl, rfl, ?_⟩
  · have hfd : fieldsOfDT d = ⟨d.year, d.month, d.day, d.hour, d.minute, d.second, d.us⟩ := rfl
    simp only [dtUnconvert, htz, utcoffset_some tz hr, PyM.ok_bind, PyM.pure_eq,
      formatDatetime_eq false (fieldsOfDT d) b tz hr (by simpa [localUs, hfd] using hb)]
    simp only [Bool.false_eq_true, if_false, strftimeYmdHMS, strftimeHMS, pyStrNat_year b.year hy1000 (by omega),
      pad2_eq, pad3_eq, formatOffset_eq tz.offUs tz.name, Parts.render]
    simp
  · simp only [Parts.wf, Bool.not_false, Bool.true_and, spec_validDate_eq, v1, validTod, Bool.and_eq_true,
      decide_eq_true_eq]
    exact ⟨⟨⟨⟨t1, t2⟩, t3⟩, by omega⟩, canonOff_wf _ _ hoff hname⟩
  · show instantOf b.year b.month b.day b.hour b.minute b.second (b.us / 1000)
        (canonOff (tz.offUs / 60000000) tz.name).minutesEast = roundMs (localUs d - tz.offUs)
    rw [hoffmin]
    unfold instantOf roundMs
    rw [spec_ordinal_eq _ _ _ ⟨m1, m2⟩]
    unfold toUs at v3
    omega

theorem lenOk_canonOff (p : Parts) (offMin : Int) (name : Option Str) (hp : p.off = some (canonOff offMin name))
    (hh : offMin.natAbs / 60 < 25) : lenOk p = true := by
  simp only [lenOk, hp, decide_eq_true_eq]
  exact Nat.le_trans (natDigits_small _ hh) (by decide)

/-- Under the hypotheses of `C09_write`, if the rounded instant lies in years
    1..9999 (UTC), reading the written text back gives the UTC value denoting the original instant rounded to the
    millisecond (so within 500 µs of the original).  Zones in (−1:00, 0) and zone names beginning with digits are
    included. -/
theorem C09_write_roundtrip (tzs : List (Str × Int)) (required required' : Bool) (d : DT) (tz : Tz)
    (hv : dtValid d = true) (htz : d.tz = some tz)
    (hwhole : tz.offUs % 60000000 = 0)
    (hoff : -720 ≤ tz.offUs / 60000000 ∧ tz.offUs / 60000000 ≤ 840)
    (hname : ∀ n, tz.name = some n → '\n' ∉ n)
    (hyear : us1000 ≤ localUs d + 500 ∧ localUs d + 500 < usEnd)
    (hutc : minInstant ≤ roundMs (localUs d - tz.offUs) ∧ roundMs (localUs d - tz.offUs) < endInstant) :
    ∃ (text : Str) (v : Val), dtUnconvert required (.dt d) = .ok (.str text)
      ∧ dtConvertWith tzs required' (.str text) = .ok v
      ∧ IsUtcOf v (1000 * roundMs (localUs d - tz.offUs))
      ∧ dtInstantUs d = some (localUs d - tz.offUs) := by
  obtain ⟨p, us, hus, hun, hwf, _, _, _, hpo, hpi⟩ :=
    C09_write required d tz hv htz hwhole hoff hname hyear
  have hus' := dtInstantUs_local d tz hv htz
  rw [hus'] at hus
  injection hus with hus
  subst hus
  have hg := lenOk_canonOff p _ tz.name hpo (by omega)
  rw [← hpi] at hutc
  obtain ⟨v, hc, hi⟩ := C09_read tzs required' p hwf hg hutc
  exact ⟨p.render, v, hun, hc, by rw [← hpi]; exact hi, hus'⟩

/-- the hypotheses of the write theorems are satisfiable, also by the zone −00:30:
    2024-02-29T23:59:59.999500−00:30 "30" (a name beginning with digits) -/
example : dtValid ⟨2024, 2, 29, 23, 59, 59, 999500, some ⟨-1800000000, some "30".toList⟩⟩ = true
    ∧ (-1800000000 : Int) % 60000000 = 0
    ∧ us1000 ≤ localUs ⟨2024, 2, 29, 23, 59, 59, 999500, some ⟨-1800000000, some "30".toList⟩⟩ + 500
    ∧ localUs ⟨2024, 2, 29, 23, 59, 59, 999500, some ⟨-1800000000, some "30".toList⟩⟩ + 500 < usEnd := by
  decide +kernel

/-- noon at −00:30 is written `20200101120000.000[-0.30]` and reads back as 12:30 UTC -/
theorem fixed_write_roundtrip :
    dtUnconvert false (.dt ⟨2020, 1, 1, 12, 0, 0, 0, some ⟨-1800000000, none⟩⟩)
      = .ok (.str "20200101120000.000[-0.30]".toList)
    ∧ dtConvertWith [] false (.str "20200101120000.000[-0.30]".toList)
        = .ok (.dt ⟨2020, 1, 1, 12, 30, 0, 0, some utcTz⟩) :=
  ⟨eq_of_okIs (by decide +kernel), eq_of_okIs (by decide +kernel)⟩

def todUs (t : TM) : Int := ((t.hour * 3600 + t.minute * 60 + t.second : Nat) : Int) * 1000000 + (t.us : Nat)

theorem todUs_lt (t : TM) (h : tmValid t = true) : 0 ≤ todUs t ∧ todUs t < 86400000000 := by
  have := validTod_iff.mp (tmValid_iff.mp h).1
  have := (tmValid_iff.mp h).2
  unfold todUs; omega

theorem todUs_inj (a b : TM) (ha : tmValid a = true) (hb : tmValid b = true) (h : todUs a = todUs b) :
    a.hour = b.hour ∧ a.minute = b.minute ∧ a.second = b.second ∧ a.us = b.us := by
  obtain ⟨ha, _⟩ := tmValid_iff.mp ha
  obtain ⟨hb, _⟩ := tmValid_iff.mp hb
  have := validTod_iff.mp ha
  have := validTod_iff.mp hb
  unfold todUs at h
  refine ⟨?_, ?_, ?_, ?_⟩ <;> omega

theorem tmInstantUs_local (t : TM) (tz : Tz) (htz : t.tz = some tz) :
    tmInstantUs t = some ((todUs t - tz.offUs) % 86400000000) := by
  unfold tmInstantUs todUs
  rw [htz, Option.map_some]

/-- An aware, valid `time` whose offset is a whole number of minutes in
    [-12:00, +14:00] and whose zone name has no line feed is written as `HHMMSS.XXX[±h(.mm)?(:name)?]`, denoting the
    value's instant (mod 24 h) rounded to the nearest millisecond (mod 24 h). -/
theorem C09_time_write (required : Bool) (t : TM) (tz : Tz)
    (hv : tmValid t = true) (htz : t.tz = some tz)
    (hwhole : tz.offUs % 60000000 = 0)
    (hoff : -720 ≤ tz.offUs / 60000000 ∧ tz.offUs / 60000000 ≤ 840)
    (hname : ∀ n, tz.name = some n → '\n' ∉ n) :
    ∃ (p : Parts), tmUnconvert required (.tm t) = .ok (.str p.render)
      ∧ p.wf true = true
      ∧ p.date = none ∧ p.tod.isSome = true ∧ p.ms.isSome = true
      ∧ p.off = some (canonOff (tz.offUs / 60000000) tz.name)
      ∧ p.instant = roundMs ((todUs t - tz.offUs) % 86400000000) % 86400000 := by
  have hr : -usPerDay < tz.offUs ∧ tz.offUs < usPerDay := by unfold usPerDay; omega
  have htod := todUs_lt t hv
  have hN : ymd2ord 1999 6 8 = 729913 := by decide
  have hT : toUs 1999 6 8 t.hour t.minute t.second t.us = 729913 * 86400000000 + todUs t := by
    unfold toUs todUs; rw [hN]; omega
  obtain ⟨b, hb, v1, v2, v3⟩ := fromUs_spec (toUs 1999 6 8 t.hour t.minute t.second t.us + 500)
    (by rw [hT]; unfold usPerDay; omega) (by rw [hT]; unfold usPerDay maxOrdinal; omega)
  obtain ⟨t1, t2, t3, t4⟩ := validTime_iff.mp v2
  have hoffmin := canonOff_minutesEast (tz.offUs / 60000000) tz.name
  refine ⟨⟨none, some (b.hour, b.minute, b.second), some (b.us / 1000),
    some (canonOff (tz.offUs / 60000000) tz.name)⟩, ?_, ?_, rfl, rfl, rfl, rfl, ?_⟩
  · simp only [tmUnconvert, htz, utcoffset_some tz hr, PyM.ok_bind, PyM.pure_eq,
      formatDatetime_eq true ⟨1999, 6, 8, t.hour, t.minute, t.second, t.us⟩ b tz hr hb]
    simp only [if_true, strftimeHMS, pad2_eq, pad3_eq, formatOffset_eq tz.offUs tz.name, Parts.render]
    simp
  · simp only [Parts.wf, Bool.true_and, validTod, Bool.and_eq_true, decide_eq_true_eq]
    exact ⟨⟨⟨⟨t1, t2⟩, t3⟩, by omega⟩, canonOff_wf _ _ hoff hname⟩
  · show todInstantOf b.hour b.minute b.second (b.us / 1000)
        (canonOff (tz.offUs / 60000000) tz.name).minutesEast
      = roundMs ((todUs t - tz.offUs) % 86400000000) % 86400000
    rw [hoffmin]
    unfold todInstantOf roundMs
    rw [hT] at v3
    unfold toUs at v3
    generalize ymd2ord b.year b.month b.day = N at v3
    generalize todUs t = U at *
    omega

/-- Write, then read, under the hypotheses of `C09_time_write`. -/
theorem C09_time_write_roundtrip (tzs : List (Str × Int)) (required required' : Bool) (t : TM) (tz : Tz)
    (hv : tmValid t = true) (htz : t.tz = some tz)
    (hwhole : tz.offUs % 60000000 = 0)
    (hoff : -720 ≤ tz.offUs / 60000000 ∧ tz.offUs / 60000000 ≤ 840)
    (hname : ∀ n, tz.name = some n → '\n' ∉ n) :
    ∃ (text : Str) (v : Val), tmUnconvert required (.tm t) = .ok (.str text)
      ∧ tmConvertWith tzs required' (.str text) = .ok v
      ∧ IsUtcTimeOf v (1000 * (roundMs ((todUs t - tz.offUs) % 86400000000) % 86400000))
      ∧ tmInstantUs t = some ((todUs t - tz.offUs) % 86400000000) := by
  obtain ⟨p, hun, hwf, _, _, _, hpo, hpi⟩ := C09_time_write required t tz hv htz hwhole hoff hname
  have hg := lenOk_canonOff p _ tz.name hpo (by omega)
  obtain ⟨v, hc, hi⟩ := C09_time_read tzs required' p hwf hg
  exact ⟨p.render, v, hun, hc, by rw [← hpi]; exact hi, tmInstantUs_local t tz htz⟩

/-- the hypotheses of the time write theorems are satisfiable: 23:59:59.999500+05:45 "NPT" -/
example : tmValid ⟨23, 59, 59, 999500, some ⟨20700000000, some "NPT".toList⟩⟩ = true
    ∧ (20700000000 : Int) % 60000000 = 0
    ∧ -720 ≤ (20700000000 : Int) / 60000000 ∧ (20700000000 : Int) / 60000000 ≤ 840 := by decide +kernel

/-- The Interactive Brokers form, which the code accepts on purpose although it is outside the notation: a text of the
    notation without offset (but with a time of day) followed by `[h(.MM)?:NAME]` where `h` is a non-empty text over
    `[0-9+-]` that is *not* an integer (typically just `-`) and `NAME` is a key of the zone table. -/
def IsIBForm (tzs : List (Str × Int)) (isTime : Bool) (s : Str) : Prop :=
  ∃ (p : Parts) (hh n : Str) (mm : Option Nat) (z : Int),
    p.wf isTime = true ∧ p.off = none ∧ p.tod.isSome = true
    ∧ hh ≠ [] ∧ (∀ c ∈ hh, isHoursChar c = true) ∧ pyIntSigned hh = none
    ∧ (∀ m, mm = some m → m < 60) ∧ '\n' ∉ n ∧ tzs.lookup n = some z
    ∧ s = p.render ++ '[' :: (hh ++ (minutesText mm ++ (':' :: (n ++ [']']))))

theorem readRaw_ok_inv {tzs : List (Str × Int)} {r : Raw} {v : Val} (h : readRaw tzs r = .ok v) :
    (∃ off, offsetOf tzs r.off = .ok off)
    ∧ (∀ y m d, r.date = some (y, m, d) → Cal.validDate y m d = true)
    ∧ validTime (r.tod.getD (0, 0, 0)).1 (r.tod.getD (0, 0, 0)).2.1 (r.tod.getD (0, 0, 0)).2.2 (1000 * r.ms.getD 0) = true := by
  obtain ⟨off, hoff, h⟩ := PyM.bind_ok h
  refine ⟨⟨off, hoff⟩, ?_⟩
  obtain ⟨date, tod, ms, bo⟩ := r
  rcases date with _ | ⟨y, m, d⟩ <;> simp only at h <;> split at h <;> first | cases h | skip
  all_goals rename_i hv; simp only [Bool.not_eq_true, Bool.not_eq_false', Bool.and_eq_true] at hv
  · exact ⟨nofun, hv⟩
  · exact ⟨fun _ _ _ e => by cases e; exact hv.1, hv.2⟩

theorem notation_or_ib (tzs : List (Str × Int)) (isTime : Bool) (r : Raw) (ok : r.Ok isTime) (v : Val)
    (h : readRaw tzs r = .ok v) : InNotation isTime r.text ∨ IsIBForm tzs isTime r.text := by
  obtain ⟨⟨off, hoff⟩, hvd, hvt⟩ := readRaw_ok_inv h
  obtain ⟨date, tod, ms, bo⟩ := r
  -- everything before the bracket is well formed
  have hhead : ∀ o : Option OffText, (∀ x, o = some x → x.wf = true) → (tod = none → o = none) →
      Parts.wf isTime ⟨date, tod, ms, o⟩ = true := by
    intro o ho hnone
    have hd := ok.date
    have ht := ok.tod
    refine (Parts.wf_iff _ _).mpr ⟨?_, ?_, ok.ms, ho⟩
    · rcases date with _ | ⟨y, m, d⟩
      · exact hd
      · exact ⟨hd.1, spec_validDate_eq .. ▸ hvd y m d rfl⟩
    · rcases tod with _ | ⟨hh, mi, s⟩
      · exact ⟨ht.1, ht.2.1, hnone rfl⟩
      · obtain ⟨t1, t2, t3, _⟩ := validTime_iff.mp hvt
        exact validTod_iff.mpr ⟨t1, t2, t3⟩
  cases bo with
  | none =>
    exact Or.inl ⟨⟨date, tod, ms, none⟩, hhead none nofun (fun _ => rfl), (rawOf_text ⟨date, tod, ms, none⟩).symm⟩
  | some b =>
    have hb := ok.off b rfl
    have htod : tod ≠ none := by
      rintro rfl
      exact absurd ok.tod.2.2 (by simp)
    rcases offsetOf_ok_inv tzs b off hoff with ⟨hv, hp, h1, h2⟩ | ⟨hp, n, z, hn, hz⟩
    · obtain ⟨o, hwf, rfl⟩ := rawOff_notation b hb hv hp ⟨h1, h2⟩
      exact Or.inl ⟨⟨date, tod, ms, some o⟩, hhead (some o) (fun _ hx => Option.some.inj hx ▸ hwf)
        (fun e => absurd e htod), (rawOf_text ⟨date, tod, ms, some o⟩).symm⟩
    · right
      obtain ⟨hh, mm, nm⟩ := b
      simp only at hn hp
      subst hn
      refine ⟨⟨date, tod, ms, none⟩, hh, n, mm, z, hhead none nofun (fun _ => rfl), rfl,
        Option.isSome_iff_ne_none.mpr htod, hb.ne, hb.hours, hp, hb.minutes, hb.name n rfl, hz, ?_⟩
      rw [← rawOf_text]
      simp [rawOf, Raw.text, bracketText, RawOff.tail, nameText]

/-- Every text `DateTime.convert` accepts is in the OFX date-time notation — eight digits forming a
    calendar-valid date; optionally `HHMMSS` with H<24, M<60, S<60; then optionally `.XXX`; then optionally
    `[` sign? digits+ (`.MM` with MM<60)? (`:name` without line feed)? `]` with hours −12 … +14 — or in the Interactive
    Brokers form (`IsIBForm`, accepted by design).  Hence wrong length, letters, month 13, day 0/32, calendar-invalid
    dates, hour 24, minute 60, second 60, a trailing line feed, any other separator than `.` before the offset
    minutes, offset minutes ≥ 60, non-ASCII digits, and odd hour texts such as `5-3` or `+-5` not followed by a name of
    the zone table (they pass the pattern `[0-9-+]+` but fail in `int()`: ValueError; with such a name they are the
    Interactive Brokers form and convert) are all rejected. -/
theorem C09_reject (tzs : List (Str × Int)) (required : Bool) (s : Str) (v : Val)
    (h : dtConvertWith tzs required (.str s) = .ok v) :
    InNotation false s ∨ IsIBForm tzs false s := by
  obtain ⟨r, ok, rfl, hr⟩ := (dtConvertStr_iff tzs s v).mp h
  exact notation_or_ib tzs false r ok v hr

/-- `C09_reject` for `Time.convert` and the time notation. -/
theorem C09_time_reject (tzs : List (Str × Int)) (required : Bool) (s : Str) (v : Val)
    (h : tmConvertWith tzs required (.str s) = .ok v) :
    InNotation true s ∨ IsIBForm tzs true s := by
  obtain ⟨r, ok, rfl, hr⟩ := (tmConvertStr_iff tzs s v).mp h
  exact notation_or_ib tzs true r ok v hr

/-- "accepted ⇒ in the notation", literally.  False only because of the deliberate Interactive Brokers workaround. -/
def C09_reject_full : Prop :=
  ∀ (tzs : List (Str × Int)) (s : Str) (v : Val), dtConvertWith tzs false (.str s) = .ok v → InNotation false s

/-- `20200101120000[-:EST]` is accepted (as 17:00 UTC) although `-` is not an hours value -/
theorem C09_reject_full_false : ¬ C09_reject_full := by
  intro h
  have hacc : dtConvertWith [("EST".toList, -5)] false (.str "20200101120000[-:EST]".toList)
      = .ok (.dt ⟨2020, 1, 1, 17, 0, 0, 0, some utcTz⟩) := eq_of_okIs (by decide +kernel)
  have hin := h _ _ _ hacc
  rw [inNotation_iff] at hin
  revert hin
  decide +kernel

/-- C09_read without the 4300-digit side condition -/
def C09_read_full : Prop :=
  ∀ (tzs : List (Str × Int)) (required : Bool) (p : Parts), p.wf false = true →
    minInstant ≤ p.instant ∧ p.instant < endInstant →
    ∃ v, dtConvertWith tzs required (.str p.render) = .ok v ∧ IsUtcOf v (1000 * p.instant)

def longHoursWitness : Parts :=
  ⟨some (2020, 1, 1), some (12, 0, 0), none, some ⟨none, List.replicate 4300 0 ++ [5], none, none⟩⟩

theorem hoursVal_zeros (n : Nat) (ds : List Nat) : hoursVal (List.replicate n 0 ++ ds) = hoursVal ds :=
  foldl_digits_zeros n ds

theorem offText_zeros (n : Nat) (o : OffText) (h : o.wf = true) :
    OffText.wf ⟨o.sign, List.replicate n 0 ++ o.hdigits, o.minutes, o.name⟩ = true
    ∧ OffText.minutesEast ⟨o.sign, List.replicate n 0 ++ o.hdigits, o.minutes, o.name⟩ = o.minutesEast := by
  simp only [OffText.wf, OffText.minutesEast, hoursVal_zeros] at h ⊢
  have hne : o.hdigits ≠ [] := by
    intro hh; rw [hh] at h; simp at h
  simpa [List.all_replicate, hne] using h

theorem readRaw_hours_refused (tzs : List (Str × Int)) (r : Raw) (b : RawOff) (hb : r.off = some b)
    (hint : pyIntSigned b.hours = none) (hn : b.name = none) : readRaw tzs r = .error .value := by
  simp only [readRaw, hb, offsetOf, hint, hn, Option.none_or, Option.bind_none, PyM.error_bind]

/-- Not evaluated: the text has 4317 characters.  Well-formedness and the instant are those of the offset `[5]`;
    the scanners accept the text by the lemmas for rendered parts, and `int()` refuses 4301 digits. -/
theorem longHoursWitness_rejected :
    longHoursWitness.wf false = true
    ∧ (minInstant ≤ longHoursWitness.instant ∧ longHoursWitness.instant < endInstant)
    ∧ dtConvertWith [] false (.str longHoursWitness.render) = .error .value := by
  have hz := offText_zeros 4300 ⟨none, [5], none, none⟩ (by decide)
  have hwf : longHoursWitness.wf false = true := by
    show ((!false && Spec.Instant.validDate 2020 1 1) && validTod 12 0 0 && true
      && OffText.wf ⟨none, List.replicate 4300 0 ++ [5], none, none⟩) = true
    rw [hz.1]; decide
  refine ⟨hwf, ?_, ?_⟩
  · have hI : longHoursWitness.instant = instantOf 2020 1 1 12 0 0 0
        (OffText.minutesEast ⟨none, List.replicate 4300 0 ++ [5], none, none⟩) := rfl
    rw [hI, hz.2]
    unfold instantOf
    rw [spec_ordinal_eq _ _ _ (by decide)]
    decide
  · have hne : List.replicate 4300 0 ++ [5] ≠ [] := List.append_ne_nil_of_right_ne_nil _ (List.cons_ne_nil _ _)
    have hint : pyIntSigned (hoursText ⟨none, List.replicate 4300 0 ++ [5], none, none⟩) = none := by
      rw [pyIntSigned_hoursText_eq _ hne, if_pos]
      show (List.replicate 4300 0 ++ [5]).length > intMaxStrDigits
      rw [List.length_append, List.length_replicate]; decide
    rw [← rawOf_text, dtConvertWith_str, dtConvertStr_text _ _ (rawOf_ok hwf)]
    exact readRaw_hours_refused [] _ _ rfl hint rfl

theorem C09_read_full_false : ¬ C09_read_full := by
  intro h
  obtain ⟨v, hv, _⟩ := h [] false longHoursWitness longHoursWitness_rejected.1 longHoursWitness_rejected.2.1
  rw [longHoursWitness_rejected.2.2] at hv
  exact absurd hv (by simp)

/-- A date-time text of the notation without offset (with a time of day), followed by `[h:NAME]`
    where `h` is a non-empty text over `[0-9+-]` that is not an integer (Interactive Brokers send `-`) and `NAME` is
    in the zone table with an entry `z` in −12 … 14, converts to the UTC value of the instant read at `z` hours
    east of Greenwich.  (`IsIBForm` also admits a `.MM` part and any `z`; those texts are not covered here.) -/
theorem C09_ib_read (tzs : List (Str × Int)) (required : Bool) (p : Parts) (hh n : Str) (z : Int)
    (hwf : p.wf false = true) (hoff : p.off = none) (htod : p.tod.isSome = true)
    (hne : hh ≠ []) (hall : ∀ c ∈ hh, isHoursChar c = true) (hint : pyIntSigned hh = none)
    (hn : '\n' ∉ n) (hz : tzs.lookup n = some z) (hzr : -12 ≤ z ∧ z ≤ 14)
    (hrange : minInstant ≤ p.instant - z * 3600000 ∧ p.instant - z * 3600000 < endInstant) :
    ∃ v, dtConvertWith tzs required (.str (p.render ++ ibText hh n)) = .ok v
      ∧ IsUtcOf v (1000 * (p.instant - z * 3600000)) := by
  obtain ⟨hd, ht, hms, _⟩ := (Parts.wf_iff false p).mp hwf
  have ok := rawOf_ok hwf
  obtain ⟨date, tod, ms, off⟩ := p
  subst hoff
  obtain ⟨t, rfl⟩ := Option.isSome_iff_exists.mp htod
  rcases date with _ | date
  · cases hd
  · have ok' : Raw.Ok false ⟨some date, some t, ms, some ⟨hh, none, some n⟩⟩ :=
      ⟨ok.date, ok.tod, ok.ms, fun b hb => Option.some.inj hb ▸ ⟨hne, hall, nofun, fun _ h => Option.some.inj h ▸ hn⟩⟩
    have htext : Parts.render ⟨some date, some t, ms, none⟩ ++ ibText hh n
        = Raw.text ⟨some date, some t, ms, some ⟨hh, none, some n⟩⟩ := by
      rw [← rawOf_text]
      simp [rawOf, Raw.text, bracketText, ibText, RawOff.tail, minutesText, nameText]
    have hI : Parts.instant ⟨some date, some t, ms, none⟩ - z * 3600000
        = instantOf date.1 date.2.1 date.2.2 t.1 t.2.1 t.2.2 (ms.getD 0) (60 * z) := by
      show instantOf date.1 date.2.1 date.2.2 t.1 t.2.1 t.2.2 (ms.getD 0) 0 - z * 3600000 = _
      unfold instantOf; omega
    rw [hI] at hrange ⊢
    rw [htext, dtConvertWith_str, dtConvertStr_text tzs _ ok']
    exact readRaw_dt tzs date (some t) ms _ _ (offsetOf_ib tzs hh n z hint hz hzr) hd.2 ht hms hrange

/-- the hypotheses are satisfiable: `20200101120000.000[-:EST]` with the table entry EST ↦ −5 -/
example : ("-".toList ≠ []) ∧ (∀ c ∈ "-".toList, isHoursChar c = true) ∧ pyIntSigned "-".toList = none
    ∧ ([("EST".toList, (-5 : Int))] : List (Str × Int)).lookup "EST".toList = some (-5)
    ∧ (⟨some (2020, 1, 1), some (12, 0, 0), some 0, none⟩ : Parts).render ++ ibText "-".toList "EST".toList
        = "20200101120000.000[-:EST]".toList := by decide +kernel

end Ofx.DateTime
