/-
C16 — shortcuts and flat attribute access agree with the full path; misses are clean.

All theorems are generic in the schema `S` and the property table `P` (no well-formedness premise on either is
needed for direct access, proxying and misses; the shortcut theorems need the table to read spec attributes only,
`bodyOk`, which is part of the generated obligation `Spec.Getattr.propsAgree`).
The model `Getattr.getattr` is tied to Python's `getattr` on real instances by `harness/corr/C16.py`.
-/
import OfxProofs.Lemmas.Getattr

namespace Ofx.C16
open Ofx Ofx.Agg Ofx.Getattr Ofx.Spec.Getattr

/-- a (non-repeated, supported) spec attribute of the instance's own class returns exactly the stored object -/
theorem C16_direct (S : Schema) (P : Props) (ci : Nat) (fields : List (Str × Node)) (items : List Node)
    (name : Str) (c : Cls) (a : Attr) (v : Node)
    (hc : S.cls? ci = some c) (ha : c.attr? name = some a) (hu : a.kind.isUnsupported = false)
    (hv : Agg.lookup name fields = some v) :
    getattr S P (.agg ci fields items) name = .ok (.node v) := by
  have hn := attr?_name c name a ha
  simp [getattr, getattrAt, hc, ha, descr, hu, hn, lookup_fieldSubs, hv, Except.map]

/-- … `None` for an unsupported one, whatever the dict holds -/
theorem C16_direct_unsupported (S : Schema) (P : Props) (ci : Nat) (fields : List (Str × Node)) (items : List Node)
    (name : Str) (c : Cls) (a : Attr)
    (hc : S.cls? ci = some c) (ha : c.attr? name = some a) (hu : a.kind.isUnsupported = true) :
    getattr S P (.agg ci fields items) name = .ok (.node (.val .none)) := by
  simp [getattr, getattrAt, hc, ha, descr, hu, Except.map]

/-- … and KeyError (not AttributeError) when the dict does not hold it: half-built instances, repeated children -/
theorem C16_direct_missing (S : Schema) (P : Props) (ci : Nat) (fields : List (Str × Node)) (items : List Node)
    (name : Str) (c : Cls) (a : Attr)
    (hc : S.cls? ci = some c) (ha : c.attr? name = some a) (hu : a.kind.isUnsupported = false)
    (hv : Agg.lookup name fields = none) :
    getattr S P (.agg ci fields items) name = .error .key := by
  have hn := attr?_name c name a ha
  simp [getattr, getattrAt, hc, ha, descr, hu, hn, lookup_fieldSubs, hv, Except.map]

theorem isList_not_unsupported (k : Kind) (h : k.isList = true) : k.isUnsupported = false := by
  cases k <;> simp_all [Kind.isList, Kind.isUnsupported]

/-- a miss is KeyError exactly when the class has a repeated child of that name -/
theorem getattr_agg_follows (S : Schema) (P : Props) (ci : Nat) (fields : List (Str × Node)) (items : List Node)
    (name : Str) (c : Cls) (hc : S.cls? ci = some c) (hclean : clean S P (.agg ci fields items) name = true)
    (ih : ∀ k v, (k, v) ∈ fields → clean S P v name = true →
      Follows (definers S v name) (valueAt S v · name) (getattr S P v name) (Soft (getattr S P v name))) :
    Follows (definers S (.agg ci fields items) name) (valueAt S (.agg ci fields items) · name)
      (getattr S P (.agg ci fields items) name)
      (getattr S P (.agg ci fields items) name = .error (if (c.attr? name).isSome then .key else .attr)) := by
  obtain ⟨hP, hk, hcf⟩ := (clean_agg hc fields items name).mp hclean
  simp only [definers, hc]
  cases ha : c.attr? name with
  | none =>
    have : getattr S P (.agg ci fields items) name = getattrLoop (fieldSubs S P fields) name c.spec := by
      simp [getattr, getattrAt, hc, ha, hP, lookup_fieldSubs, hk (by simp [definesNL, ha])]
    simpa [this] using getattrLoop_follows S P ci fields items name
      (fun k v hv => ih k v (lookup_mem hv) (hcf _ _ (lookup_mem hv))) c.spec
  | some a =>
    by_cases hl : a.kind.isList = true
    · simpa [hl] using C16_direct_missing S P ci fields items name c a hc ha (isList_not_unsupported _ hl)
        (hk (by simp [definesNL, ha, hl]))
    · simp only [hl]
      intro w hw
      simp only [valueAt, hc, ha] at hw
      by_cases hu : a.kind.isUnsupported = true
      · simp only [hu, if_true, Option.some.injEq] at hw
        exact hw ▸ C16_direct_unsupported S P ci fields items name c a hc ha hu
      · exact C16_direct S P ci fields items name c a w hc ha (by simpa using hu) (by simpa [hu] using hw)

/-- a soft failure (AttributeError or KeyError: what the enclosing `__getattr__` swallows) when nothing at or below `i`
    defines the name, else the object stored at the first definer in depth-first spec order -/
theorem getattr_follows (S : Schema) (P : Props) (name : Str) : ∀ i, clean S P i name = true →
    Follows (definers S i name) (valueAt S i · name) (getattr S P i name) (Soft (getattr S P i name)) := by
  intro i
  induction i using Node.induct with
  | val v => intro _; exact Or.inl (by simp [getattr])
  | agg ci fields items ihf _ =>
    intro hclean
    cases hc : S.cls? ci with
    | none => simp [clean, hc] at hclean
    | some c =>
      refine (getattr_agg_follows S P ci fields items name c hc hclean ihf).mono fun h => ?_
      rw [h]; split <;> simp [Soft]

theorem soft_of_no_definer (S : Schema) (P : Props) (name : Str) (i : Node) (hc : clean S P i name = true)
    (hd : definers S i name = []) : Soft (getattr S P i name) := by
  simpa [hd] using getattr_follows S P name i hc

/-- A name that neither the instance's class, nor any aggregate among its non-repeated descendants, nor a property, nor
    a stray instance attribute defines raises AttributeError, for every state of the instance dictionaries (the empty
    dict of a half-built instance included). -/
theorem C16_miss (S : Schema) (P : Props) (i : Node) (name : Str) (h : undefined S P i name = true) :
    getattr S P i name = .error .attr := by
  cases i with
  | val v => simp [getattr]
  | agg ci fields items =>
    obtain ⟨c, hc, hown, hclean, hdef⟩ := (undefined_agg ..).mp h
    simpa [hdef, hown] using getattr_agg_follows S P ci fields items name c hc hclean
      (fun k v _ => getattr_follows S P name v)

/-- hence `hasattr` answers `False` (it does not raise) -/
theorem C16_miss_hasattr (S : Schema) (P : Props) (i : Node) (name : Str) (h : undefined S P i name = true) :
    hasattr S P i name = .ok false := by
  simp [hasattr, C16_miss S P i name h]

/-- the probe of `copy`/`pickle` on a freshly created instance (empty `__dict__`), for any class -/
theorem C16_probe_empty_dict (S : Schema) (P : Props) (ci : Nat) (items : List Node) (name : Str) (c : Cls)
    (hc : S.cls? ci = some c) (ha : c.attr? name = none) (hp : P.find ci name = none) :
    getattr S P (.agg ci [] items) name = .error .attr := by
  simp [getattr, getattrAt, hc, ha, hp, fieldSubs, Agg.lookup, getattrLoop_empty]

/-- with the sub-aggregate read outside the `try`, the same probe raises KeyError for every class that has a
    sub-aggregate or a repeated aggregate (`Kind.isSub`; a repeated `ListElement` does not count) -/
theorem C16_probe_empty_dict_pinned (name : Str) (c : Cls) (h : ∃ a, a ∈ c.spec ∧ a.kind.isSub = true) :
    getattrLoopPinned [] name c.spec = .error .key :=
  getattrLoopPinned_empty name c.spec h

/-- the probes of the copy protocol, one by one (`copyProbes`: which name is asked on which dict state); the protocol
    as a whole is `OfxModel/Ofx/CopyProto.lean`, proved in `Props/C16Copy` -/
theorem C16_copy_probes (S : Schema) (P : Props) (ci : Nat) (fields : List (Str × Node)) (items : List Node)
    (h : ∀ n e, (n, e) ∈ copyProbes → undefined S P (.agg ci (if e then [] else fields) items) n = true) :
    probesClean S P (.agg ci fields items) = true := by
  simp only [probesClean, List.all_eq_true]
  intro ⟨n, e⟩ hm
  have := C16_miss_hasattr S P _ n (h n e hm)
  simp [this]

/-- the first definer in depth-first spec order (the instance itself first) wins -/
theorem C16_proxy_first (S : Schema) (P : Props) (name : Str) :
    ∀ (i : Node) (p : Path) (ps : List Path) (w : Node), clean S P i name = true →
    definers S i name = p :: ps → valueAt S i p name = some w →
    getattr S P i name = .ok (.node w) := by
  intro i p ps w hclean hdef hw
  exact (follows_cons.mp (hdef ▸ getattr_follows S P name i hclean)) w hw

/-- A name that exactly one aggregate among the instance and its non-repeated descendants defines is
    readable directly on the instance and returns the very value stored there. -/
theorem C16_proxy (S : Schema) (P : Props) (name : Str) (i : Node) (p : Path) (w : Node)
    (hclean : clean S P i name = true) (huniq : definers S i name = [p]) (hw : valueAt S i p name = some w) :
    getattr S P i name = .ok (.node w) :=
  C16_proxy_first S P name i p [] w hclean huniq hw

/-! The shortcut theorems: on an instance whose class reads the named spec attributes directly (`bodyOk`, an obligation on
the generated table closed in `OfxProofs/Gen/Props.lean`), the getter returns exactly what the path walk
`Spec.Getattr.walk` denotes — the very objects stored (a `Node` is the object), list members in document order, each once. -/

theorem readSelf_stored {S : Schema} {P : Props} {c : Cls} {fields : List (Str × Node)} {a : Str} {v : Node}
    (hs : definesStored c a = true) (hv : Agg.lookup a fields = some v) :
    readSelf c (fieldSubs S P fields) a = .ok (v, fun nm => getattr S P v nm) := by
  unfold definesStored at hs
  cases ha : c.attr? a with
  | none => simp [ha] at hs
  | some x =>
    simp only [ha, Bool.and_eq_true, Bool.not_eq_true'] at hs
    have hn := attr?_name c a x ha
    simp [readSelf, ha, descr, hs.2, hn, lookup_fieldSubs, hv]

theorem getattr_direct {S : Schema} (P : Props) {b : Str} {m v : Node} (hd : direct S b m = true)
    (hv : fieldOf b m = some v) : getattr S P m b = .ok (.node v) := by
  cases m with
  | val x => simp [direct] at hd
  | agg mi mf mits =>
    simp only [direct] at hd
    cases hc : S.cls? mi with
    | none => simp [hc] at hd
    | some cm =>
      simp only [hc] at hd
      cases ha : cm.attr? b with
      | none => simp [ha] at hd
      | some ab =>
        simp only [ha, Bool.not_eq_true'] at hd
        exact C16_direct S P mi mf mits b cm ab v hc ha hd (by simpa [fieldOf] using hv)

theorem getattr_of_runBody {S : Schema} {P : Props} {ci : Nat} {fields : List (Str × Node)} {items : List Node}
    {name : Str} {c : Cls} {body : Body} {r : Res}
    (hc : S.cls? ci = some c) (hb : P.find ci name = some body) (hn : c.attr? name = none)
    (hr : runBody S c (fieldSubs S P fields) (itemSubs S P items) body = .ok r) :
    getattr S P (.agg ci fields items) name = .ok r := by
  simp [getattr, getattrAt, hc, hn, hb, hr]

theorem present_some {o : Option Node} {m : Node} (h : present o = some m) : o = some m ∧ notNone m = true := by
  unfold present at h
  split at h
  · cases h
  · subst h
    refine ⟨rfl, ?_⟩
    cases m with
    | val v => cases v <;> simp_all [notNone]
    | agg _ _ _ => rfl

theorem present_some_eq (m : Node) : present (some m) = if notNone m then some m else none := by
  cases m with
  | val v => cases v <;> rfl
  | agg _ _ _ => rfl

theorem bodyOk_iff (c : Cls) (e : PropEntry) : bodyOk c e = true ↔
    (∀ a ∈ selfReads e.body, definesStored c a = true) ∧ c.attr? e.name = none := by
  simp [bodyOk]

/-- `account`, `transactions`, `balance(s)`, `positions`, `statement`, `profile`: the object in that field -/
theorem C16_shortcut_alias (S : Schema) (P : Props) (ci : Nat) (fields : List (Str × Node)) (items : List Node)
    (name a : Str) (c : Cls) (r : Res)
    (hc : S.cls? ci = some c) (hb : P.find ci name = some (.alias a))
    (hok : bodyOk c ⟨ci, name, .alias a⟩ = true)
    (hw : walk S P.find (.alias a) (.agg ci fields items) = some r) :
    getattr S P (.agg ci fields items) name = .ok r := by
  obtain ⟨hs, hn⟩ := (bodyOk_iff _ _).mp hok
  simp only [walk, walk1, fieldOf, Option.map_eq_some_iff] at hw
  obtain ⟨v, hv, rfl⟩ := hw
  apply getattr_of_runBody hc hb hn
  simp [runBody, readSelf_stored (hs a List.mem_cons_self) hv]

/-- `org`, `fid`: the object in field `b` of the aggregate in field `a` -/
theorem C16_shortcut_path (S : Schema) (P : Props) (ci : Nat) (fields : List (Str × Node)) (items : List Node)
    (name a b : Str) (c : Cls) (r : Res)
    (hc : S.cls? ci = some c) (hb : P.find ci name = some (.path a b))
    (hok : bodyOk c ⟨ci, name, .path a b⟩ = true)
    (hd : ∀ m, fieldOf a (.agg ci fields items) = some m → notNone m = true → direct S b m = true)
    (hw : walk S P.find (.path a b) (.agg ci fields items) = some r) :
    getattr S P (.agg ci fields items) name = .ok r := by
  obtain ⟨hs, hn⟩ := (bodyOk_iff _ _).mp hok
  simp only [walk, walk1, Option.map_eq_some_iff, Option.bind_eq_some_iff] at hw
  obtain ⟨v, ⟨m, hm, hv⟩, rfl⟩ := hw
  obtain ⟨hm1, hm2⟩ := present_some hm
  apply getattr_of_runBody hc hb hn
  have hm1' : Agg.lookup a fields = some m := by simpa [fieldOf] using hm1
  simp [runBody, readSelf_stored (hs a List.mem_cons_self) hm1', getattr_direct P (hd m hm1 hm2) hv]

theorem extendLoop_eq (S : Schema) (P : Props) (t : Nat) : ∀ (items : List Node),
    extendLoop S t (itemSubs S P items) = (items.filter (isA S t)).flatMap itemsOf
  | [] => rfl
  | .val v :: r => by simp [itemSubs, extendLoop, isA, extendLoop_eq S P t r]
  | .agg mi f its :: r => by
    by_cases h : isInstance S mi t = true
    · simp [itemSubs, extendLoop, isA, h, itemsOf, extendLoop_eq S P t r]
    · simp [itemSubs, extendLoop, isA, h, extendLoop_eq S P t r]

/-- `SECLISTMSGSRSV1.securities`: the members of every `SECLIST` member, in document order -/
theorem C16_shortcut_extend (S : Schema) (P : Props) (ci : Nat) (fields : List (Str × Node)) (items : List Node)
    (name : Str) (t : Nat) (c : Cls)
    (hc : S.cls? ci = some c) (hb : P.find ci name = some (.extendMembers t)) (hn : c.attr? name = none) :
    getattr S P (.agg ci fields items) name = .ok (.list ((items.filter (isA S t)).flatMap itemsOf)) := by
  apply getattr_of_runBody hc hb hn
  simp [runBody, extendLoop_eq]

theorem firstBranch_find (S : Schema) (mi : Nat) : ∀ (br : List (Nat × Str)),
    firstBranch S mi br = (br.find? (fun b => isInstance S mi b.1)).map (·.2)
  | [] => rfl
  | (t, a) :: r => by
    by_cases h : isInstance S mi t = true
    · simp [firstBranch, h]
    · simp [firstBranch, h, firstBranch_find S mi r]

theorem staple_eq (S : Schema) (P : Props) (w : Node) : ∀ (stp : List (Str × Str)) (s s' : Node),
    (∀ d f, (d, f) ∈ stp → direct S f w = true) → withAttrs w stp s = some s' →
    staple (fun nm => getattr S P w nm) stp s = .ok s'
  | [], s, s', _, h => by simp [withAttrs] at h; simp [staple, h]
  | (d, f) :: r, s, s', hd, h => by
    unfold withAttrs at h
    cases hf : fieldOf f w with
    | none => simp [hf] at h
    | some v =>
      cases s with
      | val x => simp [hf] at h
      | agg si sf sits =>
        simp only [hf] at h
        have hg := getattr_direct P (hd d f List.mem_cons_self) hf
        simp only [staple, hg, PyM.ok_bind, resNode]
        exact staple_eq S P w r _ s' (fun d' f' hm => hd d' f' (List.mem_cons_of_mem _ hm)) h

/-- a list member the `statements` getter can process: a wrapper's statement attribute and the stapled
    attributes are plain stored attributes of the wrapper; a member of no wrapper class is skipped (never the
    `assert` of the else-branch) -/
def memberOk (S : Schema) (branches : List (Nat × Str)) (elseAssert : Bool) (stp : List (Str × Str)) (w : Node) :
    Prop :=
  match memberBranch S branches w with
  | none => elseAssert = false
  | some a => direct S a w = true ∧ (fieldOf a w).isSome = true ∧
      (∀ s, present (fieldOf a w) = some s → (withAttrs w stp s).isSome = true) ∧
      (∀ d f, (d, f) ∈ stp → direct S f w = true)

theorem memberBranch_find (S : Schema) (br : List (Nat × Str)) (w : Node) :
    wrapped S br stp w = match memberBranch S br w with
      | none => none
      | some a => (present (fieldOf a w)).bind (withAttrs w stp) := by
  cases w with
  | val v => simp [wrapped, memberBranch]
  | agg mi f its =>
    simp only [wrapped, memberBranch, firstBranch_find]
    cases br.find? (fun b => isInstance S mi b.1) with
    | none => rfl
    | some b => rfl

theorem membersLoop_eq (S : Schema) (P : Props) (br : List (Nat × Str)) (ea : Bool) (stp : List (Str × Str)) :
    ∀ (items : List Node), (∀ w, w ∈ items → memberOk S br ea stp w) →
    membersLoop S br ea stp (itemSubs S P items) = .ok (items.filterMap (wrapped S br stp))
  | [], _ => rfl
  | w :: rest, h => by
    have ih := membersLoop_eq S P br ea stp rest (fun x hx => h x (List.mem_cons_of_mem _ hx))
    have hw := h w List.mem_cons_self
    simp only [itemSubs, membersLoop, List.filterMap_cons, memberBranch_find (stp := stp)]
    unfold memberOk at hw
    cases hb : memberBranch S br w with
    | none =>
      simp only [hb] at hw
      subst hw
      simp [ih]
    | some a =>
      simp only [hb] at hw
      obtain ⟨hd, hsome, hwith, hst⟩ := hw
      obtain ⟨s, hs⟩ := Option.isSome_iff_exists.mp hsome
      have hg := getattr_direct P hd hs
      simp only [hg, PyM.ok_bind, resNode, hs, present_some_eq]
      cases hn : notNone s with
      | false => simp [ih]
      | true =>
        obtain ⟨s', hs'⟩ := Option.isSome_iff_exists.mp (hwith s (by rw [hs, present_some_eq, hn]; rfl))
        simp [staple_eq S P w stp s s' hst hs', hs', ih]

/-- `{BANK,CREDITCARD,INVSTMT}MSGS{RQ,RS}V1.statements`: the statement of every wrapper member that holds one,
    every statement once, in document order (the RS variants with the wrapper's `trnuid`/`cltcookie` stapled on) -/
theorem C16_shortcut_members (S : Schema) (P : Props) (ci : Nat) (fields : List (Str × Node)) (items : List Node)
    (name : Str) (br : List (Nat × Str)) (ea : Bool) (stp : List (Str × Str)) (c : Cls)
    (hc : S.cls? ci = some c) (hb : P.find ci name = some (.members br ea stp)) (hn : c.attr? name = none)
    (hm : ∀ w, w ∈ items → memberOk S br ea stp w) :
    getattr S P (.agg ci fields items) name = .ok (.list (items.filterMap (wrapped S br stp))) := by
  apply getattr_of_runBody hc hb hn
  simp [runBody, membersLoop_eq S P br ea stp items hm]

theorem fieldOf_agg (a : Str) (ci : Nat) (fields : List (Str × Node)) (items : List Node) :
    fieldOf a (.agg ci fields items) = Agg.lookup a fields := rfl

theorem cur_sel (S : Schema) (P : Props) (sel : Sel) (m : Node) (r : Res)
    (hw : (match sel with
      | .clsName => some (Res.node (.val (.str (argClassName S m))))
      | .attr b => (fieldOf b m).map .node) = some r)
    (hd : ∀ b, sel = .attr b → direct S b m = true) :
    (match (motive := Sel → PyM Res) sel with
      | .clsName => .ok (.node (.val (.str (argClassName S m))))
      | .attr b => getattr S P m b) = .ok r := by
  cases sel with
  | clsName => simpa using hw
  | attr b =>
    obtain ⟨v, hv, rfl⟩ := Option.map_eq_some_iff.mp hw
    exact getattr_direct P (hd b rfl) hv

/-- `Origcurrency.curtype/cursym/currate`: taken from `currency` if there is one, else from `origcurrency`,
    else `None`.  `hfull` (here and below): `walk1` reads a missing key as `None` where Python raises KeyError, so the
    dict must hold both names, as `Aggregate.__init__` makes it (base.py:99-105) -/
theorem C16_shortcut_cur (S : Schema) (P : Props) (ci : Nat) (fields : List (Str × Node)) (items : List Node)
    (name a1 a2 : Str) (sel : Sel) (c : Cls) (r : Res)
    (hc : S.cls? ci = some c) (hb : P.find ci name = some (.cur a1 a2 sel))
    (hok : bodyOk c ⟨ci, name, .cur a1 a2 sel⟩ = true)
    (hfull : (Agg.lookup a1 fields).isSome = true ∧ (Agg.lookup a2 fields).isSome = true)
    (hd : ∀ cu b, sel = .attr b →
      (present (fieldOf a1 (.agg ci fields items))).or (present (fieldOf a2 (.agg ci fields items))) = some cu →
      direct S b cu = true)
    (hw : walk S P.find (.cur a1 a2 sel) (.agg ci fields items) = some r) :
    getattr S P (.agg ci fields items) name = .ok r := by
  obtain ⟨hs, hn⟩ := (bodyOk_iff _ _).mp hok
  obtain ⟨v1, hv1⟩ := Option.isSome_iff_exists.mp hfull.1
  obtain ⟨v2, hv2⟩ := Option.isSome_iff_exists.mp hfull.2
  apply getattr_of_runBody hc hb hn
  simp only [walk, walk1, fieldOf_agg, hv1, hv2, present_some_eq] at hw hd
  simp only [runBody, readSelf_stored (hs a1 List.mem_cons_self) hv1,
    readSelf_stored (hs a2 (List.mem_cons_of_mem _ List.mem_cons_self)) hv2, PyM.ok_bind, PyM.pure_eq]
  cases h1 : notNone v1 with
  | true =>
    simp only [h1, if_true, Option.some_or] at hw hd
    simp only [if_true]
    exact cur_sel S P sel v1 r hw (fun b hb => hd v1 b hb rfl)
  | false =>
    cases h2 : notNone v2 with
    | true =>
      simp only [h1, h2, Bool.false_eq_true, if_false, if_true, Option.none_or] at hw hd
      simp only [Bool.false_eq_true, if_false, if_true]
      exact cur_sel S P sel v2 r hw (fun b hb => hd v2 b hb rfl)
    | false =>
      simp only [h1, h2, Bool.false_eq_true, if_false, Option.none_or, Option.some.injEq] at hw
      simp [hw]

/-- `OFX.signon`: the request sign-on if there is a request message set, else the response sign-on -/
theorem C16_shortcut_firstOrAssert (S : Schema) (P : Props) (ci : Nat) (fields : List (Str × Node))
    (items : List Node) (name a1 b1 a2 b2 : Str) (c : Cls) (r : Res)
    (hc : S.cls? ci = some c) (hb : P.find ci name = some (.firstOrAssert a1 b1 a2 b2))
    (hok : bodyOk c ⟨ci, name, .firstOrAssert a1 b1 a2 b2⟩ = true)
    (hfull : (Agg.lookup a1 fields).isSome = true ∧ (Agg.lookup a2 fields).isSome = true)
    (hd1 : ∀ m, Agg.lookup a1 fields = some m → notNone m = true → direct S b1 m = true)
    (hd2 : ∀ m, Agg.lookup a2 fields = some m → notNone m = true → direct S b2 m = true)
    (hw : walk S P.find (.firstOrAssert a1 b1 a2 b2) (.agg ci fields items) = some r) :
    getattr S P (.agg ci fields items) name = .ok r := by
  obtain ⟨hs, hn⟩ := (bodyOk_iff _ _).mp hok
  obtain ⟨v1, hv1⟩ := Option.isSome_iff_exists.mp hfull.1
  obtain ⟨v2, hv2⟩ := Option.isSome_iff_exists.mp hfull.2
  apply getattr_of_runBody hc hb hn
  simp only [walk, walk1, fieldOf_agg, hv1, hv2, present_some_eq] at hw
  simp only [runBody, readSelf_stored (hs a1 List.mem_cons_self) hv1,
    readSelf_stored (hs a2 (List.mem_cons_of_mem _ List.mem_cons_self)) hv2, PyM.ok_bind]
  cases h1 : notNone v1 with
  | true =>
    simp only [h1, if_true, Option.map_eq_some_iff] at hw
    obtain ⟨v, hv, rfl⟩ := hw
    simp [getattr_direct P (hd1 v1 hv1 h1) hv]
  | false =>
    cases h2 : notNone v2 with
    | true =>
      simp only [h1, h2, Bool.false_eq_true, if_false, if_true, Option.bind_some, Option.map_eq_some_iff] at hw
      obtain ⟨v, hv, rfl⟩ := hw
      simp [getattr_direct P (hd2 v2 hv2 h2) hv]
    | false => simp [h1, h2] at hw

/-- the list shortcut `p` of message set `m` returns its walk (`SubOk_members` / `SubOk_extend` below give it for the
    message-set classes) -/
def SubOk (S : Schema) (P : Props) (p : Str) (m : Node) : Prop :=
  ∀ l, subList S P.find p m = some l → getattr S P m p = .ok (.list l)

theorem map_node_ne_list (o : Option Node) (l : List Node) : o.map Res.node ≠ some (.list l) := by
  cases o <;> simp

theorem walk1_list_empty (S : Schema) (b : Body) (m : Node) (l : List Node)
    (h : walk1 S b m = some (.list l)) (he : itemsOf m = []) : l = [] := by
  cases b with
  | members br ea stp => simp [walk1, he] at h; exact h
  | extendMembers t => simp [walk1, he] at h; exact h
  | alias a => exact absurd h (map_node_ne_list _ _)
  | path a b => exact absurd h (map_node_ne_list _ _)
  | firstOrAssert a1 b1 a2 b2 =>
    simp only [walk1] at h
    split at h <;> exact absurd h (map_node_ne_list _ _)
  | cur a1 a2 sel =>
    simp only [walk1] at h
    split at h
    · simp at h
    · split at h
      · simp at h
      · exact absurd h (map_node_ne_list _ _)
  | optList a p => simp [walk1] at h
  | concat ns p => simp [walk1] at h
  | unknown => simp [walk1] at h

theorem subList_empty (S : Schema) (P : Props) (p : Str) (m : Node) (l : List Node)
    (h : subList S P.find p m = some l) (he : itemsOf m = []) : l = [] := by
  unfold subList at h
  split at h
  · split at h
    · split at h
      · rename_i hw; cases h; exact walk1_list_empty S _ _ _ hw he
      · cases h
    · cases h
  · cases h

theorem truthy_false_cases (m : Node) (h : truthy m = false) (hn : notNone m = true) :
    itemsOf m = [] ∨ ∃ v, m = .val v := by
  cases m with
  | val v => exact Or.inr ⟨v, rfl⟩
  | agg mi mf mits =>
    left
    simp only [truthy, Bool.not_eq_eq_eq_not, Bool.not_false, List.isEmpty_iff] at h
    simpa [itemsOf] using h

theorem notNone_of_truthy {m : Node} (h : truthy m = true) : notNone m = true := by
  cases m with
  | val v => cases v <;> first | rfl | cases h
  | agg _ _ _ => rfl

/-- what a message set `m` contributes to a list shortcut, on both sides: nothing when it is `None` or has no members,
    else what its own shortcut `p` returns -/
theorem msgset_list (S : Schema) (P : Props) (p : Str) (m : Node) (l : List Node)
    (hsub : notNone m = true → SubOk S P p m)
    (hw : (match present (some m) with | none => some [] | some m => subList S P.find p m) = some l) :
    (if truthy m then getattr S P m p else .ok (.list [])) = .ok (.list l) := by
  rw [present_some_eq] at hw
  cases hn : notNone m with
  | false =>
    have ht : truthy m = false := by
      cases ht : truthy m with
      | false => rfl
      | true => rw [notNone_of_truthy ht] at hn; cases hn
    simp only [hn, Bool.false_eq_true, if_false, Option.some.injEq] at hw
    simp [ht, ← hw]
  | true =>
    simp only [hn, if_true] at hw
    cases ht : truthy m with
    | true => simpa using hsub hn l hw
    | false =>
      rcases truthy_false_cases m ht hn with he | ⟨v, rfl⟩
      · simp [subList_empty S P p m l hw he]
      · simp [subList] at hw

theorem concatLoop_eq (S : Schema) (P : Props) (ci : Nat) (c : Cls) (fields : List (Str × Node))
    (items : List Node) (p : Str) :
    ∀ (names : List Str) (l : List Node), (∀ n, n ∈ names → definesStored c n = true) →
    (∀ n m, n ∈ names → Agg.lookup n fields = some m → notNone m = true → SubOk S P p m) →
    concatWalk S P.find p (.agg ci fields items) names = some l →
    concatLoop c (fieldSubs S P fields) p names = .ok l
  | [], l, _, _, h => by simp [concatWalk] at h; simp [concatLoop, h]
  | n :: rest, l, hs, hsub, h => by
    have ih := fun l' => concatLoop_eq S P ci c fields items p rest l'
      (fun x hx => hs x (List.mem_cons_of_mem _ hx)) (fun x m hx => hsub x m (List.mem_cons_of_mem _ hx))
    simp only [concatWalk, fieldOf] at h
    cases hv : Agg.lookup n fields with
    | none => simp [hv] at h
    | some m =>
      simp only [hv] at h
      obtain ⟨here, more, hh, hmore, rfl⟩ : ∃ here more,
          (match present (some m) with | none => some [] | some m => subList S P.find p m) = some here ∧
          concatWalk S P.find p (.agg ci fields items) rest = some more ∧ here ++ more = l := by
        cases hp : present (some m) <;>
          simpa [hp, bind, Option.bind_eq_some_iff, pure] using h
      have hm := msgset_list S P p m here (hsub n m List.mem_cons_self hv) hh
      simp only [concatLoop, readSelf_stored (hs n List.mem_cons_self) hv, PyM.ok_bind, ih more hmore]
      cases ht : truthy m with
      | false =>
        simp only [ht, Bool.false_eq_true, if_false, Except.ok.injEq, Res.list.injEq] at hm
        simp [← hm]
      | true =>
        simp only [ht, if_true] at hm
        simp [hm, extendWith]

/-- `OFX.statements`: the statements of the six statement message sets in the fixed order (requests: bank, credit
    card, investment; then responses), each set's statements in document order -/
theorem C16_shortcut_concat (S : Schema) (P : Props) (ci : Nat) (fields : List (Str × Node)) (items : List Node)
    (name p : Str) (names : List Str) (c : Cls) (r : Res)
    (hc : S.cls? ci = some c) (hb : P.find ci name = some (.concat names p))
    (hok : bodyOk c ⟨ci, name, .concat names p⟩ = true)
    (hsub : ∀ n m, n ∈ names → Agg.lookup n fields = some m → notNone m = true → SubOk S P p m)
    (hw : walk S P.find (.concat names p) (.agg ci fields items) = some r) :
    getattr S P (.agg ci fields items) name = .ok r := by
  obtain ⟨hs, hn⟩ := (bodyOk_iff _ _).mp hok
  simp only [walk, Option.map_eq_some_iff] at hw
  obtain ⟨l, hl, rfl⟩ := hw
  apply getattr_of_runBody hc hb hn
  simp [runBody, concatLoop_eq S P ci c fields items p names l hs hsub hl]

/-- `OFX.securities`: the securities of the security-list message set, if there is one -/
theorem C16_shortcut_optList (S : Schema) (P : Props) (ci : Nat) (fields : List (Str × Node)) (items : List Node)
    (name a p : Str) (c : Cls) (r : Res)
    (hc : S.cls? ci = some c) (hb : P.find ci name = some (.optList a p))
    (hok : bodyOk c ⟨ci, name, .optList a p⟩ = true)
    (hsub : ∀ m, Agg.lookup a fields = some m → notNone m = true → SubOk S P p m)
    (hw : walk S P.find (.optList a p) (.agg ci fields items) = some r) :
    getattr S P (.agg ci fields items) name = .ok r := by
  obtain ⟨hs, hn⟩ := (bodyOk_iff _ _).mp hok
  apply getattr_of_runBody hc hb hn
  simp only [walk, fieldOf_agg] at hw
  cases hv : Agg.lookup a fields with
  | none => simp [hv] at hw
  | some m =>
    simp only [hv] at hw
    obtain ⟨l, hl, rfl⟩ : ∃ l,
        (match present (some m) with | none => some [] | some m => subList S P.find p m) = some l ∧ Res.list l = r := by
      cases hp : present (some m) <;> simpa [hp] using hw
    simpa [runBody, readSelf_stored (hs a List.mem_cons_self) hv] using msgset_list S P p m l (hsub m hv) hl

theorem SubOk_members (S : Schema) (P : Props) (p : Str) (mi : Nat) (mf : List (Str × Node)) (mits : List Node)
    (cm : Cls) (br : List (Nat × Str)) (ea : Bool) (stp : List (Str × Str))
    (hc : S.cls? mi = some cm) (hb : P.find mi p = some (.members br ea stp)) (hn : cm.attr? p = none)
    (hm : ∀ w, w ∈ mits → memberOk S br ea stp w) : SubOk S P p (.agg mi mf mits) := by
  intro l hl
  simp only [subList, hb, walk1, itemsOf, Option.some.injEq] at hl
  subst hl
  exact C16_shortcut_members S P mi mf mits p br ea stp cm hc hb hn hm

theorem SubOk_extend (S : Schema) (P : Props) (p : Str) (mi : Nat) (mf : List (Str × Node)) (mits : List Node)
    (cm : Cls) (t : Nat)
    (hc : S.cls? mi = some cm) (hb : P.find mi p = some (.extendMembers t)) (hn : cm.attr? p = none) :
    SubOk S P p (.agg mi mf mits) := by
  intro l hl
  simp only [subList, hb, walk1, itemsOf, Option.some.injEq] at hl
  subst hl
  exact C16_shortcut_extend S P mi mf mits p t cm hc hb hn

/-! ### the guards are satisfiable (a two-class schema: `A {x, b : B, ms : list of B}`, `B {y}`) -/
namespace Example

def mkCls (name : String) (spec : List Attr) : Cls :=
  { name := name.toList, exported := true, abstract := false, ancestors := [], spec := spec, optMutex := [],
    reqMutex := [], declOptMutex := [], declReqMutex := [], elementList := false, extra := .none, groom := none,
    ungroom := none }

def S0 : Schema :=
  ⟨[mkCls "A" [⟨"x".toList, .string none false, false⟩, ⟨"b".toList, .sub 1, false⟩, ⟨"ms".toList, .listAgg 1, false⟩],
    mkCls "B" [⟨"y".toList, .string none false, false⟩]], []⟩
def P0 : Props := [⟨0, "ys".toList, .members [(1, "y".toList)] false []⟩, ⟨0, "mine".toList, .alias "b".toList⟩]
def iB : Node := .agg 1 [("y".toList, .val (.str "v".toList))] []
def iA : Node := .agg 0 [("x".toList, .val (.str "u".toList)), ("b".toList, iB)] [iB, iB]

/-- C16_proxy: `y` is defined only at path `b`; the guards hold and the value is the stored one -/
example : clean S0 P0 iA "y".toList = true ∧ definers S0 iA "y".toList = [["b".toList]] := by decide +kernel
example : valueAt S0 iA ["b".toList] "y".toList = some (.val (.str "v".toList)) := by rfl
/-- C16_miss: on the full instance and on the half-built one (empty dict, members present) -/
example : undefined S0 P0 iA "nope".toList = true := by decide +kernel
example : undefined S0 P0 (.agg 0 [] [iB, iB]) "__setstate__".toList = true := by decide +kernel
/-- a name declared only inside list members is undefined on the instance (no proxying into repeated children) -/
example : undefined S0 P0 (.agg 0 [("x".toList, .val .none), ("b".toList, .val .none)] [iB]) "y".toList = true := by
  decide +kernel
/-- C16_copy_probes: its premise on a nested instance -/
example : copyProbes.all (fun ne => undefined S0 P0 (.agg 0 (if ne.2 then [] else iA.fields) iA.items) ne.1) = true := by
  decide +kernel
example : bodyOk (mkCls "A" [⟨"x".toList, .string none false, false⟩, ⟨"b".toList, .sub 1, false⟩,
    ⟨"ms".toList, .listAgg 1, false⟩]) ⟨0, "mine".toList, .alias "b".toList⟩ = true := by decide +kernel
example : getattr S0 P0 iA "ys".toList = .ok (.list [.val (.str "v".toList), .val (.str "v".toList)]) := by rfl
example : getattr S0 P0 iA "mine".toList = .ok (.node iB) := by rfl

end Example

end Ofx.C16
