/-
C12 — headers round-trip for every supported version; invalid headers are refused.
-/
import OfxProofs.Props.C05

namespace Ofx.Header
open Ofx Ofx.Codec Ofx.Spec.HeaderLayout
attribute [-simp] String.reduceToList

theorem ctorV1_sound (p : V1P) (v oh : Arg) (d s e c cm o n : Option Str) (h : V1)
    (hk : ctorV1 p v oh d s e c cm o n = .ok h) :
    pyStrInt h.ofxheader ∈ p.ofxheader ∧ h.data ∈ p.data ∧ (∀ k, p.versionLen = some k → h.version < (10 : Int) ^ k) ∧
    h.security ∈ p.security ∧ h.encoding ∈ p.encoding ∧ h.charset ∈ p.charset ∧ h.compression ∈ p.compression ∧
    (∀ k, p.oldLen = some k → h.oldfileuid.length ≤ k) ∧ (∀ k, p.newLen = some k → h.newfileuid.length ≤ k) ∧
    h.data = orStr d "OFXSGML".toList ∧ h.security = orStr s "NONE".toList ∧ h.encoding = orStr e "USASCII".toList ∧
    h.charset = orStr c "NONE".toList ∧ h.compression = orStr cm "NONE".toList := by
  obtain ⟨_, _, _, m2, m3, _, m5, m6, m7, m8, m9, m10, m11, rfl⟩ := (ctorV1_ok_iff ..).1 hk
  exact ⟨m2, m3, m5, m6, m7, m8, m9, m10, m11, rfl, rfl, rfl, rfl, rfl⟩

theorem ctorV2_sound (p : V2P) (v oh : Arg) (s o n : Option Str) (h : V2)
    (hk : ctorV2 p v oh s o n = .ok h) :
    pyStrInt h.version ∈ p.version ∧ pyStrInt h.ofxheader ∈ p.ofxheader ∧ h.security ∈ p.security ∧
    (∀ k, p.oldLen = some k → h.oldfileuid.length ≤ k) ∧ (∀ k, p.newLen = some k → h.newfileuid.length ≤ k) ∧
    h.security = orStr s "NONE".toList := by
  obtain ⟨_, _, _, m2, _, m4, m5, m6, m7, rfl⟩ := (ctorV2_ok_iff ..).1 hk
  exact ⟨m2, m4, m5, m6, m7, rfl⟩

/-- a header object comes back only if each of the five token fields that have a default lies, after the
    constructor's own defaulting, in its list -/
theorem C12_refuse_ctor_v1 (p : V1P) (v oh : Arg) (d s e c cm o n : Option Str)
    (hbad : orStr d "OFXSGML".toList ∉ p.data ∨ orStr s "NONE".toList ∉ p.security ∨
      orStr e "USASCII".toList ∉ p.encoding ∨ orStr c "NONE".toList ∉ p.charset ∨
      orStr cm "NONE".toList ∉ p.compression) :
    ∀ h, ctorV1 p v oh d s e c cm o n ≠ .ok h := by
  intro h hk
  obtain ⟨_, m2, _, m4, m5, m6, m7, _, _, e2, e4, e5, e6, e7⟩ := ctorV1_sound p v oh d s e c cm o n h hk
  rw [e2] at m2; rw [e4] at m4; rw [e5] at m5; rw [e6] at m6; rw [e7] at m7
  rcases hbad with hb | hb | hb | hb | hb
  · exact hb m2
  · exact hb m4
  · exact hb m5
  · exact hb m6
  · exact hb m7

theorem C12_refuse_ctor_v2 (p : V2P) (v oh : Arg) (s o n : Option Str)
    (hbad : orStr s "NONE".toList ∉ p.security) : ∀ h, ctorV2 p v oh s o n ≠ .ok h := by
  intro h hk
  obtain ⟨_, _, m3, _, _, e3⟩ := ctorV2_sound p v oh s o n h hk
  rw [e3] at m3
  exact hbad m3

/-- a v1 header object returned for a text has OFXHEADER and the tokens in their lists, VERSION below `10^k` and the
    UIDs within length: a text with one of these violated is never turned into a header object -/
theorem C12_refuse_text_v1 (p : V1P) (raw : Str) (h : V1) (e : Nat) (hk : parseV1 p raw = .ok (h, e)) :
    pyStrInt h.ofxheader ∈ p.ofxheader ∧ h.data ∈ p.data ∧ (∀ k, p.versionLen = some k → h.version < (10 : Int) ^ k) ∧
    h.security ∈ p.security ∧ h.encoding ∈ p.encoding ∧ h.charset ∈ p.charset ∧ h.compression ∈ p.compression ∧
    (∀ k, p.oldLen = some k → h.oldfileuid.length ≤ k) ∧ (∀ k, p.newLen = some k → h.newfileuid.length ≤ k) := by
  unfold parseV1 at hk
  split at hk
  · obtain ⟨a, ha, hr⟩ := PyM.bind_ok hk
    cases hr
    obtain ⟨m1, m2, m3, m4, m5, m6, m7, m8, m9, _⟩ := ctorV1_sound _ _ _ _ _ _ _ _ _ _ _ ha
    exact ⟨m1, m2, m3, m4, m5, m6, m7, m8, m9⟩
  · cases hk

theorem C12_refuse_text_v2 (p : V2P) (raw : Str) (h : V2) (e : Nat) (hk : parseV2 p raw = .ok (h, e)) :
    pyStrInt h.version ∈ p.version ∧ pyStrInt h.ofxheader ∈ p.ofxheader ∧ h.security ∈ p.security ∧
    (∀ k, p.oldLen = some k → h.oldfileuid.length ≤ k) ∧ (∀ k, p.newLen = some k → h.newfileuid.length ≤ k) := by
  unfold parseV2 at hk
  split at hk
  · obtain ⟨a, ha, hr⟩ := PyM.bind_ok hk
    cases hr
    obtain ⟨m1, m2, m3, m4, m5, _⟩ := ctorV2_sound _ _ _ _ _ _ _ ha
    exact ⟨m1, m2, m3, m4, m5⟩
  · cases hk

/-- a text in which the unanchored pattern finds no match is refused with the header error -/
theorem C12_refuse_text_nomatch_v1 (p : V1P) (raw : Str) (h : reSearch v1Regex raw = none) :
    parseV1 p raw = .error .header := by
  unfold parseV1; rw [h]; rfl

theorem C12_refuse_text_nomatch_v2 (p : V2P) (raw : Str) (h : reSearch v2Regex raw = none) :
    parseV2 p raw = .error .header := by
  unfold parseV2; rw [h]; rfl

/-- a version that is not numeric is refused with the header error -/
theorem C12_version_nonnumeric (p1 : V1P) (p2 : V2P) (v : Arg) (s o n : Option Str)
    (h : toInt v = .error .value) : makeHeader p1 p2 v s o n = .error .header := by
  unfold makeHeader; rw [h]; rfl

/-- so is one that is neither 1xx nor 2xx -/
theorem C12_version (p1 : V1P) (p2 : V2P) (v : Arg) (i : Int) (s o n : Option Str)
    (h : toInt v = .ok i) (h1 : i / 100 ≠ 1) (h2 : i / 100 ≠ 2) :
    makeHeader p1 p2 v s o n = .error .header := by
  rw [makeHeader_of_int p1 p2 v i s o n h, if_neg h1, if_neg h2]

example : toInt (.str "300".toList) = .ok 300 ∧ (300 : Int) / 100 ≠ 1 ∧ (300 : Int) / 100 ≠ 2 :=
  ⟨rfl, by decide, by decide⟩

/-- the layout `OFXHeaderV1.__str__` writes: CRLF after every field, a blank line before the body -/
def strLayV1 : V1Lay :=
  { leading := [], indent := [], ofxheader := {}, data := {}, version := {}, security := {}, encoding := {},
    charset := {}, compression := {}, oldfileuid := {}, newBlank := [], gap := "\r\n\r\n".toList }

theorem strLayV1_tolerated : strLayV1.tolerated = true := by decide

theorem strV1_eq (h : V1) : strV1 h = v1Text strLayV1 { h := h, withCompression := true } := by
  simp [strV1, join, crlf, v1Text, v1Fields, fieldText, leadingText, strLayV1, Sep.str, colon_OFXHEADER, colon_DATA,
    colon_VERSION, colon_SECURITY, colon_ENCODING, colon_CHARSET, colon_COMPRESSION, colon_OLDFILEUID,
    show "\r\n\r\n".toList = ['\r', '\n', '\r', '\n'] from String.toList_ofList]

/-- the layout `OFXHeaderV2.__str__` writes -/
def strLayV2 : V2Lay :=
  { leading := [], xmlVersion := some .dq, xmlEncoding := some .dq, xmlStandalone := some .dq,
    xs1 := [' '], xs2 := [' '], xs3 := [' '], xs4 := [], afterXml := "\r\n".toList,
    s0 := [' '], s1 := [' '], s2 := [' '], s3 := [' '], s4 := [' '],
    q0 := .dq, q1 := .dq, q2 := .dq, q3 := .dq, q4 := .dq, beforeClose := [], gap := "\r\n".toList }

theorem xmlDecl_chars : xmlDecl =
    ['<', '?', 'x', 'm', 'l', ' ', 'v', 'e', 'r', 's', 'i', 'o', 'n', '=', '"', '1', '.', '0', '"', ' ', 'e',
     'n', 'c', 'o', 'd', 'i', 'n', 'g', '=', '"', 'U', 'T', 'F', '-', '8', '"', ' ', 's', 't', 'a', 'n', 'd',
     'a', 'l', 'o', 'n', 'e', '=', '"', 'n', 'o', '"', '?', '>'] :=
  String.toList_ofList

theorem xmlDecl_eq : xmlDecl = v2Xml strLayV2 := by rw [xmlDecl_chars]; decide

theorem strV2_eq (h : V2) : strV2 h = v2Text strLayV2 h := by
  rw [strV2, xmlDecl_eq]
  simp [attr, join, crlf, v2Text, v2Ofx, qattr, leadingText, strLayV2, Quote.ch,
    show "<?OFX ".toList = "<?OFX".toList ++ [' '] by rw [lit_ofxOpen]; exact String.toList_ofList,
    show "=\"".toList = ['=', '"'] from String.toList_ofList, show "\"".toList = ['"'] from String.toList_ofList,
    show " ".toList = [' '] from String.toList_ofList,
    show "\r\n".toList = ['\r', '\n'] from String.toList_ofList]

/-- the text of every valid v1 header object, followed by a body encoded in the declared character set, parses back
    to that header and that body -/
theorem C12_roundtrip_v1 (p1 : V1P) (p2 : V2P) (tbl : List (Option Nat)) (h : V1) (body : Str) (bb : Bytes)
    (cs : Name) (hv : ValidV1 p1 h) (hcodec : codecV1 p1 h = .ok cs) (henc : encode tbl cs body = .ok bb)
    (hb0 : body.head? = some '<') (hb1 : body.getLast? = some '>') :
    parseHeader p1 p2 tbl (asciiBytes (strV1 h) ++ bb) = .ok (.v1 h, body) := by
  rw [strV1_eq]
  exact parse_v1 p1 p2 tbl strLayV1 _ body bb cs hv (by intro h; cases h) hcodec henc hb0 hb1 strLayV1_tolerated

theorem C12_roundtrip_v2 (p1 : V1P) (p2 : V2P) (tbl : List (Option Nat)) (h : V2) (body : Str) (bb : Bytes)
    (hv : ValidV2 p2 h) (henc : encode tbl .utf8 body = .ok bb)
    (hb0 : body.head? = some '<') (hb1 : body.getLast? = some '>') :
    parseHeader p1 p2 tbl (asciiBytes (strV2 h) ++ bb) = .ok (.v2 h, body) := by
  rw [strV2_eq]
  exact parse_v2 p1 p2 tbl strLayV2 h body bb hv henc hb0 hb1 (by decide)

/-- the kind matches the version: 1xx gives a flat-text header object, 2xx an XML one (or the header error) -/
theorem C12_kind (p1 : V1P) (p2 : V2P) (v : Arg) (i : Int) (s o n : Option Str) (hd : Hdr)
    (hi : toInt v = .ok i) (hk : makeHeader p1 p2 v s o n = .ok hd) :
    (i / 100 = 1 ∧ ∃ h, hd = .v1 h) ∨ (i / 100 = 2 ∧ ∃ h, hd = .v2 h) := by
  rw [makeHeader_of_int p1 p2 v i s o n hi] at hk
  split at hk
  · next h1 => obtain ⟨h, _, rfl⟩ := PyM.map_ok hk; exact Or.inl ⟨h1, h, rfl⟩
  · split at hk
    · next h2 => obtain ⟨h, _, rfl⟩ := PyM.map_ok hk; exact Or.inr ⟨h2, h, rfl⟩
    · cases hk

def occ : List Str → Str → Prop
  | [], _ => True
  | l :: ls, s => ∃ a b, s = a ++ (l ++ b) ∧ occ ls b

theorem occ_weaken (ls : List Str) (c s : Str) (h : occ ls s) : occ ls (c ++ s) := by
  cases ls with
  | nil => trivial
  | cons l ls =>
    obtain ⟨a, b, hs, hb⟩ := h
    exact ⟨c ++ a, b, by rw [hs]; simp, hb⟩

theorem stepItem_sound (i : Item) (k : St → Str → Option Res) (st : St) (s : Str) (r : Res)
    (h : stepItem i k st s = some r) :
    ∃ c s' st', s = c ++ s' ∧ k st' s' = some r ∧ ∀ l, i = .lit l → c = l := by
  cases i with
  | lit l =>
    obtain ⟨t, rfl, ht⟩ := lit_inv l k st s r h
    exact ⟨l, t, st, rfl, ht, fun l' e => by cases e; rfl⟩
  | ws0 => exact ⟨s.takeWhile isSpace, s.dropWhile isSpace, st, by simp, h, nofun⟩
  | ws1 =>
    obtain ⟨c, cs, rfl, _, hk⟩ := ws1_inv k st s r h
    exact ⟨c :: cs.takeWhile isSpace, cs.dropWhile isSpace, st, by simp, hk, nofun⟩
  | cap p =>
    obtain ⟨m, _, _, hm⟩ := cap_inv p k st s r h
    exact ⟨s.take m, s.drop m, _, by simp, hm, nofun⟩
  | openq =>
    cases s with
    | nil => cases h
    | cons c cs =>
      simp only [stepItem] at h
      split at h
      · exact ⟨[c], cs, _, rfl, h, nofun⟩
      · cases h
  | closeq =>
    obtain ⟨c, cs, rfl, _, hk⟩ := closeq_inv k st s r h
    exact ⟨[c], cs, st, rfl, hk, nofun⟩

theorem matchItems_sound (is : List Item) (k : St → Str → Option Res) (st : St) (s : Str) (r : Res)
    (h : matchItems is k st s = some r) : ∃ c s' st', s = c ++ s' ∧ k st' s' = some r := by
  induction is generalizing st s with
  | nil => exact ⟨[], s, st, rfl, h⟩
  | cons i is ih =>
    obtain ⟨c, s', st', hs, hk, _⟩ := stepItem_sound i (matchItems is k) st s r h
    obtain ⟨c2, s2, st2, hs2, hk2⟩ := ih st' s' hk
    exact ⟨c ++ c2, s2, st2, by rw [hs, hs2]; simp, hk2⟩

/-- the mandatory literals of a pattern, in order -/
def litsOf : List Seg → List Str
  | [] => []
  | .item (.lit l) :: segs => l :: litsOf segs
  | _ :: segs => litsOf segs

theorem matchSegs_sound (segs : List Seg) (st : St) (s : Str) (r : Res) (h : matchSegs segs st s = some r) :
    occ (litsOf segs) s := by
  induction segs generalizing st s r with
  | nil => trivial
  | cons sg segs ih =>
    cases sg with
    | item i =>
      rw [matchSegs_item] at h
      obtain ⟨c, s', st', hs, hk, hl⟩ := stepItem_sound i (matchSegs segs) st s r h
      have := ih st' s' r hk
      cases i with
      | lit l =>
        have hc := hl l rfl
        subst hc
        exact ⟨[], s', by rw [hs]; rfl, this⟩
      | ws0 => rw [hs]; exact occ_weaken _ _ _ this
      | ws1 => rw [hs]; exact occ_weaken _ _ _ this
      | cap p => rw [hs]; exact occ_weaken _ _ _ this
      | openq => rw [hs]; exact occ_weaken _ _ _ this
      | closeq => rw [hs]; exact occ_weaken _ _ _ this
    | opt is =>
      rw [matchSegs_opt] at h
      show occ (litsOf segs) s
      cases hm : matchItems is (matchSegs segs) st s with
      | some r' =>
        obtain ⟨c, s', st', hs, hk⟩ := matchItems_sound is (matchSegs segs) st s r' hm
        rw [hs]; exact occ_weaken _ _ _ (ih st' s' r' hk)
      | none =>
        rw [hm] at h
        exact ih _ s r h

theorem reSearch_sound (segs : List Seg) (s : Str) (r : Res) (h : reSearch segs s = some r) :
    occ (litsOf segs) s := by
  induction s with
  | nil => exact matchSegs_sound segs {} [] r h
  | cons c cs ih =>
    rw [reSearch] at h
    split at h
    · rename_i r' hr; exact matchSegs_sound segs {} _ r' hr
    · exact occ_weaken _ [c] cs (ih h)

/-- no `COMPRESSION:`: the field is optional in `V1_REGEX`, and `litsOf` skips optional groups -/
def v1Lits : List Str :=
  ["OFXHEADER:".toList, "DATA:".toList, "VERSION:".toList, "SECURITY:".toList, "ENCODING:".toList,
   "CHARSET:".toList, "OLDFILEUID:".toList, "NEWFILEUID:".toList]

def v2Lits : List Str :=
  ["<?OFX".toList, "OFXHEADER=".toList, "VERSION=".toList, "SECURITY=".toList, "OLDFILEUID=".toList,
   "NEWFILEUID=".toList, "?>".toList]

theorem litsOf_v1 : litsOf v1Regex = v1Lits := by rfl
theorem litsOf_v2 : litsOf v2Regex = v2Lits := by rfl

/-- Omission and transposition: unless the eight mandatory `NAME:` markers occur in the text in the prescribed
    order, the text is refused with the header error.  (A text with a field missing or two fields transposed fails
    the hypothesis as long as the missing or displaced marker does not occur again later in the scanned lines, e.g.
    inside the body.) -/
theorem C12_refuse_text_order_v1 (p : V1P) (raw : Str) (h : ¬ occ v1Lits raw) : parseV1 p raw = .error .header := by
  apply C12_refuse_text_nomatch_v1
  cases hs : reSearch v1Regex raw with
  | none => rfl
  | some r => exact absurd (litsOf_v1 ▸ reSearch_sound v1Regex raw r hs) h

theorem C12_refuse_text_order_v2 (p : V2P) (raw : Str) (h : ¬ occ v2Lits raw) : parseV2 p raw = .error .header := by
  apply C12_refuse_text_nomatch_v2
  cases hs : reSearch v2Regex raw with
  | none => rfl
  | some r => exact absurd (litsOf_v2 ▸ reSearch_sound v2Regex raw r hs) h

theorem occ_mem_infix (ls : List Str) (s : Str) (h : occ ls s) : ∀ l ∈ ls, ∃ a b, s = a ++ (l ++ b) := by
  induction ls generalizing s with
  | nil => intro l hl; cases hl
  | cons l0 ls ih =>
    obtain ⟨a, b, hs, hb⟩ := h
    intro l hl
    rcases List.mem_cons.1 hl with e | e
    · subst e; exact ⟨a, b, hs⟩
    · obtain ⟨a2, b2, h2⟩ := ih b hb l e
      exact ⟨a ++ (l0 ++ a2), b2, by rw [hs, h2]; simp⟩

/-- omission of a mandatory field: if some `NAME:` marker occurs nowhere in the text, the header error -/
theorem C12_refuse_text_omit_v1 (p : V1P) (raw l : Str) (hl : l ∈ v1Lits) (h : ¬ ∃ a b, raw = a ++ (l ++ b)) :
    parseV1 p raw = .error .header :=
  C12_refuse_text_order_v1 p raw (fun ho => h (occ_mem_infix _ _ ho l hl))

theorem C12_refuse_text_omit_v2 (p : V2P) (raw l : Str) (hl : l ∈ v2Lits) (h : ¬ ∃ a b, raw = a ++ (l ++ b)) :
    parseV2 p raw = .error .header :=
  C12_refuse_text_order_v2 p raw (fun ho => h (occ_mem_infix _ _ ho l hl))

/-- the guard of `C12_refuse_text_omit_v1` is satisfiable: a header text with the DATA field left out -/
example : ¬ ∃ a b, "OFXHEADER:100VERSION:102SECURITY:NONE<OFX>".toList = a ++ ("DATA:".toList ++ b) := by
  intro ⟨a, b, h⟩
  have : "DATA:".toList <:+: "OFXHEADER:100VERSION:102SECURITY:NONE<OFX>".toList := ⟨a, b, by rw [h]; simp⟩
  revert this
  decide +kernel

/-- the statement the property asks for: a v1 header object always carries a 1xx version -/
def C12_refuse_text_full : Prop :=
  ∀ (raw : Str) (h : V1) (e : Nat), parseV1 pinnedV1P raw = .ok (h, e) → 100 ≤ h.version ∧ h.version ≤ 199

theorem C12_refuse_text_full_false : ¬ C12_refuse_text_full := by
  intro hf
  have hw : (match parseV1 pinnedV1P (strV1 { wHdr with version := 220 }) with
      | .ok (h, _) => h.version == 220
      | .error _ => false) = true := by decide +kernel
  cases hp : parseV1 pinnedV1P (strV1 { wHdr with version := 220 }) with
  | error e => rw [hp] at hw; cases hw
  | ok r =>
    obtain ⟨h, e⟩ := r
    rw [hp] at hw
    have := hf _ h e hp
    simp only [beq_iff_eq] at hw
    omega

end Ofx.Header
