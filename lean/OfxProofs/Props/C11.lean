/-
C11, leaf part — every text an element converter writes is lexically valid OFX for its declared type
(`Ofx.Spec.Lex`), and values that cannot be written that way are refused.

The wire-level part (serialized bytes) and the date-time rules belong to other layers.
-/
import OfxModel.Ofx.Types
import OfxModel.Spec.Lex
import OfxProofs.Lemmas.Types
import OfxProofs.Lemmas.Reads

namespace Ofx.Types
open Ofx Ofx.Spec

/-- the element kinds of this layer: everything that carries text except date-time / time -/
def leafKind : Kind → Bool
  | .bool => true
  | .string _ _ => true
  | .oneOf _ => true
  | .integer _ => true
  | .decimal _ => true
  | .listElem k _ => leafKind k
  | _ => false

/-- C11 (leaf), full strength: for every element kind of
    this layer (Bool, String, NagString, OneOf, Integer, Decimal, and ListElement over them, nested to any depth),
    every parameterisation and **every** value — in particular every value `convert` accepts, i.e. every value a
    model instance can hold — `unconvert` either refuses or writes a text that is lexically valid for the kind. -/
theorem C11_leaf_full (ext : LexExt) (enums : List (List Str)) (k : Kind) (r : Bool) (v : Val) (t : Str)
    (hk : leafKind k = true) (h : unconvert enums k r v = .ok (.str t)) : Lex ext enums k t = true := by
  have hw := writes_of_unconvert enums k r v t h
  clear h
  induction hw with
  | list _ ih => exact ih hk
  | bool b => cases b <;> rfl
  | @string l st r s hf =>
    cases l with
    | none => simp [Lex]
    | some n => cases st <;> simp_all [Lex, fits]
  | oneOf he hm => simp [Lex, he, hm]
  | int _ => simpa [Lex] using lexInteger_pyStrInt _
  | dec _ => simpa [Lex] using lexDecimal_formatF _ _ _
  | dt _ | tm _ => cases hk

/-- decimals with an exponent are written in plain notation; non-finite decimals and `bool` for Integer are refused -/
theorem C11_leaf_former_witnesses :
    unconvert [] (.decimal none) false (.dec (.fin false 1 2)) = .ok (.str "100".toList) ∧
    unconvert [] (.decimal none) false (.dec (.fin false 1 (-7))) = .ok (.str "0.0000001".toList) ∧
    unconvert [] (.decimal none) false (.dec (.fin true 0 2)) = .ok (.str "-0".toList) ∧
    unconvert [] (.decimal none) false (.dec (.nan false false 0)) = .error .value ∧
    unconvert [] (.decimal none) false (.dec (.inf true)) = .error .value ∧
    convert [] (.decimal none) false (.str "NaN".toList) = .error .spec ∧
    unconvert [] (.integer none) false (.bool true) = .error .type ∧
    convert [] (.integer none) false (.bool true) = .error .type := by
  rw [String.toList_ofList, String.toList_ofList, String.toList_ofList, String.toList_ofList]
  exact ⟨rfl, rfl, rfl, rfl, rfl, rfl, rfl, rfl⟩

/-- refusal: an over-long value of a strict string, a token outside the enumeration, a value of a foreign type, a
    non-finite decimal are refused rather than written -/
theorem C11_leaf_refuse (l : Nat) (r : Bool) (s : Str) (valid : List Str) :
    (s.length > l → stringUnconvert (some l) true r (.str s) = .error .spec) ∧
    (s ∉ valid → oneOfUnconvert valid r (.str s) = .error .spec) ∧
    (∀ k, boolUnconvert r (.other k) = .error .spec ∧ stringUnconvert (some l) true r (.other k) = .error .type ∧
      integerUnconvert (some l) r (.other k) = .error .type ∧ decimalUnconvert none r (.other k) = .error .type) ∧
    (∀ d : Dec, d.isFinite = false → decimalUnconvert none r (.dec d) = .error .value) := by
  refine ⟨fun h => ?_, fun h => ?_, fun k => ⟨rfl, rfl, rfl, rfl⟩, fun d hd => by simp [decimalUnconvert, hd]⟩
  · simp [stringUnconvert, strEnforceLength, h, Except.map]
  · simp [oneOfUnconvert, oneOfDefault, h]

end Ofx.Types
