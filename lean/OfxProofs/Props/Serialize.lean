/-
Serializer layer theorems (`SER_*`): the rendering theorems are what C01 composes with the parser's completeness; the
wire-clause and version-guard theorems stand on their own.
`serializeBody he close pretty t`: `close = true` is `ET.tostring(method="html")` (OFXv2 XML and OFXv1 SGML with end tags
alike), `close = false` is `tostring_unclosed_elements`; `pretty` applies `utils.indent` first.  `he` is `HTML_EMPTY`
(generated; every theorem holds for every list).
-/
import OfxProofs.Lemmas.Serialize

namespace Ofx.Serialize
open Ofx Ofx.Spec.Wire

theorem SER_escape_charwise (s : Str) : escapeCdata s = s.flatMap escChar := escapeCdata_eq s

theorem SER_escape_no_raw (s : Str) :
    '<' ∉ escapeCdata s ∧ '>' ∉ escapeCdata s ∧
    ∀ pre post, escapeCdata s = pre ++ '&' :: post →
      (['a', 'm', 'p', ';'] <+: post ∨ ['l', 't', ';'] <+: post ∨ ['g', 't', ';'] <+: post) := by
  refine ⟨not_mem_escapeCdata_lt s, not_mem_escapeCdata_gt s, fun pre post e => ?_⟩
  have := ampOk_spec (ampOk_escapeCdata s) pre post e
  simpa [escAhead, List.isPrefixOf_iff_prefix, or_assoc] using this

/-- what `_escape_cdata` writes satisfies C11's wire clause for element data -/
theorem SER_escape_dataOk (s : Str) : dataOk (escapeCdata s) = true := dataOk_escapeCdata s

theorem SER_escapeTree_id (t : Tree) (h : ∀ d ∈ texts t, ∀ c ∈ d, c ≠ '&' ∧ c ≠ '<' ∧ c ≠ '>') : escapeTree t = t :=
  escapeTree_id_both.1 t h

/-- `indent` changes only blank texts and tails, into whitespace, and never the text of a leaf -/
theorem SER_indent_frame (t : Tree) (level : Nat) : Frame t (indent t level) := indent_frame_both.1 t level

theorem SER_indent_tag (t : Tree) (level : Nat) : (indent t level).tag = t.tag := by
  cases t with
  | node tag x tl cs => by_cases h : cs.isEmpty = true <;> simp [indent, h, Tree.tag]

theorem SER_indent_leaf_text (tag : Str) (x tl : Option Str) (level : Nat) :
    (indent (.node tag x tl []) level).text = x := by
  simp [indent, Tree.text]

theorem SER_indent_nonblank_text (t : Tree) (level : Nat) (h : blank t.text = false) :
    (indent t level).text = t.text := by
  cases t with
  | node tag x tl cs =>
    simp only [Tree.text] at h
    by_cases hc : cs.isEmpty = true <;> simp [indent, hc, Tree.text, h]

theorem SER_html_empty_irrelevant (he : List Str) (t : Tree) (h : htmlSafe he t = true) :
    toStringHtml he t = toStringXml t := (html_eq_xml_both he).1 t h

example : htmlSafe ["br".toList, "base".toList]
    (.node "OFX".toList none none [.node "BR0".toList (some "x<y".toList) none []]) = true := by decide +kernel

/-- the three guards from a condition on the list of tags alone (for the trees `to_etree` builds the pipeline takes
    them from `Pipeline.Good` instead, Lemmas/Written.lean) -/
theorem SER_guards_of_tags (he : List Str) (t : Tree)
    (h : ∀ tag ∈ tags t, tagOk tag = true ∧ isRaw (lower tag) = false ∧ he.contains (lower tag) = false) :
    tagsOk t = true ∧ htmlSafe he t = true ∧ rawFree t = true := by
  have := (guards_of_tags_both he).1 t h
  exact ⟨this.1, this.2, (htmlSafe_rawFree_both he).1 t this.2⟩

/-- `Trimmed` (in `DataWF`; `wireTree` tests its Boolean form `trimmedB`) is `d.strip() == d` -/
theorem SER_trimmed_iff_strip (d : Str) : Trimmed d ↔ strip d = d := (strip_eq_self_iff d).symm

/-- tags `[A-Z0-9._]+`, none `script`/`style` up to case; any shape, texts and tails: in the written body every `<`
    starts a tag token and every `&` an entity -/
theorem SER_wirelex_html (he : List Str) (t : Tree) (pretty : Bool)
    (htags : tagsOk t = true) (hraw : rawFree t = true) :
    wireLex (serializeBody he true pretty t) = true := by
  cases pretty with
  | false => exact (wireLex_html_both he).1 t htags hraw
  | true =>
    have hf := SER_indent_frame t 0
    have ht := frame_tags_both.1 t _ hf
    exact (wireLex_html_both he).1 _ (ht.1.trans htags) (ht.2.trans hraw)

theorem SER_wirelex_data (t : Tree) : ∀ d ∈ texts (escapeTree t), dataOk d = true := by
  rw [texts_escapeTree_both.1 t]
  intro d hd
  obtain ⟨x, _, rfl⟩ := List.mem_map.1 hd
  exact dataOk_escapeCdata x

example : tagsOk (.node "OFX".toList none none [.node "USERPASS".toList (some "p&a<ss>w".toList) none []]) = true
    ∧ rawFree (.node "OFX".toList none none [.node "USERPASS".toList (some "p&a<ss>w".toList) none []]) = true := by
  decide +kernel

theorem body_renders (he : List Str) (close pretty : Bool) (t : Tree) (hw : wireTree t = true)
    (hs : close = true → htmlSafe he t = true) (hg : close = false → hasEmptyAgg t = false) :
    RenderingDoc (escapeTree t) (serializeBody he close pretty t) := by
  obtain ⟨hp, htag, htx⟩ := wireTree_iff.1 hw
  have key : ∀ t', Frame t t' → RenderingDoc (escapeTree t) (write he close t') := fun t' hf => by
    obtain ⟨r, hr, e, hws⟩ := (write_rendering_both he close).1 t t' hp htag htx hf hs hg
    exact ⟨r, _, hr, hws, e⟩
  cases pretty with
  | false => exact key t (frame_refl_both.1 t)
  | true => exact key _ (SER_indent_frame t 0)

/-- the html writer's output for a domain tree is a rendering of the tree with escaped texts -/
theorem SER_html_renders (he : List Str) (t : Tree) (hw : wireTree t = true) (hs : htmlSafe he t = true) :
    RenderingDoc (escapeTree t) (serializeBody he true false t) :=
  body_renders he true false t hw (fun _ => hs) (fun h => nomatch h)

theorem SER_html_pretty_renders (he : List Str) (t : Tree) (hw : wireTree t = true) (hs : htmlSafe he t = true) :
    RenderingDoc (escapeTree t) (serializeBody he true true t) :=
  body_renders he true true t hw (fun _ => hs) (fun h => nomatch h)

def exTree : Tree :=
  .node "OFX".toList none none
    [.node "SONRQ".toList none none [.node "USERPASS".toList (some "p&a<ss>w".toList) none [],
                                      .node "FI".toList none none []],
     .node "X.Y_1".toList (some "a b".toList) none []]

example : wireTree exTree = true ∧ htmlSafe ["br".toList, "base".toList, "link".toList] exTree = true := by decide +kernel

/-- `xml.sax.saxutils.escape`, which `tostring_unclosed_elements` applies to element data, is `ET._escape_cdata`
    (the replacement order `& > <` vs `& < >` does not matter) -/
theorem SER_saxEscape_eq (s : Str) : saxEscape s = escapeCdata s := saxEscape_eq s

/-- full strength: like the html forms -/
def SER_unclosed_renders_full : Prop :=
  ∀ (he : List Str) (t : Tree) (pretty : Bool), wireTree t = true →
    RenderingDoc (escapeTree t) (serializeBody he false pretty t)

theorem rendering_agg_length {tag s : Str} {cs : List Tree} (h : Rendering (.node tag none none cs) s) :
    2 * tag.length + 5 ≤ s.length := by
  cases h with
  | agg t cs w s' _ _ _ => simp [Spec.Wire.startTag, Spec.Wire.endTag]; omega

/-- a childless aggregate gets no end tag (`<A>` is not a rendering of the aggregate `A`) -/
theorem SER_unclosed_empty_aggregate_not_rendered :
    ¬ RenderingDoc (escapeTree (.node ['A'] none none [])) (serializeBody [] false false (.node ['A'] none none [])) := by
  rintro ⟨r, w, hr, _, e⟩
  have e1 : escapeTree (.node ['A'] none none []) = .node ['A'] none none [] := by
    simp [escapeTree, escapeTreeList]
  rw [e1] at hr
  have hl := rendering_agg_length hr
  have e2 : serializeBody [] false false (.node ['A'] none none []) = ['<', 'A', '>'] := by
    simp [serializeBody, toStringUnclosed, startTag, orEmpty, saxEscape_eq, escapeCdata_nil]
  rw [e2] at e
  have := congrArg List.length e
  simp at this hl
  omega

/-- known finding `unclosed_empty_aggregate_no_end_tag` -/
theorem SER_unclosed_renders_full_false : ¬ SER_unclosed_renders_full := fun h =>
  SER_unclosed_empty_aggregate_not_rendered (h [] (.node ['A'] none none []) false (by decide))

/-- the guard `tostring_unclosed_elements` needs: no childless aggregate -/
def unclosedGuard (t : Tree) : Bool := !hasEmptyAgg t

/-- under the guard, for all leaf data, as for the html forms -/
theorem SER_unclosed_renders_partial (he : List Str) (t : Tree) (pretty : Bool)
    (hw : wireTree t = true) (hg : unclosedGuard t = true) :
    RenderingDoc (escapeTree t) (serializeBody he false pretty t) :=
  body_renders he false pretty t hw (fun h => nomatch h) (fun _ => by simpa [unclosedGuard] using hg)

def exTreeU : Tree :=
  .node "OFX".toList none none
    [.node "SONRQ".toList none none [.node "USERPASS".toList (some "p&a<ss>w".toList) none []],
     .node "X.Y_1".toList (some "a b".toList) none []]

example : wireTree exTreeU = true ∧ unclosedGuard exTreeU = true := by decide +kernel

/-- full strength over arbitrary element trees (any tails) -/
def SER_wirelex_unclosed_full : Prop :=
  ∀ (he : List Str) (t : Tree) (pretty : Bool), tagsOk t = true → wireLex (serializeBody he false pretty t) = true

/-- false only because tails are written raw (`<A>x` followed by the tail `&`); no tree `to_etree` builds, and no
    tree `indent` makes of one, has such a tail -/
theorem SER_wirelex_unclosed_full_false : ¬ SER_wirelex_unclosed_full := by
  intro h
  have := h [] (.node ['A'] (some ['x']) (some ['&']) []) false (by decide)
  revert this
  decide

/-- tails wire-safe; any shape and texts, childless aggregates included -/
theorem SER_wirelex_unclosed_partial (he : List Str) (t : Tree) (pretty : Bool)
    (htags : tagsOk t = true) (htails : tailsOk t = true) :
    wireLex (serializeBody he false pretty t) = true := by
  cases pretty with
  | false => exact wireLex_unclosed_both.1 t htags htails
  | true =>
    have hf := SER_indent_frame t 0
    have ht := frame_tags_both.1 t _ hf
    exact wireLex_unclosed_both.1 _ (ht.1.trans htags) (frame_tailsOk_both.1 t _ hf htails)

/-- in particular for every tree `to_etree` builds, with arbitrary leaf texts -/
theorem SER_wirelex_unclosed (he : List Str) (t : Tree) (pretty : Bool)
    (hp : parserShaped t = true) (htags : tagsOk t = true) :
    wireLex (serializeBody he false pretty t) = true :=
  SER_wirelex_unclosed_partial he t pretty htags (parserShaped_tailsOk_both.1 t hp)

example : parserShaped exTreeU = true ∧ tagsOk exTreeU = true ∧ tailsOk exTreeU = true := by decide +kernel

/-- versions 2xx refuse to omit end tags -/
theorem SER_serialize_v2_unclosed (he : List Str) (hdr : Str) (v : Nat) (pretty : Bool) (t : Tree) (hv : v ≥ 200) :
    serialize he hdr v false pretty t = .error .value := by
  simp [serialize, hv]

theorem SER_serialize_ok (he : List Str) (hdr : Str) (v : Nat) (close pretty : Bool) (t : Tree)
    (h : close = true ∨ v < 200) :
    serialize he hdr v close pretty t = .ok (hdr ++ serializeBody he close pretty t) := by
  rcases h with rfl | h
  · simp [serialize]
  · have : ¬ v ≥ 200 := by omega
    simp [serialize, this]

end Ofx.Serialize
