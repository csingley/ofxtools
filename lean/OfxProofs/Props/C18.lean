/-
C18 — ofxget settings obey CLI > user file > FI db > OFX Home > defaults, and persist.

Model: `OfxModel/Ofx/Ofxget.lean`; spec: `OfxModel/Spec/Ofxget.lean`; tables generated from the source.
-/
import OfxProofs.Lemmas.Ofxget
import OfxProofs.Lemmas.OfxgetFiles
import OfxProofs.Lemmas.OfxgetWrite
import OfxProofs.Lemmas.OfxgetValues
import OfxProofs.Lemmas.C18Persist
import OfxProofs.Gen.Ofxget

namespace Ofx.Ofxget
open Ofx Ofx.Spec.Ofxget

/-- Whenever `merge_config` returns, then for every option `k` — independently of all other
    options — the value in effect is what the first of
    [command line, configuration files (the server's section as `read_config` types it), OFX Home record, DEFAULTS]
    that sets `k` says; nobody setting it means no value.  `cli` is the namespace without its `None` entries
    (`extractns`), or, on the documented "URL given as the server positional" path, that map with
    `url := server, server := None`. -/
theorem C18_precedence (T : Tables) (hwf : T.WF = true) (lookup : Str → Option OhRec) (ns : Map) (cfg : Ini)
    (c : Chain) (h : mergeConfig T lookup ns cfg = .ok c) :
    ∃ cli userCfg, userCfgOf T cfg (extractns ns) = .ok userCfg ∧
      (cli = extractns ns ∨ ∃ server, (extractns ns).lookup "server".toList = some (.str server) ∧
          cli = sloppy (extractns ns) server) ∧
      ∀ k, (∀ v, effective c k = some v ↔
              IsFirstSetter [cli, userCfg, ohSource lookup [extractns ns, userCfg, T.defaults], T.defaults] k v) ∧
           (effective c k = none ↔
              NoSetter [cli, userCfg, ohSource lookup [extractns ns, userCfg, T.defaults], T.defaults] k) := by
  obtain ⟨cli, userCfg, hu, hcli, he⟩ := mergeConfig_effective T hwf lookup ns cfg c h
  refine ⟨cli, userCfg, hu, hcli, fun k => ⟨fun v => ?_, ?_⟩⟩
  · rw [he k, firstSetter_some_iff]
  · rw [he k, firstSetter_none_iff]

/-- The five places, with the two configuration files as separate sources.
    For a server nickname `s` that has a section in either file, and every CONFIGURABLE option `k` (independently):
    * if the command line sets `k`, that value is in effect;
    * otherwise, if the files say anything for `k` — the user's section for `s`, else the FI database's section for
      `s`, else the DEFAULT section of the user's file, else that of the FI database (`fileLookup`: what one file
      says, last assignment wins) — the typed reading of *that* text is in effect (and the reading succeeds);
    * otherwise the OFX Home record, and failing that the built-in default. -/
theorem C18_precedence_sources (T : Tables) (hwf : T.WF = true) (lookup : Str → Option OhRec) (ns : Map)
    (fidb user : FileC) (c : Chain) (s : Str) (hs : s ≠ defaultSect)
    (hsrv : (extractns ns).lookup "server".toList = some (.str s))
    (hknown : (fileHasSection fidb s || fileHasSection user s) = true)
    (h : mergeConfig T lookup ns (loadUser fidb user) = .ok c) :
    ∃ cli userCfg,
      (cli = extractns ns ∨ ∃ server, (extractns ns).lookup "server".toList = some (.str server) ∧
          cli = sloppy (extractns ns) server) ∧
      ∀ k ty, T.configurable.lookup k = some ty →
        (∀ v, cli.lookup k = some v → effective c k = some v) ∧
        (cli.lookup k = none → ∀ raw,
          ((fileLookup user s k).or (fileLookup fidb s k)).or
            ((fileLookup user defaultSect k).or (fileLookup fidb defaultSect k)) = some raw →
          ∃ tv, typedOfStr T ty raw = .ok tv ∧ effective c k = some tv) ∧
        (cli.lookup k = none →
          ((fileLookup user s k).or (fileLookup fidb s k)).or
            ((fileLookup user defaultSect k).or (fileLookup fidb defaultSect k)) = none →
          effective c k = firstSetter [ohSource lookup [extractns ns, userCfg, T.defaults], T.defaults] k) := by
  obtain ⟨cli, userCfg, hu, hcli, he⟩ := mergeConfig_effective T hwf lookup ns _ c h
  refine ⟨cli, userCfg, hcli, fun k ty hty => ?_⟩
  have hl := userCfg_lookup T fidb user s hs userCfg (userCfgOf_server T _ _ userCfg s hsrv hu) k ty hty
  rw [filesSay, if_pos hknown] at hl
  refine ⟨fun v hv => by rw [he k]; simp only [firstSetter, hv], fun hnone raw hraw => ?_, fun hnone hraw => ?_⟩
  · rw [hraw] at hl
    obtain ⟨tv, htv, hlook⟩ := hl
    exact ⟨tv, htv, by rw [he k]; simp only [firstSetter, hnone, hlook]⟩
  · rw [hraw] at hl
    rw [he k]
    simp only [firstSetter, hnone, hl]

/-- `extractns` drops exactly the `None` entries: an option the command line does not set cannot shadow anything -/
theorem C18_extractns (ns : Map) (k : Name) (v : CfgVal) :
    (k, v) ∈ extractns ns ↔ (k, v) ∈ ns ∧ v ≠ .null := by
  simp [extractns, List.mem_filter]

/-- the layering inside the configuration files, one raw lookup: the server's own section first, DEFAULT after -/
theorem C18_section_over_default (c : Ini) (sect : Str) (k : Name) :
    c.raw sect k = match (c.sect sect).lookup k with
      | some v => some v
      | none => c.defaults.lookup k := rfl

/-- With a truthy `dryrun` in effect, `write_config` returns before touching `USERCFG` or the file, whatever else is
    configured. -/
theorem C18_dryrun_writes_nothing (T : Tables) (args : Chain) (mem lib : Ini) (disk : FileC) (uuid : Str)
    (v : CfgVal) (hv : args.get? "dryrun".toList = some v) (ht : truthy v = true) :
    writeConfig T args mem lib disk uuid = .ok none := by
  unfold writeConfig
  generalize "dryrun".toList = key at hv ⊢
  simp [Chain.getItem, hv, ht]

/-- `--dryrun` stores `True`, which is such a value -/
example : truthy (.bool true) = true := rfl

theorem set_other_untouched (c : Ini) (sect : Str) (k : Name) (v : Str)
    (sect' : Str) (k' : Name) (hk : k' ≠ lower k) :
    (c.set sect k v).raw sect' k' = c.raw sect' k' := by
  unfold Ini.set
  split
  · simp [Ini.raw, Ini.sect, lookup_mapSet, hk]
  · simp only [Ini.raw, Ini.sect, lookup_mapSet]
    by_cases hs : sect' = sect
    · subst hs
      simp [lookup_mapSet, hk]
    · simp [hs]

/-- Whatever `--write` leaves under the name `password`, in any section of `ofxget.cfg` (DEFAULT included), was
    already there when the file was re-read at the start of `mk_server_cfg`: saving never adds or changes a password
    option (`Tables.WF`: `password ∉ CONFIGURABLE`, CONFIGURABLE keys are lower-case). -/
theorem C18_no_password (T : Tables) (hwf : T.WF = true) (args : Chain) (mem lib : Ini) (disk : FileC) (uuid : Str)
    (cfg' : Ini) (h : writeConfig T args mem lib disk uuid = .ok (some cfg')) (sect' : Str) (v : Str)
    (hv : cfg'.look sect' "password".toList = some v) :
    (({ mem with sections := [] } : Ini).loadFile disk).look sect' "password".toList = some v := by
  refine mkServerCfg_untouched T args mem lib disk uuid cfg' (writeConfig_some T args mem lib disk uuid cfg' h) _ ?_
    (by decide) sect' v hv
  intro ot hot heq
  rw [Tables.wf_lower hwf ot hot] at heq
  exact Tables.wf_noPassword hwf (heq ▸ List.mem_map_of_mem hot)

/-- the command line of "running again without those options"; `request` and `verbose` are there because they are the
    two argparse defaults that are not `None` (fifth clause of `Tables.WF`), so every namespace has them -/
def probeNs (server : CfgVal) : Map :=
  [("request".toList, .str "stmt".toList), ("verbose".toList, .int 0), ("server".toList, server),
   ("dryrun".toList, .bool true)]

/-- one `--write` run followed by a run without the options: does option `k` keep its value in effect?
    (`true` also when the first run does not get as far as saving) -/
def persistHolds (T : Tables) (lookup : Str → Option OhRec) (ns : Map) (fidb user : FileC) (uuid : Str) (k : Name) : Bool :=
  match runOnce T lookup ns fidb user uuid with
  | .ok ⟨args, some (.ok ini)⟩ =>
    (match mergeConfig T lookup (probeNs ((args.get? "server".toList).getD .null)) (loadUser fidb ini.toFile) with
     | .ok args2 => effective args2 k == effective args k
     | .error _ => false)
  | .ok ⟨_, some (.error _)⟩ => false      -- the save itself fails
  | _ => true

/-- full strength: every persistable option survives save + rerun, whatever the sources hold -/
def C18_persist_full : Prop :=
  ∀ (lookup : Str → Option OhRec) (ns : Map) (fidb user : FileC) (uuid : Str) (k : Name),
    k ∈ Generated.ofxgetTables.configurable.map (·.1) →
    persistHolds Generated.ofxgetTables lookup ns fidb user uuid k = true

def nsWrite (extra : Map) : Map :=
  [("request".toList, .str "stmt".toList), ("verbose".toList, .int 0), ("server".toList, .str "srv1".toList),
   ("write".toList, .bool true)] ++ extra

/-- the recorded runs below and the membership `C18_persist_full_false` needs, stated together so that the kernel
    unfolds the generated tables once -/
theorem persist_runs :
    persistHolds Generated.ofxgetTables (fun _ => none)
      (nsWrite [("url".toList, .str "https://h/ofx?a=%41".toList)]) [] [] "U".toList "url".toList = true ∧
    persistHolds Generated.ofxgetTables (fun _ => none)
      (nsWrite [("url".toList, .str "https://h/".toList), ("checking".toList, .list ["a,b".toList])])
      [] [] "U".toList "checking".toList = false ∧
    persistHolds Generated.ofxgetTables (fun _ => none)
      (nsWrite [("url".toList, .str "https://h/".toList), ("version".toList, .int 203)])
      [] [("srv1".toList, [("version".toList, "102".toList)])] "U".toList "version".toList = true ∧
    persistHolds Generated.ofxgetTables (fun _ => none)
      (nsWrite [("url".toList, .str "https://h/".toList), ("version".toList, .int 203)])
      [] [("DEFAULT".toList, [("clientuid".toList, "G".toList), ("version".toList, "102".toList)]),
          ("srv1".toList, [("user".toList, "bob".toList)])] "U".toList "version".toList = true ∧
    persistHolds Generated.ofxgetTables (fun _ => none)
      (nsWrite [("url".toList, .str "https://h/".toList)])
      [] [("DEFAULT".toList, [("clientuid".toList, "G".toList), ("unclosedelements".toList, "yes".toList)]),
          ("srv1".toList, [("unclosedelements".toList, "0".toList)])] "U".toList "unclosedelements".toList = true ∧
    persistHolds Generated.ofxgetTables (fun _ => none)
      (nsWrite [("url".toList, .str "https://h/".toList), ("user".toList, .str [])])
      [] [("srv1".toList, [("user".toList, "bob".toList)])] "U".toList "user".toList = false ∧
    "checking".toList ∈ Generated.ofxgetTables.configurable.map (·.1) := by
  decide +kernel

/-- a URL containing `%` persists: configuration values are stored and read verbatim (`interpolation=None`); the
    input of finding write-percent-in-value -/
theorem C18_persist_percent_fixed :
    persistHolds Generated.ofxgetTables (fun _ => none)
      (nsWrite [("url".toList, .str "https://h/ofx?a=%41".toList)]) [] [] "U".toList "url".toList = true :=
  persist_runs.1

/-- finding list-member-characters-lost: an account number containing `,` reads back as two accounts -/
theorem C18_persist_list_false :
    persistHolds Generated.ofxgetTables (fun _ => none)
      (nsWrite [("url".toList, .str "https://h/".toList), ("checking".toList, .list ["a,b".toList])])
      [] [] "U".toList "checking".toList = false :=
  persist_runs.2.1

/-- `--version 203` (the library default) while the server's section holds 102 persists: `--write` states the default
    explicitly over a stored value that differs; the input of finding cli-value-equal-to-default-not-saved -/
theorem C18_persist_default_fixed :
    persistHolds Generated.ofxgetTables (fun _ => none)
      (nsWrite [("url".toList, .str "https://h/".toList), ("version".toList, .int 203)])
      [] [("srv1".toList, [("version".toList, "102".toList)])] "U".toList "version".toList = true :=
  persist_runs.2.2.1

/-- the same default value against an entry in the DEFAULT section of ofxget.cfg persists: `--write` states a default
    value explicitly when ofxget.cfg already holds the option; the input of finding cli-default-vs-default-section -/
theorem C18_persist_default_section_fixed :
    persistHolds Generated.ofxgetTables (fun _ => none)
      (nsWrite [("url".toList, .str "https://h/".toList), ("version".toList, .int 203)])
      [] [("DEFAULT".toList, [("clientuid".toList, "G".toList), ("version".toList, "102".toList)]),
          ("srv1".toList, [("user".toList, "bob".toList)])] "U".toList "version".toList = true :=
  persist_runs.2.2.2.1

/-- a server-section entry equal to the library default that shadows a DEFAULT-section entry survives a `--write` that
    does not mention the option; the input of finding section-default-value-dropped -/
theorem C18_persist_section_default_kept_fixed :
    persistHolds Generated.ofxgetTables (fun _ => none)
      (nsWrite [("url".toList, .str "https://h/".toList)])
      [] [("DEFAULT".toList, [("clientuid".toList, "G".toList), ("unclosedelements".toList, "yes".toList)]),
          ("srv1".toList, [("unclosedelements".toList, "0".toList)])] "U".toList "unclosedelements".toList = true :=
  persist_runs.2.2.2.2.1

/-- finding cli-null-value-not-saved: an empty command-line value overrides for this run but is never saved -/
theorem C18_persist_null_false :
    persistHolds Generated.ofxgetTables (fun _ => none)
      (nsWrite [("url".toList, .str "https://h/".toList), ("user".toList, .str [])])
      [] [("srv1".toList, [("user".toList, "bob".toList)])] "U".toList "user".toList = false :=
  persist_runs.2.2.2.2.2.1

theorem C18_persist_full_false : ¬ C18_persist_full := by
  intro h
  have := h (fun _ => none)
    (nsWrite [("url".toList, .str "https://h/".toList), ("checking".toList, .list ["a,b".toList])]) [] [] "U".toList
    "checking".toList persist_runs.2.2.2.2.2.2
  rw [C18_persist_list_false] at this
  cases this

/-- the guard under which one saved value reads back as itself: what `arg2config` writes for `v`, passed through
    the INI reader (`strip`) and the typed getter, is `v` again -/
def readsBack (T : Tables) (ty : CfgTy) (v : CfgVal) : Bool :=
  match arg2config ty v with
  | .ok s => (match typedOfStr T ty (strip s) with | .ok v' => v' == v | .error _ => false)
  | .error _ => false

open Ofx.Spec.Persist (savedReadsBack) in
/-- it is the specification's `savedReadsBack` (`Spec/PersistOk.lean`), for which the lemmas are stated -/
theorem savedReadsBack_eq_readsBack (T : Tables) (ty : CfgTy) (v : CfgVal) :
    savedReadsBack T ty v = readsBack T ty v := rfl

/-- Values are stored verbatim (`interpolation=None`), so the only thing a string value can lose is edge blanks (the
    INI reader strips them): a string equal to its `strip` reads back. -/
theorem C18_persist_partial_str (T : Tables) (s : Str) (hclean : strip s = s) :
    readsBack T .str (.str s) = true :=
  savedReadsBack_eq_readsBack T .. ▸ (savedReadsBack_str T s).mpr hclean

example : strip "https://ofx.example.com/cgi?x=%41&y=2".toList = "https://ofx.example.com/cgi?x=%41&y=2".toList := by
  decide +kernel

/-- `int(str(i)) == i` through the INI reader -/
theorem C18_persist_partial_int (T : Tables) (i : Int) : readsBack T .int (.int i) = true :=
  savedReadsBack_eq_readsBack T .. ▸ savedReadsBack_int T i

/-- a non-empty list of clean account numbers — printable characters other than `,` `'` `\`, no blank at either end,
    not empty — reads back as itself -/
theorem C18_persist_partial_list (T : Tables) (l : List Str) (hne : l ≠ []) (h : ∀ m ∈ l, CleanMember m) :
    readsBack T .list (.list l) = true :=
  savedReadsBack_eq_readsBack T .. ▸ savedReadsBack_list T l hne h

example : CleanMember "12-3456 [x]".toList where
  chars := by decide
  nonempty := by decide
  head := by intro c rest h; cases h; decide
  last := by
    intro c pre h
    have : ("12-3456 [x]".toList).getLast? = some c := by rw [h]; simp
    have h2 : ("12-3456 [x]".toList).getLast? = some ']' := by decide
    rw [h2] at this
    cases this
    decide

theorem C18_persist_partial_bool (b : Bool) :
    readsBack Generated.ofxgetTables .bool (.bool b) = true :=
  savedReadsBack_eq_readsBack _ .. ▸ savedReadsBack_bool _ Gen.ofxgetTables_boolOk b

/-- the guard `WillWrite` of `C18_persist_partial` (`Props/C18Persist.lean`) is satisfiable: `--version 102` (default 203,
    nothing in fi.cfg) -/
example : WillWrite Generated.ofxgetTables [("clientuid".toList, "G".toList)] [] "version".toList (.int 102) where
  notNull := rfl
  notGlobalUid := fun h => absurd h (by decide)
  notDefault := by
    intro dflt h
    have h203 : Generated.ofxgetTables.defaults.lookup "version".toList = some (.int 203) := by decide +kernel
    rw [h203] at h
    cases h
    rfl

example : readsBack Generated.ofxgetTables .int (.int 102) = true := C18_persist_partial_int _ 102

/-- once the DEFAULT section holds a CLIENTUID, the reload at the start of `mk_server_cfg` keeps it and draws no new
    id (`uuid` is not used) -/
theorem C18_clientuid_kept (mem : Ini) (disk : FileC) (u uuid : Str)
    (h : (({ mem with sections := [] } : Ini).loadFile disk).defaults.lookup "clientuid".toList = some u) :
    reloadCfg mem disk uuid = ({ mem with sections := [] } : Ini).loadFile disk := by
  unfold reloadCfg
  generalize "clientuid".toList = key at h ⊢
  simp [h]

/-- the file after a sequence of ofxget processes (each: `merge_config`, then `write_config` if `args["write"]`) -/
def diskAfterAll (T : Tables) (lookup : Str → Option OhRec) (fidb disk : FileC) (runs : List (Map × Str)) : FileC :=
  runs.foldl (diskAfter T lookup fidb) disk

/-- Once `ofxget.cfg` holds a global CLIENTUID `u` (DEFAULT section), it holds the same
    `u` after any sequence of runs — any command lines, with or without `--write`, dry or not, failing or not, any
    fresh ids offered by `OFXClient.uuid` — as long as no run saves under configparser's reserved nickname
    `DEFAULT`. -/
theorem C18_clientuid_stable (T : Tables) (lookup : Str → Option OhRec) (fidb : FileC) (runs : List (Map × Str))
    (disk : FileC) (u : Str) (hu : globalUid disk = some u) (hstrip : strip u = u)
    (hnick : ∀ run ∈ runs, ∀ d args, mergeConfig T lookup run.1 (loadUser fidb d) = .ok args →
      ∀ s, serverNick args = .ok s → s ≠ defaultSect) :
    globalUid (diskAfterAll T lookup fidb disk runs) = some u := by
  unfold diskAfterAll
  induction runs generalizing disk with
  | nil => exact hu
  | cons run runs ih =>
    simp only [List.foldl_cons]
    apply ih
    · exact diskAfter_keeps_uid T lookup fidb disk run u hu hstrip (fun args hm s hsn => hnick run (by simp) disk args hm s hsn)
    · intro r hr d args hm s hsn
      exact hnick r (by simp [hr]) d args hm s hsn

/-- and the first save creates one: after any successful `mk_server_cfg` (nickname not `DEFAULT`) the file has a
    global CLIENTUID -/
theorem C18_clientuid_created (T : Tables) (args : Chain) (fidb disk : FileC) (uuid : Str) (cfg' : Ini) (s : Str)
    (hs : s ≠ defaultSect) (hnick : serverNick args = .ok s)
    (h : mkServerCfg T args (loadUser fidb disk) (loadLib fidb) disk uuid = .ok cfg') :
    (globalUid cfg'.toFile).isSome = true := by
  obtain ⟨hdef, hcanon, _⟩ := mkServerCfg_defaults T args _ _ (canon_loadUser fidb disk) disk uuid cfg' s hs hnick h
  unfold globalUid
  rw [fileLookup_toFile cfg' hcanon, look_default, hdef]
  have := reloadCfg_has_uid (loadUser fidb disk) disk uuid
  cases hl : (reloadCfg (loadUser fidb disk) disk uuid).defaults.lookup "clientuid".toList with
  | none => rw [hl] at this; cases this
  | some x => rfl

end Ofx.Ofxget
