/-
C19, end to end: from the `ofxget stmt` / `ofxget stmtend` command line to the text of the request.  `Props/C19.lean`
ends at the request tuples handed to `OFXClient.request_statements`, `Props/C06.lean` starts at typed request records;
the two are composed through `OfxModel/Ofx/OfxgetWire.lean` (the conversion the Python run time performs between the
layers).  The theorems that take a `readback` are relative to the round trip of the wire layers, which
`Gen/C19Wire.lean` proves on `Pipeline.readFile` itself.  `HasAccounts` and `HasFlags` are hypotheses throughout:
DEFAULTS, the last map `merge_config` chains, holds a list under every account type (`Gen.acct_types_are_lists`); a
map chained above it need not.
-/
import OfxProofs.Props.C19
import OfxProofs.Lemmas.C19Wire
import OfxProofs.Props.C06

namespace Ofx.OfxgetWire
open Ofx Ofx.Ofxget Ofx.Compose Ofx.Spec.Ofxget Ofx.Spec.Request Ofx.C06

theorem requestBytes_spec {S : Schema} {cv : Conv} {Ptext : Str → Prop} (hS : ReqWF S = true) (hcv : ConvOK cv Ptext)
    (env : Compose.Env) (cfg : Cfg) (pw : Str) (reqs : List Req) (gen : Bool) (uuid : Nat → Str) (dtclient : DT)
    (htexts : ∀ s ∈ cfg.texts, Ptext s) (hpw : Ptext pw) (hreqs : ∀ r ∈ reqs, ∀ s ∈ r.texts, Ptext s)
    (huuid : ∀ i j, uuid i = uuid j → i = j) (hne : ∀ i, uuid i ≠ []) (huP : ∀ i, Ptext (uuid i))
    (readback : Str → PyM (Int × Node)) {text : Str}
    (h : requestBytes S cv env cfg pw reqs gen uuid dtclient = .ok text)
    (hrt : ∀ inst, requestStatements S cv cfg pw reqs uuid dtclient = .ok inst →
      RoundTrip readback text cfg.version inst) :
    ∃ hv inst, readback text = .ok (hv, inst) ∧ RequestSpec S cfg pw dtclient reqs hv inst := by
  unfold requestBytes at h
  obtain ⟨inst, hinst, _⟩ := PyM.bind_ok h
  exact ⟨_, inst, hrt inst hinst, C06_compose hS hcv cfg pw reqs uuid dtclient htexts hpw hreqs huuid hne huP hinst⟩

/-- `ofxget stmt`.  For every mapping without `--all`: the text `ofxget stmt` prints on a dry
    run (or posts), read back, is a request that satisfies `RequestSpec` for the client built from the mapping, the
    password `get_passwd` delivers, and the request list `wireStmt a …` — so (clauses of `RequestSpec`): a message set
    is present iff an account of one of its kinds is configured and holds wrappers of its own kinds only; the
    `STMTTRNRQ`s, in order, are exactly the configured bank accounts (account number, account type = the option's
    name, the configured bank id), the `CCSTMTTRNRQ`s exactly the configured credit cards, the `INVSTMTTRNRQ`s exactly
    the configured investment accounts (with the configured broker id), each with the converted start / end / as-of
    dates and the include flags, one wrapper per account, none other; transaction ids pairwise distinct. -/
theorem C19_wire_configured {S : Schema} {cv : Conv} {Ptext : Str → Prop} (hS : ReqWF S = true)
    (hcv : ConvOK cv Ptext) (env : Compose.Env) (args : Chain) (x : Ext) (a : Accounts)
    (t oo pos bal v : CfgVal) (tb oob posb balb : Option Bool)
    (hall : args.get? "all".toList = some v) (hnot : truthy v = false)
    (ha : HasAccounts args a) (hf : HasFlags args t oo pos bal)
    (ht : optBoolArg t = .ok tb) (hoo : optBoolArg oo = .ok oob) (hpos : optBoolArg pos = .ok posb)
    (hbal : optBoolArg bal = .ok balb)
    (cfg : Cfg) (hcfg : clientCfg args = .ok cfg) (pw : Str) (hpw : getPasswd args x.typed = .ok pw)
    (dt : Dates DT) (hdt : convertDatetime dateConvert args = .ok dt)
    (htexts : ∀ s ∈ cfg.texts, Ptext s) (hpwP : Ptext pw) (hids : ∀ id ∈ a.ids, Ptext id)
    (hty : ∀ ty ∈ requestableBankTypes, Ptext ty)
    (huuid : ∀ i j, x.uuid i = x.uuid j → i = j) (hne : ∀ i, x.uuid i ≠ []) (huP : ∀ i, Ptext (x.uuid i))
    (readback : Str → PyM (Int × Node)) {text : Str} (h : stmtBytes S cv env args x = .ok text)
    (hrt : ∀ inst, requestStatements S cv cfg pw (wireStmt a dt.start dt.end dt.asof tb oob posb balb) x.uuid
      x.dtclient = .ok inst → RoundTrip readback text cfg.version inst) :
    ∃ hv inst, readback text = .ok (hv, inst) ∧
      RequestSpec S cfg pw x.dtclient (wireStmt a dt.start dt.end dt.asof tb oob posb balb) hv inst := by
  obtain ⟨nonew, reqs, hreqs, hb⟩ := bytes_configured (closing := false) hall hnot hcfg hpw hdt h
  rw [ha.accountsOf, hf.optsOf] at hreqs
  cases (toReqs_specStmt a _ _ _ t oo pos bal tb oob posb balb ht hoo hpos hbal).symm.trans hreqs
  exact requestBytes_spec hS hcv env cfg pw _ _ x.uuid x.dtclient htexts hpwP
    (toReqs_texts hreqs fun r hr s hs => (specOf_texts false a _ r hr s hs).elim (hids s) (hty s)) huuid hne huP
    readback hb hrt

/-- `ofxget stmtend`: the `STMTENDTRNRQ`s are exactly the configured bank accounts, the
    `CCSTMTENDTRNRQ`s exactly the configured credit cards, with the converted start and end dates; nothing else. -/
theorem C19_wire_configured_stmtend {S : Schema} {cv : Conv} {Ptext : Str → Prop} (hS : ReqWF S = true)
    (hcv : ConvOK cv Ptext) (env : Compose.Env) (args : Chain) (x : Ext) (a : Accounts) (v : CfgVal)
    (hall : args.get? "all".toList = some v) (hnot : truthy v = false) (ha : HasAccounts args a)
    (cfg : Cfg) (hcfg : clientCfg args = .ok cfg) (pw : Str) (hpw : getPasswd args x.typed = .ok pw)
    (dt : Dates DT) (hdt : convertDatetime dateConvert args = .ok dt)
    (htexts : ∀ s ∈ cfg.texts, Ptext s) (hpwP : Ptext pw) (hids : ∀ id ∈ a.ids, Ptext id)
    (hty : ∀ ty ∈ requestableBankTypes, Ptext ty)
    (huuid : ∀ i j, x.uuid i = x.uuid j → i = j) (hne : ∀ i, x.uuid i ≠ []) (huP : ∀ i, Ptext (x.uuid i))
    (readback : Str → PyM (Int × Node)) {text : Str} (h : stmtendBytes S cv env args x = .ok text)
    (hrt : ∀ inst, requestStatements S cv cfg pw (wireStmtend a dt.start dt.end) x.uuid x.dtclient = .ok inst →
      RoundTrip readback text cfg.version inst) :
    ∃ hv inst, readback text = .ok (hv, inst) ∧
      RequestSpec S cfg pw x.dtclient (wireStmtend a dt.start dt.end) hv inst := by
  obtain ⟨nonew, reqs, hreqs, hb⟩ := bytes_configured (closing := true) hall hnot hcfg hpw hdt h
  rw [ha.accountsOf] at hreqs
  cases (toReqs_specStmtend a _ _ _ _ _ _ _).symm.trans hreqs
  exact requestBytes_spec hS hcv env cfg pw _ _ x.uuid x.dtclient htexts hpwP
    (toReqs_texts hreqs fun r hr s hs => (specOf_texts true a _ r hr s hs).elim (hids s) (hty s)) huuid hne huP
    readback hb hrt

def activeTexts (closing : Bool) (infos : List AcctInfo) : List Str := (specActive closing infos).flatMap AcctKey.texts

theorem texts_of_perm {closing : Bool} {infos : List AcctInfo} {rqs : List (Rq DT)}
    (hperm : (rqs.map rqAcct).Perm (specActive closing infos)) {P : Str → Prop}
    (hP : ∀ s ∈ activeTexts closing infos, P s) : ∀ r ∈ rqs, ∀ s ∈ (rqAcct r).texts, P s :=
  fun r hr s hs => hP s (List.mem_flatMap.mpr ⟨rqAcct r, hperm.mem_iff.mp (List.mem_map_of_mem hr), hs⟩)

/-- `ofxget stmt --all`.  For every command line that sets `--all` and names no account, every
    configuration underneath and every account-information response (account types in ACCTTYPES, `NoFallback`: the
    guard of `C19_all_active`): the request text, read back, satisfies `RequestSpec` for a request list `reqs` whose
    accounts are, as a multiset, exactly the accounts the response lists as ACTIVE of the requestable types — one
    wrapper each, of the kind of the account (bank: with its account type; credit card; investment), none for an
    account the response lists with another status, none other. -/
theorem C19_wire_all {S : Schema} {cv : Conv} {Ptext : Str → Prop} (hS : ReqWF S = true)
    (hcv : ConvOK cv Ptext) (env : Compose.Env) (cli : Map) (rest : Chain) (infos : List AcctInfo) (x : Ext)
    (v : CfgVal) (hacct : x.acct = .ok infos)
    (hall : Chain.get? (cli :: rest) "all".toList = some v) (ht : truthy v = true)
    (hcli : ∀ t ∈ acctKeys, cli.lookup t = none) (hv : ValidInfos infos) (hg : NoFallback rest infos)
    {text : Str} (h : stmtBytes S cv env (cli :: rest) x = .ok text) :
    ∃ plan cfg pw reqs, requestStmt dateConvert (cli :: rest) x.acct = .ok plan ∧ clientCfg plan.args = .ok cfg ∧
      getPasswd (cli :: rest) x.typed = .ok pw ∧ toReqs plan.requests = .ok reqs ∧
      (reqs.map reqKey).Perm ((specActive false infos).map some) ∧
      ((∀ s ∈ cfg.texts, Ptext s) → Ptext pw → (∀ s ∈ activeTexts false infos, Ptext s) →
        (∀ i j, x.uuid i = x.uuid j → i = j) → (∀ i, x.uuid i ≠ []) → (∀ i, Ptext (x.uuid i)) →
        ∀ readback : Str → PyM (Int × Node),
          (∀ inst, requestStatements S cv cfg pw reqs x.uuid x.dtclient = .ok inst →
            RoundTrip readback text cfg.version inst) →
          ∃ hv inst, readback text = .ok (hv, inst) ∧ RequestSpec S cfg pw x.dtclient reqs hv inst) := by
  obtain ⟨pw, plan, _, cfg, _, reqs, hpw, hplan, -, -, hcfg, -, hreqs, hb⟩ := bytesWith_ok h
  have hperm := C19_all_active dateConvert cli rest infos plan v hall ht hcli hv hg (hacct ▸ hplan)
  exact ⟨plan, cfg, pw, reqs, hplan, hcfg, hpw, hreqs, perm_keys hperm hreqs,
    fun htexts hpwP hact huuid hne huP readback hrt => requestBytes_spec hS hcv env cfg pw reqs _ x.uuid x.dtclient htexts
      hpwP (toReqs_texts hreqs (texts_of_perm hperm hact)) huuid hne huP readback hb hrt⟩

/-- `ofxget stmtend --all` (bank and credit-card accounts) -/
theorem C19_wire_all_stmtend {S : Schema} {cv : Conv} {Ptext : Str → Prop} (hS : ReqWF S = true)
    (hcv : ConvOK cv Ptext) (env : Compose.Env) (cli : Map) (rest : Chain) (infos : List AcctInfo) (x : Ext)
    (v : CfgVal) (hacct : x.acct = .ok infos)
    (hall : Chain.get? (cli :: rest) "all".toList = some v) (ht : truthy v = true)
    (hcli : ∀ t ∈ closingKeys, cli.lookup t = none) (hv : ValidInfos infos) (hg : NoFallbackClosing rest infos)
    {text : Str} (h : stmtendBytes S cv env (cli :: rest) x = .ok text) :
    ∃ plan cfg pw reqs, requestStmtend dateConvert (cli :: rest) x.acct = .ok plan ∧ clientCfg plan.args = .ok cfg ∧
      getPasswd (cli :: rest) x.typed = .ok pw ∧ toReqs plan.requests = .ok reqs ∧
      (reqs.map reqKey).Perm ((specActive true infos).map some) ∧
      ((∀ s ∈ cfg.texts, Ptext s) → Ptext pw → (∀ s ∈ activeTexts true infos, Ptext s) →
        (∀ i j, x.uuid i = x.uuid j → i = j) → (∀ i, x.uuid i ≠ []) → (∀ i, Ptext (x.uuid i)) →
        ∀ readback : Str → PyM (Int × Node),
          (∀ inst, requestStatements S cv cfg pw reqs x.uuid x.dtclient = .ok inst →
            RoundTrip readback text cfg.version inst) →
          ∃ hv inst, readback text = .ok (hv, inst) ∧ RequestSpec S cfg pw x.dtclient reqs hv inst) := by
  obtain ⟨pw, plan, _, cfg, _, reqs, hpw, hplan, -, -, hcfg, -, hreqs, hb⟩ := bytesWith_ok h
  have hperm := C19_all_active_stmtend dateConvert cli rest infos plan v hall ht hcli hv hg (hacct ▸ hplan)
  exact ⟨plan, cfg, pw, reqs, hplan, hcfg, hpw, hreqs, perm_keys hperm hreqs,
    fun htexts hpwP hact huuid hne huP readback hrt => requestBytes_spec hS hcv env cfg pw reqs _ x.uuid x.dtclient htexts
      hpwP (toReqs_texts hreqs (texts_of_perm hperm hact)) huuid hne huP readback hb hrt⟩

/-- `ofxget stmt`.  In any instance that satisfies `RequestSpec` for the request list of the
    configured accounts — by `C19_wire_configured`, what the printed text reads back to — the bank message set holds
    as many `STMTTRNRQ`s as bank accounts are configured (over the four types), the credit-card message set as many
    `CCSTMTTRNRQ`s as credit cards, the investment message set as many `INVSTMTTRNRQ`s as investment accounts, no
    closing-statement request, and no member of a message set is anything but a wrapper of its kinds. -/
theorem C19_wire_count (S : Schema) (cfg : Cfg) (pw : Str) (dtc : DT) (a : Accounts) (ds de da : Option DT)
    (t oo pos bal : Option Bool) (hv : Int) (root : Node)
    (h : RequestSpec S cfg pw dtc (wireStmt a ds de da t oo pos bal) hv root) :
    ((fieldVal root "bankmsgsrqv1").items.filter (isWrapper S .stmt)).length =
        a.checking.length + a.savings.length + a.moneymrkt.length + a.creditline.length ∧
    ((fieldVal root "creditcardmsgsrqv1").items.filter (isWrapper S .ccStmt)).length = a.creditcard.length ∧
    ((fieldVal root "invstmtmsgsrqv1").items.filter (isWrapper S .invStmt)).length = a.investment.length ∧
    ((fieldVal root "bankmsgsrqv1").items.filter (isWrapper S .stmtEnd)).length = 0 ∧
    ((fieldVal root "creditcardmsgsrqv1").items.filter (isWrapper S .ccStmtEnd)).length = 0 ∧
    (∀ m : MsgSet, ∀ w ∈ (fieldVal root m.attrName).items, ∃ k ∈ kindsUnder m, isWrapper S k w = true) := by
  have c := fun k => (spec_count S cfg pw dtc _ hv root h k).trans (wireStmt_kinds a ds de da t oo pos bal k)
  exact ⟨c .stmt, c .ccStmt, c .invStmt, c .stmtEnd, c .ccStmtEnd, spec_only_wrappers S cfg pw dtc _ hv root h⟩

theorem C19_wire_count_stmtend (S : Schema) (cfg : Cfg) (pw : Str) (dtc : DT) (a : Accounts) (ds de : Option DT)
    (hv : Int) (root : Node) (h : RequestSpec S cfg pw dtc (wireStmtend a ds de) hv root) :
    ((fieldVal root "bankmsgsrqv1").items.filter (isWrapper S .stmtEnd)).length =
        a.checking.length + a.savings.length + a.moneymrkt.length + a.creditline.length ∧
    ((fieldVal root "creditcardmsgsrqv1").items.filter (isWrapper S .ccStmtEnd)).length = a.creditcard.length ∧
    ((fieldVal root "bankmsgsrqv1").items.filter (isWrapper S .stmt)).length = 0 ∧
    ((fieldVal root "creditcardmsgsrqv1").items.filter (isWrapper S .ccStmt)).length = 0 ∧
    (fieldVal root "invstmtmsgsrqv1").items = [] ∧
    (∀ m : MsgSet, ∀ w ∈ (fieldVal root m.attrName).items, ∃ k ∈ kindsUnder m, isWrapper S k w = true) := by
  have c := fun k => (spec_count S cfg pw dtc _ hv root h k).trans (wireStmtend_kinds a ds de k)
  have only := spec_only_wrappers S cfg pw dtc _ hv root h
  refine ⟨c .stmtEnd, c .ccStmtEnd, c .stmt, c .ccStmt, ?_, only⟩
  -- every member of the investment message set would be an INVSTMTTRNRQ, and there are none
  have hinv : ((fieldVal root "invstmtmsgsrqv1").items.filter (isWrapper S .invStmt)).length = 0 := c .invStmt
  apply List.eq_nil_iff_forall_not_mem.mpr
  intro w hw
  obtain ⟨k, hk, hkw⟩ := only .invstmt w hw
  simp only [kindsUnder, List.mem_singleton] at hk
  subst hk
  have : w ∈ (fieldVal root "invstmtmsgsrqv1").items.filter (isWrapper S .invStmt) :=
    List.mem_filter.mpr ⟨hw, hkw⟩
  rw [List.length_eq_zero_iff.mp hinv] at this
  cases this

/-- The client `init_client(args)` builds carries the configured bank id and broker id (`None`
    when empty) — which `C06` shows are the BANKID / BROKERID of every bank / investment request —, writes end tags
    unless `unclosedelements` is set, and uses the configured version and pretty-printing flag. -/
theorem C19_wire_client (args : Chain) (cfg : Cfg) (h : clientCfg args = .ok cfg) :
    ∃ b k u ver pp verN ppB, args.getItem "bankid".toList = .ok b ∧ args.getItem "brokerid".toList = .ok k ∧
      args.getItem "unclosedelements".toList = .ok u ∧ args.getItem "version".toList = .ok ver ∧
      args.getItem "pretty".toList = .ok pp ∧
      optStrArg (Ofxget.orNone b) = .ok cfg.bankid ∧ optStrArg (Ofxget.orNone k) = .ok cfg.brokerid ∧
      cfg.closeElements = !truthy u ∧
      optVersionArg ver = .ok verN ∧ cfg.version = orDefault verN 203 ∧
      optBoolArg pp = .ok ppB ∧ cfg.prettyprint = orDefault ppB false :=
  clientCfg_fields args cfg h

/-- A dry run signs on with the dummy password of the OFX specification, whatever is
    configured; otherwise with the configured password when there is one. -/
theorem C19_wire_password (args : Chain) (typed : Str) (d : CfgVal) (hd : args.get? "dryrun".toList = some d) :
    (truthy d = true → getPasswd args typed = .ok authPlaceholder) ∧
    (truthy d = false → ∀ s, s ≠ [] → args.get? "password".toList = some (.str s) → getPasswd args typed = .ok s) := by
  constructor
  · intro h
    unfold getPasswd
    rw [getItem_of_get? hd]
    simp [h]
  · intro h s hs hp
    have : truthy (.str s) = true := by cases s with
      | nil => exact absurd rfl hs
      | cons c cs => rfl
    unfold getPasswd
    rw [getItem_of_get? hd, getItem_of_get? hp]
    simp [h, this]

section
open Ofx.DateTime Ofx.Spec.Instant

/-- the converted value of one date option is the value denoting the instant of its text (none for an empty text) -/
def Denotes (o : Option Parts) (r : Option DT) : Prop :=
  match o with
  | none => r = none
  | some p => ∃ d, r = some d ∧ dtInstantUs d = some (1000 * p.instant)

/-- The dates on the wire are the instants the command line denotes: when the three configured
    texts are empty or texts of the OFX date-time notation (`Parts.render` of well-formed parts) denoting instants in
    the years 1000..9999, `convert_datetime` succeeds, an empty text gives no date, and every other gives the UTC
    value at millisecond resolution (`dtUtcMs`: what the wire can carry, the guard of the read-back theorems) that
    denotes exactly the instant of the text (`Spec.Instant`). -/
theorem C19_wire_dates (args : Chain) (ps pe pa : Option Parts)
    (hs : args.get? "dtstart".toList = some (.str (match ps with | some p => p.render | none => [])))
    (he : args.get? "dtend".toList = some (.str (match pe with | some p => p.render | none => [])))
    (ha : args.get? "dtasof".toList = some (.str (match pa with | some p => p.render | none => [])))
    (hok : ∀ p, ps = some p ∨ pe = some p ∨ pa = some p →
      p.wf false = true ∧ lenOk p = true ∧ us1000 ≤ 1000 * p.instant ∧ 1000 * p.instant < usEnd) :
    ∃ dt, convertDatetime dateConvert args = .ok dt ∧ (∀ d ∈ dt.all, dtUtcMs d) ∧
      Denotes ps dt.start ∧ Denotes pe dt.end ∧ Denotes pa dt.asof := by
  have one : ∀ (o : Option Parts), (∀ p, o = some p → p.wf false = true ∧ lenOk p = true ∧
      us1000 ≤ 1000 * p.instant ∧ 1000 * p.instant < usEnd) →
      ∃ r, (do let a ← dateArg (.str (match o with | some p => p.render | none => [])); dateConvert a) = .ok r ∧
        (∀ d ∈ r.toList, dtUtcMs d) ∧ Denotes o r := by
    intro o ho
    cases o with
    | none => exact ⟨none, rfl, by simp, rfl⟩
    | some p =>
      obtain ⟨hwf, hg, hr⟩ := ho p rfl
      obtain ⟨d, hd, hu, hi⟩ := dateConvert_notation p hwf hg hr
      have hne : p.render ≠ [] := by
        intro hnil
        rw [hnil] at hd
        cases hd
      refine ⟨some d, ?_, ?_, d, rfl, hi⟩
      · have hemp : p.render.isEmpty = false := by
          cases hp : p.render with
          | nil => exact absurd hp hne
          | cons c cs => rfl
        simp only [dateArg, hemp, PyM.ok_bind]
        exact hd
      · intro d' hd'
        simp only [Option.toList, List.mem_singleton] at hd'
        subst hd'
        exact hu
  obtain ⟨rs, h1, u1, i1⟩ := one ps (fun p hp => hok p (Or.inl hp))
  obtain ⟨re, h2, u2, i2⟩ := one pe (fun p hp => hok p (Or.inr (Or.inl hp)))
  obtain ⟨ra, h3, u3, i3⟩ := one pa (fun p hp => hok p (Or.inr (Or.inr hp)))
  refine ⟨⟨rs, re, ra⟩, ?_, ?_, i1, i2, i3⟩
  · unfold convertDatetime
    obtain ⟨a1, ha1, h1⟩ := PyM.bind_ok h1
    obtain ⟨a2, ha2, h2⟩ := PyM.bind_ok h2
    obtain ⟨a3, ha3, h3⟩ := PyM.bind_ok h3
    simp only [getItem_of_get? hs, getItem_of_get? he, getItem_of_get? ha, ha1, ha2, ha3, h1, h2, h3,
      PyM.ok_bind]
    rfl
  · intro d hd
    simp only [Dates.all, List.mem_append] at hd
    rcases hd with (hd | hd) | hd
    · exact u1 d hd
    · exact u2 d hd
    · exact u3 d hd

end

/-- a command line: two checking accounts, a credit card, an investment account, start and end date, no balances -/
def exCli : Map :=
  [("url".toList, .str "https://bank.example/ofx".toList), ("user".toList, .str "bob".toList),
   ("dryrun".toList, .bool true), ("checking".toList, .list ["111".toList, "222".toList]),
   ("creditcard".toList, .list ["4444".toList]), ("investment".toList, .list ["I-9".toList]),
   ("bankid".toList, .str "111000614".toList), ("brokerid".toList, .str "broker.example".toList),
   ("dtstart".toList, .str "20200101".toList), ("dtend".toList, .str "20200229120000.123[-5:EST]".toList),
   ("incbal".toList, .bool false)]

def exArgs : Chain := [exCli, [], Ofx.Generated.ofxgetTables.defaults]

def exAccounts : Accounts := ⟨["111".toList, "222".toList], [], [], [], ["4444".toList], ["I-9".toList]⟩

/-- one evaluation for the eleven look-ups: most of them run through the whole table of defaults -/
theorem exArgs_guards : exArgs.get? "all".toList = some (.bool false) ∧ HasAccounts exArgs exAccounts ∧
    HasFlags exArgs (.bool true) (.bool false) (.bool true) (.bool false) := by
  have h : exArgs.get? "all".toList = some (.bool false) ∧
      (exArgs.get? "checking".toList = some (.list exAccounts.checking) ∧
       exArgs.get? "savings".toList = some (.list exAccounts.savings) ∧
       exArgs.get? "moneymrkt".toList = some (.list exAccounts.moneymrkt) ∧
       exArgs.get? "creditline".toList = some (.list exAccounts.creditline) ∧
       exArgs.get? "creditcard".toList = some (.list exAccounts.creditcard) ∧
       exArgs.get? "investment".toList = some (.list exAccounts.investment)) ∧
      exArgs.get? "inctran".toList = some (.bool true) ∧ exArgs.get? "incoo".toList = some (.bool false) ∧
      exArgs.get? "incpos".toList = some (.bool true) ∧ exArgs.get? "incbal".toList = some (.bool false) := by
    decide +kernel
  obtain ⟨hall, ⟨a1, a2, a3, a4, a5, a6⟩, f1, f2, f3, f4⟩ := h
  exact ⟨hall, ⟨a1, a2, a3, a4, a5, a6⟩, ⟨f1, f2, f3, f4⟩⟩

example : exArgs.get? "all".toList = some (.bool false) ∧ HasAccounts exArgs exAccounts ∧
    HasFlags exArgs (.bool true) (.bool false) (.bool true) (.bool false) := exArgs_guards

/-- the dates of that command line, as `Parts` -/
example : (⟨some (2020, 1, 1), none, none, none⟩ : Spec.Instant.Parts).render = "20200101".toList := by decide +kernel

end Ofx.OfxgetWire
