/-
C04 — every constraint a model class declares is enforced at every way of building it.

Generic in the schema `S` and the converters `cv`: one rejection theorem per constraint kind on the keyword route
(`construct` = `Cls(*args, **kwargs)`), and what a successful construction implies, `C04_sound_kw` (read off
`construct_ok_iff`, Lemmas/AggConstruct.lean).  The tree route is in Props/C04Order.lean, Props/C04Groom.lean and
Props/C04Ext.lean; of it only two facts about one `update_args` step stand here (`updateArgs_eq`, `updateArgs_kwargs`).
The static half (every declared group is in force, names existing optional non-repeated children) is the generated
obligation `Gen.schema_wf_except_known`.
-/
import OfxProofs.Lemmas.AggConstruct
namespace Ofx.Agg
open Ofx

theorem construct_error_of_setAttr (S : Schema) (cv : Conv) (ci : Nat) (c : Cls) (args : List Node)
    (kw : List (Str × Node)) (a : Attr) (hc : S.cls? ci = some c) (ha : a ∈ specNoList c)
    (hset : ∃ e, setAttr S cv a ((lookup a.name kw).getD (.val .none)) = .error e) :
    ∃ e, construct S cv ci args kw = .error e := by
  apply PyM.not_ok_error
  intro n hn
  obtain ⟨fields, _, _, hs, _⟩ := construct_ok_cls hc hn
  obtain ⟨o, ho⟩ := setAttrs_ok_each S cv kw _ fields hs a ha
  obtain ⟨e, he⟩ := hset
  rw [he] at ho; cases ho

theorem two_le_length_of_mem {α} [DecidableEq α] {l : List α} {a b : α} (ha : a ∈ l) (hb : b ∈ l) (hne : a ≠ b) :
    2 ≤ l.length := by
  match l, ha, hb with
  | [], ha, _ => simp at ha
  | [x], ha, hb =>
    simp at ha hb; subst ha; subst hb; exact absurd rfl hne
  | _ :: _ :: _, _, _ => simp

def Given (kw : List (Str × Node)) (m : Str) : Prop := ∃ v, lookup m kw = some v ∧ given v = true

/-- what "omitted" negates for a required child -/
def Present (kw : List (Str × Node)) (m : Str) : Prop := ∃ v, lookup m kw = some v ∧ notNone v = true

theorem given_notNone (v : Node) (h : given v = true) : notNone v = true := by
  cases v with
  | val x => cases x <;> simp_all [given, notNone]
  | agg _ _ _ => rfl

theorem Present_of_Given {kw : List (Str × Node)} {m : Str} (h : Given kw m) : Present kw m := by
  obtain ⟨v, hl, hg⟩ := h
  exact ⟨v, hl, given_notNone v hg⟩

/-- `kwargs.pop(attr, None)` for a keyword that is absent or `None` -/
theorem getD_of_not_present (kw : List (Str × Node)) (n : Str) (h : ¬ Present kw n) :
    (lookup n kw).getD (.val .none) = .val .none := by
  cases hl : lookup n kw with
  | none => rfl
  | some v =>
    cases hv : notNone v with
    | true => exact absurd ⟨v, hl, hv⟩ h
    | false =>
      cases v with
      | val x => cases x <;> first | rfl | cases hv
      | agg _ _ _ => cases hv

theorem mutexCount_two (kw : List (Str × Node)) (g : List Str) (m1 m2 : Str) (h1 : m1 ∈ g) (h2 : m2 ∈ g)
    (hne : m1 ≠ m2) (hv1 : Given kw m1) (hv2 : Given kw m2) : 2 ≤ mutexCount kw g := by
  unfold mutexCount
  obtain ⟨v1, hl1, hn1⟩ := hv1
  obtain ⟨v2, hl2, hn2⟩ := hv2
  apply two_le_length_of_mem (a := m1) (b := m2) _ _ hne
  · simp [List.mem_filter, h1, hl1, hn1]
  · simp [List.mem_filter, h2, hl2, hn2]

theorem mutexCount_zero (kw : List (Str × Node)) (g : List Str) (h : ∀ m ∈ g, ¬ Given kw m) :
    mutexCount kw g = 0 := by
  unfold mutexCount
  rw [List.length_eq_zero_iff, List.filter_eq_nil_iff]
  intro m hm
  have := h m hm
  cases hl : lookup m kw with
  | none => simp
  | some v =>
    simp only
    intro hn
    exact this ⟨v, hl, hn⟩

theorem construct_error_of_not_validate (S : Schema) (cv : Conv) (ci : Nat) (c : Cls) (args : List Node)
    (kw : List (Str × Node)) (hc : S.cls? ci = some c) (h : validateArgs S c args kw ≠ .ok ()) :
    ∃ e, construct S cv ci args kw = .error e := by
  apply PyM.not_ok_error
  intro n hn
  obtain ⟨_, _, hv, _⟩ := construct_ok_cls hc hn
  exact h hv

/-- C04 (at-most-one groups): two members of a group in force, both given, are rejected. -/
theorem C04_reject_mutex_two (S : Schema) (cv : Conv) (ci : Nat) (c : Cls) (args : List Node)
    (kw : List (Str × Node)) (g : List Str) (m1 m2 : Str) (hc : S.cls? ci = some c) (hg : g ∈ c.optMutex)
    (h1 : m1 ∈ g) (h2 : m2 ∈ g) (hne : m1 ≠ m2) (hv1 : Given kw m1) (hv2 : Given kw m2) :
    ∃ e, construct S cv ci args kw = .error e := by
  apply construct_error_of_not_validate S cv ci c args kw hc
  intro hv
  have := (validate_ok S c args kw hv).2.1 g hg
  have := mutexCount_two kw g m1 m2 h1 h2 hne hv1 hv2
  omega

/-- C04 (exactly-one groups): none of the group given is rejected. -/
theorem C04_reject_reqmutex_none (S : Schema) (cv : Conv) (ci : Nat) (c : Cls) (args : List Node)
    (kw : List (Str × Node)) (g : List Str) (hc : S.cls? ci = some c) (hg : g ∈ c.reqMutex)
    (hnone : ∀ m ∈ g, ¬ Given kw m) : ∃ e, construct S cv ci args kw = .error e := by
  apply construct_error_of_not_validate S cv ci c args kw hc
  intro hv
  have := (validate_ok S c args kw hv).2.2 g hg
  have := mutexCount_zero kw g hnone
  omega

/-- C04 (exactly-one groups): two of the group given is rejected. -/
theorem C04_reject_reqmutex_two (S : Schema) (cv : Conv) (ci : Nat) (c : Cls) (args : List Node)
    (kw : List (Str × Node)) (g : List Str) (m1 m2 : Str) (hc : S.cls? ci = some c) (hg : g ∈ c.reqMutex)
    (h1 : m1 ∈ g) (h2 : m2 ∈ g) (hne : m1 ≠ m2) (hv1 : Given kw m1) (hv2 : Given kw m2) :
    ∃ e, construct S cv ci args kw = .error e := by
  apply construct_error_of_not_validate S cv ci c args kw hc
  intro hv
  have := (validate_ok S c args kw hv).2.2 g hg
  have := mutexCount_two kw g m1 m2 h1 h2 hne hv1 hv2
  omega

theorem construct_error_of_required_absent (S : Schema) (cv : Conv) (ci : Nat) (c : Cls) (args : List Node)
    (kw : List (Str × Node)) (a : Attr) (hc : S.cls? ci = some c) (ha : a ∈ c.spec)
    (hl : a.kind.isList = false) (hu : a.kind.isUnsupported = false) (hreq : a.required = true)
    (hcv : Kind.subTarget a.kind = none → ∃ e, cv.convert S.enums a.kind true .none = .error e)
    (hng : ¬ Present kw a.name) : ∃ e, construct S cv ci args kw = .error e := by
  apply construct_error_of_setAttr S cv ci c args kw a hc (mem_specNoList.mpr ⟨ha, hl⟩)
  rw [getD_of_not_present kw a.name hng]
  rcases Kind.cases3 a.kind with ⟨t, hk⟩ | hs | ⟨_, _, hs⟩
  · exact ⟨.spec, by rw [setAttr_sub S cv a _ t hk, hreq]; rfl⟩
  · rw [hl, hu] at hs; rcases hs with h | h <;> cases h
  · obtain ⟨e, he⟩ := hcv (Kind.subTarget_eq_none.mpr hs)
    exact ⟨e, by rw [setAttr_elem S cv a _ hl hu hs, hreq]; simp only [Node.toVal]; rw [he]; rfl⟩

/-- C04 (required sub-aggregate): omitting it is rejected. -/
theorem C04_reject_required_sub (S : Schema) (cv : Conv) (ci : Nat) (c : Cls) (args : List Node)
    (kw : List (Str × Node)) (a : Attr) (t : Nat) (hc : S.cls? ci = some c) (ha : a ∈ c.spec)
    (hk : a.kind = .sub t) (hreq : a.required = true) (hng : ¬ Present kw a.name) :
    ∃ e, construct S cv ci args kw = .error e :=
  construct_error_of_required_absent S cv ci c args kw a hc ha (by rw [hk]; rfl) (by rw [hk]; rfl) hreq
    (fun hst => by rw [hk] at hst; cases hst) hng

/-- C04 (required element): omitting it is rejected, for converters that refuse `None` when required. -/
theorem C04_reject_required_elem (S : Schema) (cv : Conv) (ci : Nat) (c : Cls) (args : List Node)
    (kw : List (Str × Node)) (a : Attr) (hc : S.cls? ci = some c) (ha : a ∈ c.spec)
    (hl : a.kind.isList = false) (hu : a.kind.isUnsupported = false) (hst : Kind.subTarget a.kind = none)
    (hreq : a.required = true) (hng : ¬ Present kw a.name)
    (hcv : ∃ e, cv.convert S.enums a.kind true .none = .error e) :
    ∃ e, construct S cv ci args kw = .error e :=
  construct_error_of_required_absent S cv ci c args kw a hc ha hl hu hreq (fun _ => hcv) hng

/-- C04 (unknown keyword): a kwarg that is not a non-repeated spec attribute is rejected. -/
theorem C04_reject_unknown_kwarg (S : Schema) (cv : Conv) (ci : Nat) (c : Cls) (args : List Node)
    (kw : List (Str × Node)) (k : Str) (hc : S.cls? ci = some c) (hk : k ∈ kw.map (·.1))
    (hnot : k ∉ (specNoList c).map (·.name)) : ∃ e, construct S cv ci args kw = .error e := by
  apply PyM.not_ok_error
  intro n hn
  obtain ⟨_, _, _, _, _, hr, _⟩ := construct_ok_cls hc hn
  have hres : k ∈ residualKeys c kw := by
    simp only [residualKeys, List.mem_filter, hk, true_and]
    simpa using hnot
  unfold applyResidual at hr
  cases hrk : residualKeys c kw with
  | nil => rw [hrk] at hres; cases hres
  | cons x xs =>
    rw [hrk] at hr
    simp only at hr
    split at hr <;> cases hr

/-- C04 (list member types): a plain aggregate rejects a member whose class is not one of its list attributes,
    and any non-aggregate member. -/
theorem C04_reject_list_member (S : Schema) (cv : Conv) (ci : Nat) (c : Cls) (args : List Node)
    (kw : List (Str × Node)) (m : Node) (hc : S.cls? ci = some c) (hel : c.elementList = false)
    (hm : m ∈ args)
    (hbad : m.isAgg = false ∨ (listAggNames c).contains (lower (argClassName S m)) = false) :
    ∃ e, construct S cv ci args kw = .error e := by
  apply PyM.not_ok_error
  intro n hn
  obtain ⟨_, items, _, _, ha, _⟩ := construct_ok_cls hc hn
  rw [applyArgs_plain args hel] at ha
  obtain ⟨y, _, hy⟩ := PyM.mapM_mem_left ha hm
  cases m with
  | val v => cases hy
  | agg cj f i =>
    rcases hbad with h | h
    · cases h
    · simp only [applyArg, h, Bool.false_eq_true, if_false] at hy; cases hy

theorem updateArgs_eq (c : Cls) (acc : Accum) (ch : Tree) (sub : PyM Node) (idx : Nat)
    (hg : c.groom = none) (hdot : '.' ∉ ch.tag) (hidx : specIndex c (lower ch.tag) = some idx) :
    updateArgs c acc ch sub =
      if outOfOrder acc.prev idx && !(isListMember c (lower ch.tag) && acc.prevIsList) then .error .spec
      else (if unsupportedAt c idx then (.ok (Node.val .none) : PyM Node) else childValue ch sub) >>= fun value =>
        if isListMember c (lower ch.tag) then
          .ok { acc with args := acc.args ++ [value], prev := some idx, prevIsList := true }
        else if hasKey (lower ch.tag) acc.kwargs then .error .spec
        else .ok { acc with kwargs := acc.kwargs ++ [(lower ch.tag, value)], prev := some idx,
                            prevIsList := false } := by
  rw [updateArgs_core, groomTag_none c acc.renamed ch.tag hg]
  have hd : ch.tag.contains '.' = false := by simpa using hdot
  simp only [hd, Bool.false_eq_true, if_false, stepCore, hidx]

theorem updateArgs_kwargs (c : Cls) (hg : c.groom = none) (acc acc' : Accum) (ch : Tree) (sub : PyM Node)
    (h : updateArgs c acc ch sub = .ok acc') :
    acc'.kwargs = acc.kwargs ∨ ∃ n v, acc'.kwargs = acc.kwargs ++ [(n, v)] := by
  rcases updateArgs_ok h with ⟨rfl, _⟩ | ⟨tag, _, h⟩
  · exact Or.inl rfl
  · rcases stepCore_ok h with ⟨_, rfl⟩ | ⟨_, _, _, _, _, ⟨_, rfl⟩ | ⟨_, _, rfl⟩⟩
    · exact Or.inl rfl
    · exact Or.inl rfl
    · exact Or.inr ⟨_, _, rfl⟩

/-- C04 (consequence): every instance that keyword construction returns satisfies the declared groups on
    the keywords it was given, holds — per supported non-repeated attribute, in spec order — what the
    attribute's converter accepted, has only permitted list members, and was given no foreign keyword. -/
theorem C04_sound_kw (S : Schema) (cv : Conv) (ci : Nat) (args : List Node) (kw : List (Str × Node)) (n : Node)
    (h : construct S cv ci args kw = .ok n) :
    ∃ c fields items, n = .agg ci fields items ∧ S.cls? ci = some c ∧
      extraRule S c.extra args kw = .ok () ∧
      (∀ g ∈ c.optMutex, mutexCount kw g ≤ 1) ∧ (∀ g ∈ c.reqMutex, mutexCount kw g = 1) ∧
      FieldsMatch (fun a v => setAttr S cv a ((lookup a.name kw).getD (.val .none)) = .ok (some v))
        (specNoList c) fields ∧
      applyArgs S cv c args = .ok items ∧
      (∀ k ∈ kw.map (·.1), k ∈ (specNoList c).map (·.name)) := by
  obtain ⟨c, fields, items, hc, hv, hs, ha, hr, rfl⟩ := (construct_ok_iff S cv ci args kw n).mp h
  obtain ⟨hx, ho, hq⟩ := validate_ok S c args kw hv
  refine ⟨c, fields, items, rfl, hc, hx, ho, hq,
    setAttrs_specNoList_fieldsMatch hs, ha, ?_⟩
  intro k hk
  apply Classical.byContradiction
  intro hnot
  obtain ⟨e, he⟩ := C04_reject_unknown_kwarg S cv ci c args kw k hc hk hnot
  rw [h] at he; cases he

/-- what `setattr` stores for a required sub-aggregate attribute is an instance of the declared class (one `setAttr`
    call on any value `w`, not a whole construction) -/
theorem C04_sound_required_sub (S : Schema) (a : Attr) (t : Nat) (v : Node) (w : Node)
    (hk : a.kind = .sub t) (hreq : a.required = true) (cv : Conv)
    (h : setAttr S cv a w = .ok (some v)) : ∃ cj f i, v = .agg cj f i ∧ isInstance S cj t = true := by
  rcases setAttr_ok_some h with ⟨t', hk', hv⟩ | ⟨_, _, hs, _⟩
  · obtain ⟨rfl, ⟨_, hr⟩ | hi⟩ := convertSub_ok hv
    · rw [hreq] at hr; cases hr
    · rw [hk] at hk'; injection hk' with hk'; subst hk'; exact hi
  · exact absurd hk (hs t)

end Ofx.Agg
