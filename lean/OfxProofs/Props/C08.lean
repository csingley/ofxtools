/-
C08 — improperly nested or truncated markup is never accepted (DESIGN 6.8).

`parse s` returns a tree iff the token list of `s` is `balanced`.  Proof: `step_sim` — one loop iteration of `feed` and one
`balStep` of the specification simulate each other on (names of the open frames, root present), for every well-formed
regex match (`toks_wf`).  Left out: cut points inside a token (covered by the correspondence, not by a theorem), and
characters the regex does not match, which `finditer` skips before any of this applies (known findings
`unmatched-markup-skipped`, `text-before-root-skipped`): `balanced` speaks about the token list.
-/
import OfxProofs.Lemmas.Builder
import OfxProofs.Props.C02

namespace Ofx.C08
open Ofx Ofx.Lexer Ofx.Builder Ofx.Spec

def names (st : St) : List Str := st.stack.map (·.tag)
def done (st : St) : Bool := st.root.isSome

/-- `St.end_` leaves `root` as it is while frames remain, where `balStep` answers `done = false`: `done` agrees with
    the specification only on states with no root before the last frame is closed -/
def Inv (st : St) : Prop := st.stack ≠ [] → st.root = none

theorem inv_init : Inv St.init := fun h => absurd rfl h

theorem truthy_eq_nonEmpty (o : Option Str) : truthy o = nonEmpty o := by
  cases o with
  | none => rfl
  | some x => cases x <;> rfl

/-- what the specification sees of a builder result -/
def absR : PyM St → Option (List Str × Bool)
  | .ok st => some (names st, done st)
  | .error _ => none

theorem names_emit (t : Tree) (st : St) : names (st.emit t) = names st := by
  obtain ⟨stack, root⟩ := st
  cases stack <;> simp [St.emit, names, Frame.add]

theorem done_emit (t : Tree) (st : St) : done (st.emit t) = ((names st).isEmpty || done st) := by
  obtain ⟨stack, root⟩ := st
  cases stack <;> simp [St.emit, names, done]

theorem inv_emit (t : Tree) (st : St) (h : Inv st) : Inv (st.emit t) := by
  obtain ⟨stack, root⟩ := st
  cases stack with
  | nil => intro h'; simp [St.emit] at h'
  | cons f fs => intro _; simpa [St.emit] using h (by simp)

def Sim (r : PyM St) (o : Option (List Str × Bool)) : Prop :=
  absR r = o ∧ ∀ st', r = .ok st' → Inv st'

theorem Sim.error (e : Err) : Sim (.error e) none := ⟨rfl, fun _ h => by cases h⟩

theorem Sim.ok {st : St} (h : Inv st) : Sim (.ok st) (some (names st, done st)) :=
  ⟨rfl, fun _ e => by cases e; exact h⟩

theorem end_sim (name : Str) (st : St) (hinv : Inv st) :
    Sim (st.end_ name)
      (match names st with
       | top :: rest => if top = name then some (rest, rest.isEmpty) else none
       | [] => none) := by
  obtain ⟨stack, root⟩ := st
  cases stack with
  | nil => exact Sim.error _
  | cons f fs =>
    by_cases hf : f.tag = name
    · cases fs with
      | nil => simpa [St.end_, names, done, hf] using Sim.ok (st := ⟨[], some f.toTree⟩) (fun h => absurd rfl h)
      | cons g gs =>
        have hr : root = none := hinv (by simp)
        subst hr
        simpa [St.end_, names, done, hf, Frame.add] using Sim.ok (st := ⟨g.add f.toTree :: gs, none⟩) (fun _ => rfl)
    · simpa [St.end_, names, hf] using Sim.error .parse

theorem closed_eq (st : St) : st.closed = ((names st).isEmpty && done st) := by
  simp [St.closed, names, done]

theorem emit_sim (t : Tree) (st : St) (hinv : Inv st) :
    Sim (.ok (st.emit t)) (some (names st, (names st).isEmpty || done st)) := by
  simpa only [names_emit, done_emit] using Sim.ok (inv_emit t st hinv)

theorem push_sim (tag : Str) (st : St) (hinv : Inv st) (hcs : st.CanStart) :
    Sim (.ok (st.push tag)) (some (tag :: names st, done st)) :=
  Sim.ok (st := st.push tag) (fun _ => by
    obtain ⟨stack, root⟩ := st
    cases stack with
    | nil => cases root with
      | none => rfl
      | some _ => cases hcs
    | cons _ _ => exact hinv (by simp))

theorem step_sim (m : Match) (st : St) (hw : WfMatch m) (hinv : Inv st) :
    Sim (step m st) (balStep m (names st) (done st)) := by
  rw [step_eq m st hw]
  unfold balStep
  cases hb : blank m.tail with
  | false => exact Sim.error _
  | true =>
    simp only [Bool.true_eq_false, if_false, Bool.not_true, Bool.false_eq_true]
    cases hen : endName m.tag with
    | some name =>
      simp only
      cases hdat : hasData m with
      | true => exact Sim.error _
      | false => simp only [Bool.false_eq_true, if_false]; exact end_sim name st hinv
    | none =>
      simp only
      cases hcl : st.closed with
      | true => rw [← closed_eq, hcl]; exact Sim.error _
      | false =>
        rw [← closed_eq, hcl]
        simp only [Bool.false_eq_true, if_false]
        cases hdat : hasData m with
        | true => simp only [if_true, Bool.true_or]; exact emit_sim _ st hinv
        | false =>
          simp only [Bool.false_eq_true, if_false, Bool.false_or]
          cases hc : m.closetag.isSome with
          | true => simp only [if_true]; exact emit_sim _ st hinv
          | false => simp only [Bool.false_eq_true, if_false]; exact push_sim _ st hinv hcl

theorem step_abs (m : Match) (st : St) (hw : WfMatch m) (hinv : Inv st) :
    absR (step m st) = balStep m (names st) (done st) :=
  (step_sim m st hw hinv).1

def balRun : List Match → List Str → Bool → Option (List Str × Bool)
  | [], s, d => some (s, d)
  | m :: ms, s, d =>
    match balStep m s d with
    | some (s', d') => balRun ms s' d'
    | none => none

theorem balancedGo_eq (ms : List Match) (s : List Str) (d : Bool) :
    balancedGo ms s d = (match balRun ms s d with | some (s', d') => s'.isEmpty && d' | none => false) := by
  induction ms generalizing s d with
  | nil => rfl
  | cons m ms ih =>
    simp only [balancedGo, balRun]
    cases balStep m s d with
    | none => rfl
    | some p => exact ih p.1 p.2

theorem feedToks_abs (ms : List Match) (st : St) (hw : ∀ m ∈ ms, WfMatch m) (hinv : Inv st) :
    absR (feedToks ms st) = balRun ms (names st) (done st) ∧ ∀ st', feedToks ms st = .ok st' → Inv st' := by
  induction ms generalizing st with
  | nil => exact Sim.ok hinv
  | cons m ms ih =>
    have h := step_sim m st (hw m (by simp)) hinv
    simp only [feedToks, balRun]
    cases hs : step m st with
    | error e =>
      rw [hs] at h
      rw [← h.1]
      exact Sim.error e
    | ok st1 =>
      rw [hs] at h
      rw [← h.1]
      exact ih st1 (fun m' hm' => hw m' (by simp [hm'])) (h.2 st1 rfl)

theorem close_ok_iff (st : St) : (∃ t, st.close = .ok t) ↔ ((names st).isEmpty && done st) = true := by
  obtain ⟨stack, root⟩ := st
  cases stack with
  | nil => cases root <;> simp [St.close, names, done]
  | cons f fs => simp [St.close, names]

/-- `close()` never hands back `None` -/
theorem C08_never_none (s : Str) : parse s ≠ .ok none := by
  unfold parse
  cases feed s with
  | error e => intro h; cases h
  | ok st =>
    simp only
    cases st.close with
    | error e => intro h; cases h
    | ok r => intro h; cases h

/-- a tree is returned exactly for the bodies whose tokens are properly nested and closed -/
theorem C08_sound_iff (s : Str) : (∃ t, parse s = .ok (some t)) ↔ balanced (toks s) = true := by
  have hf := feedToks_abs (toks s) St.init (toks_wf s) inv_init
  have hn : names St.init = [] := rfl
  have hd : done St.init = false := rfl
  rw [hn, hd] at hf
  unfold balanced
  rw [balancedGo_eq]
  unfold parse feed
  cases hr : feedToks (toks s) St.init with
  | error e =>
    rw [hr] at hf
    simp only [absR] at hf
    rw [← hf.1]
    simp
  | ok st =>
    rw [hr] at hf
    simp only [absR] at hf
    rw [← hf.1]
    simp only
    rw [← close_ok_iff st]
    constructor
    · rintro ⟨t, ht⟩
      cases hc : st.close with
      | error e => rw [hc] at ht; cases ht
      | ok r => exact ⟨r, rfl⟩
    · rintro ⟨t, ht⟩
      exact ⟨t, by rw [ht]⟩

/-- the direction of DESIGN 6.8: whatever `feed; close` returns is a tree, and the body's tokens are `balanced` -/
theorem C08_sound (s : Str) (r : Option Tree) (h : parse s = .ok r) : ∃ t, r = some t ∧ balanced (toks s) = true := by
  cases r with
  | none => exact absurd h (C08_never_none s)
  | some t => exact ⟨t, rfl, (C08_sound_iff s).mp ⟨t, h⟩⟩

theorem C08_reject_unbalanced (s : Str) (h : balanced (toks s) = false) : ∃ e, parse s = .error e := by
  cases hp : parse s with
  | error e => exact ⟨e, rfl⟩
  | ok r =>
    obtain ⟨t, -, hb⟩ := C08_sound s r hp
    rw [h] at hb; cases hb

theorem balRun_append (a b : List Match) (s : List Str) (d : Bool) :
    balRun (a ++ b) s d = (match balRun a s d with | some (s', d') => balRun b s' d' | none => none) := by
  induction a generalizing s d with
  | nil => rfl
  | cons m ms ih =>
    simp only [List.cons_append, balRun]
    cases balStep m s d with
    | none => rfl
    | some p => exact ih p.1 p.2

theorem balanced_iff (ms : List Match) : balanced ms = true ↔ balRun ms [] false = some ([], true) := by
  unfold balanced
  rw [balancedGo_eq]
  cases balRun ms [] false with
  | none => simp
  | some p =>
    obtain ⟨s', d'⟩ := p
    cases s' <;> cases d' <;> simp

theorem balStep_done (m : Match) : balStep m [] true = none := by
  unfold balStep
  cases blank m.tail <;> cases endName m.tag <;> cases hasData m <;> rfl

theorem C08_faults_after_root (ms ms' : List Match) (h : balanced ms = true) (hne : ms' ≠ []) :
    balanced (ms ++ ms') = false := by
  cases ms' with
  | nil => exact absurd rfl hne
  | cons m rest =>
    have h1 := (balanced_iff ms).mp h
    cases hb : balanced (ms ++ m :: rest) with
    | false => rfl
    | true =>
      have h2 := (balanced_iff _).mp hb
      rw [balRun_append, h1] at h2
      simp only [balRun, balStep_done] at h2
      cases h2

/-- every proper prefix of an accepted token sequence is rejected -/
theorem C08_prefix_tokens (ms ms' : List Match) (h : balanced (ms ++ ms') = true) (hne : ms' ≠ []) :
    balanced ms = false := by
  cases hb : balanced ms with
  | false => rfl
  | true => rw [C08_faults_after_root ms ms' hb hne] at h; cases h

theorem balRun_none_of_mem (ms : List Match) (m : Match) (hm : m ∈ ms) (h : ∀ s d, balStep m s d = none) :
    ∀ s d, balRun ms s d = none := by
  induction ms with
  | nil => cases hm
  | cons a as ih =>
    intro s d
    simp only [balRun]
    rcases List.mem_cons.mp hm with rfl | hmem
    · rw [h s d]
    · cases balStep a s d with
      | none => rfl
      | some p => exact ih hmem p.1 p.2

theorem not_balanced_of_run_none (ms : List Match) (h : balRun ms [] false = none) : balanced ms = false := by
  cases hb : balanced ms with
  | false => rfl
  | true => rw [(balanced_iff ms).mp hb] at h; cases h

theorem balStep_end {m : Match} {n : Str} (hn : endName m.tag = some n) (s : List Str) (d : Bool) :
    balStep m s d =
      if (!blank m.tail || hasData m) = true then none
      else match s with
        | top :: rest => if top = n then some (rest, rest.isEmpty) else none
        | [] => none := by
  unfold balStep
  rw [hn]
  cases blank m.tail <;> cases hasData m <;> rfl

/-- text after a closed element (non-blank tail), anywhere -/
theorem C08_faults_tail (ms : List Match) (m : Match) (hm : m ∈ ms) (ht : blank m.tail = false) : balanced ms = false :=
  not_balanced_of_run_none ms (balRun_none_of_mem ms m hm (fun s d => by simp [balStep, ht]) [] false)

theorem C08_faults_text_after_end (ms : List Match) (m : Match) (name : Str) (hm : m ∈ ms)
    (hend : endName m.tag = some name) (hd : hasData m = true) : balanced ms = false :=
  not_balanced_of_run_none ms (balRun_none_of_mem ms m hm (fun s d => by simp [balStep_end hend, hd]) [] false)

theorem balStep_end_top (e : Match) (n : Str) (s : List Str) (d : Bool) (p : List Str × Bool)
    (hn : endName e.tag = some n) (h : balStep e s d = some p) : ∃ rest, s = n :: rest := by
  rw [balStep_end hn] at h
  split at h
  · cases h
  · cases s with
    | nil => cases h
    | cons top rest =>
      by_cases ht : top = n
      · exact ⟨rest, by rw [ht]⟩
      · simp [ht] at h

theorem balStep_end_mismatch (e : Match) (n n' : Str) (rest : List Str) (d : Bool)
    (hn : endName e.tag = some n') (hne : n' ≠ n) : balStep e (n :: rest) d = none := by
  rw [balStep_end hn]
  simp [Ne.symm hne]

theorem faults_end_mismatch (pre post post' : List Match) (e e' : Match) (n n' : Str)
    (h : balanced (pre ++ e :: post) = true) (hn : endName e.tag = some n) (hn' : endName e'.tag = some n')
    (hne : n' ≠ n) : balanced (pre ++ e' :: post') = false := by
  have h1 := (balanced_iff _).mp h
  rw [balRun_append] at h1
  apply not_balanced_of_run_none
  rw [balRun_append]
  cases hp : balRun pre [] false with
  | none => rfl
  | some p =>
    rw [hp] at h1
    simp only [balRun] at h1 ⊢
    cases he : balStep e p.1 p.2 with
    | none => rw [he] at h1; cases h1
    | some q =>
      obtain ⟨rest, hs⟩ := balStep_end_top e n p.1 p.2 q hn he
      rw [hs, balStep_end_mismatch e' n n' rest p.2 hn' hne]

theorem C08_faults_rename (pre post : List Match) (e e' : Match) (n n' : Str)
    (h : balanced (pre ++ e :: post) = true) (hn : endName e.tag = some n) (hn' : endName e'.tag = some n')
    (hne : n' ≠ n) : balanced (pre ++ e' :: post) = false :=
  faults_end_mismatch pre post post e e' n n' h hn hn' hne

theorem C08_faults_transpose (pre post : List Match) (e1 e2 : Match) (n1 n2 : Str)
    (h : balanced (pre ++ e1 :: e2 :: post) = true) (h1 : endName e1.tag = some n1) (h2 : endName e2.tag = some n2)
    (hne : n2 ≠ n1) : balanced (pre ++ e2 :: e1 :: post) = false :=
  faults_end_mismatch pre _ _ e1 e2 n1 n2 h h1 h2 hne

def isEnd (m : Match) : Bool := (endName m.tag).isSome
def opens (m : Match) : Bool := !isEnd m && !(hasData m || m.closetag.isSome)

/-- every accepted `balStep` changes the depth by `opens − isEnd`; hence an edit that changes the number of end
    tags and of nothing else (delete, duplicate, stray end) unbalances -/
theorem balStep_count (m : Match) (s s' : List Str) (d d' : Bool) (h : balStep m s d = some (s', d')) :
    s'.length + (if isEnd m = true then 1 else 0) = s.length + (if opens m = true then 1 else 0) := by
  unfold opens isEnd
  cases hen : endName m.tag with
  | some name =>
    obtain ⟨rest, rfl⟩ := balStep_end_top m name s d _ hen h
    rw [balStep_end hen] at h
    split at h
    · cases h
    · simp only [if_true, Option.some.injEq, Prod.mk.injEq] at h
      simp [← h.1]
  | none =>
    unfold balStep at h
    simp only [hen] at h
    split at h
    · cases h
    · split at h
      · cases h
      · split at h <;> rename_i hc <;> simp only [Option.some.injEq, Prod.mk.injEq] at h <;> simp [← h.1, hc]

theorem balRun_count (ms : List Match) (s s' : List Str) (d d' : Bool) (h : balRun ms s d = some (s', d')) :
    s'.length + ms.countP isEnd = s.length + ms.countP opens := by
  induction ms generalizing s d with
  | nil => simp only [balRun] at h; injection h with h; injection h with h1 h2; subst h1; simp
  | cons m ms ih =>
    simp only [balRun] at h
    cases hb : balStep m s d with
    | none => rw [hb] at h; cases h
    | some p =>
      rw [hb] at h
      have h1 := balStep_count m s p.1 d p.2 hb
      have h2 := ih p.1 p.2 h
      simp only [List.countP_cons]
      omega

theorem balanced_count (ms : List Match) (h : balanced ms = true) : ms.countP isEnd = ms.countP opens := by
  have := balRun_count ms [] [] false true ((balanced_iff ms).mp h)
  simpa using this

theorem isEnd_not_opens (e : Match) (h : isEnd e = true) : opens e = false := by simp [opens, h]

theorem not_balanced_of_count (ms : List Match) (h : ms.countP isEnd ≠ ms.countP opens) : balanced ms = false := by
  cases hb : balanced ms with
  | false => rfl
  | true => exact absurd (balanced_count ms hb) h

theorem C08_faults_delete (pre post : List Match) (e : Match) (h : balanced (pre ++ e :: post) = true)
    (he : isEnd e = true) : balanced (pre ++ post) = false := by
  have c := balanced_count _ h
  apply not_balanced_of_count
  simp only [List.countP_append, List.countP_cons, he, isEnd_not_opens e he, if_true, Bool.false_eq_true, if_false] at c ⊢
  omega

theorem C08_faults_duplicate (pre post : List Match) (e : Match) (h : balanced (pre ++ e :: post) = true)
    (he : isEnd e = true) : balanced (pre ++ e :: e :: post) = false := by
  have c := balanced_count _ h
  apply not_balanced_of_count
  simp only [List.countP_append, List.countP_cons, he, isEnd_not_opens e he, if_true, Bool.false_eq_true, if_false] at c ⊢
  omega

theorem C08_faults_stray_end (pre post : List Match) (e : Match) (h : balanced (pre ++ post) = true)
    (he : isEnd e = true) : balanced (pre ++ e :: post) = false := by
  have c := balanced_count _ h
  apply not_balanced_of_count
  simp only [List.countP_append, List.countP_cons, he, isEnd_not_opens e he, if_true, Bool.false_eq_true, if_false] at c ⊢
  omega

/-- the bridge to strings: instantiate `hfault` with any of the `C08_faults_*` theorems -/
theorem C08_faults_rejected (s' : Str) (ms' : List Match) (hs : toks s' = ms') (hfault : balanced ms' = false) :
    ∃ e, parse s' = .error e :=
  C08_reject_unbalanced s' (by rw [hs]; exact hfault)

section strings
open Ofx.C02

theorem run_first_error (tok : Str) (m : Match) (st : St) (e : Err)
    (hm : matchHere tok = some m) (hs : step m st = .error e) : run tok st = .error e := by
  cases tok with
  | nil => cases hm
  | cons c cs => simp only [run, toks, toksGo, hm, feedToks, hs]

/-- the bodies obtained by cutting a valid aggregate-rooted rendering at an element boundary: after the start tag (and
    any part of the whitespace behind it), or after any number of complete children (each with any part of the
    whitespace behind it), at any depth.  A data element as root is left out: the cut `<A>1` is itself valid. -/
inductive OpenPrefix : Str → Prop
  | here (t w0 : Str) (cs : List Tree) (body : Str) : tagOk t = true → ws w0 = true → RendersList true cs body →
      OpenPrefix (startTag t ++ (w0 ++ body))
  | deeper (t w0 : Str) (cs : List Tree) (body p : Str) : tagOk t = true → ws w0 = true → RendersList true cs body →
      OpenPrefix p → OpenPrefix (startTag t ++ (w0 ++ (body ++ p)))

theorem openPrefix_startsName {p : Str} (h : OpenPrefix p) : StartsName p := by
  cases h with
  | here t w0 cs body ht => exact startsName_startTag _ _ ht
  | deeper t w0 cs body p ht => exact startsName_startTag _ _ ht

theorem openPrefix_run {p : Str} (h : OpenPrefix p) :
    ∀ st : St, st.CanStart → ∃ st', run p st = .ok st' ∧ st'.stack ≠ [] := by
  induction h with
  | here t w0 cs body ht h0 hl =>
    intro st hst
    have := agg_prefix_run t w0 cs body [] st ht h0 hl (rendersList_ok hl) hst (Or.inl rfl)
      (fun _ _ _ _ => rfl) (fun _ => rfl)
    simp only [List.append_nil] at this
    exact ⟨_, by rw [this, run_nil], by simp [addKids_push]⟩
  | deeper t w0 cs body p ht h0 hl hp ih =>
    intro st hst
    have hpn := openPrefix_startsName hp
    rw [agg_prefix_run t w0 cs body p st ht h0 hl (rendersList_ok hl) hst (Or.inr (Or.inl hpn))
      (fun _ _ tg _ => startsName_noEnd tg hpn) (fun _ => startsName_noEnd t hpn)]
    exact ih _ (canStart_of_stack (by simp [addKids_push]))

/-- every cut of a valid aggregate-rooted body at an element boundary is rejected (`ParseError`:
    missing end tag) -/
theorem C08_truncation (p : Str) (h : OpenPrefix p) : parse p = .error .parse := by
  obtain ⟨st', hr, hne⟩ := openPrefix_run h St.init rfl
  rw [parse_eq, hr]
  obtain ⟨stack, root⟩ := st'
  cases stack with
  | nil => exact absurd rfl hne
  | cons f fs => rfl

theorem C08_truncation_final (t w0 : Str) (cs : List Tree) (body : Str) (ht : tagOk t = true) (h0 : ws w0 = true)
    (hl : RendersList true cs body) : parse (startTag t ++ (w0 ++ body)) = .error .parse :=
  C08_truncation _ (OpenPrefix.here t w0 cs body ht h0 hl)

/-- cut points inside the whitespace after the root's end tag are harmless: the same tree is returned -/
theorem C08_trailing_ws_harmless (t : Tree) (s w : Str) (h : Renders true t s) (hw : ws w = true) :
    parse (s ++ w) = .ok (some t) :=
  C02_complete_doc t (s ++ w) ⟨[], s, w, rfl, hw, h, rfl⟩

theorem run_after_root (t r : Str) (root : Tree) (htne : t ≠ []) (htc : ∀ c ∈ t, isTagChar c = true) :
    run (startTag t ++ r) (St.init.emit root) = .error .parse := by
  have hm := matchHere_tag t r htne htc
  exact run_first_error _ _ _ _ hm (step_done _ root (matchHere_wf _ _ hm))

theorem C08_second_root_rejected (t : Tree) (s w t' r : Str) (h : Renders true t s) (hw : ws w = true)
    (ht : tagOk t' = true) : parse (s ++ (w ++ (startTag t' ++ r))) = .error .parse := by
  have hsn := startsName_startTag t' r ht
  have hrun := renders_ok h w (startTag t' ++ r) St.init hw
    ⟨Or.inr (Or.inl hsn), fun tg _ => startsName_noEnd tg hsn⟩ rfl
  rw [parse_eq, hrun, run_after_root t' r t (tagChars ht).1 (tagChars ht).2]

theorem C08_stray_end_rejected (tg : Str) (cs : List Tree) (s w t' r : Str) (h : Renders true (Tree.agg tg cs) s)
    (hw : ws w = true) (ht : tagOk t' = true) : ∃ e, parse (s ++ (w ++ (endTag t' ++ r))) = .error e := by
  have hse := startsEnd_endTag t' r ht
  have hrun := renders_ok h w (endTag t' ++ r) St.init hw
    ⟨Or.inr (Or.inr hse), fun tg' h' => by simp [Tree.agg, leafTag] at h'⟩ rfl
  exact ⟨_, by rw [parse_eq, hrun, show endTag t' ++ r = startTag ('/' :: t') ++ r from rfl,
    run_after_root _ r _ (by simp) (tagChars_end ht)]⟩

theorem C08_text_after_root_rejected (tg : Str) (cs : List Tree) (s x : Str) (c : Char)
    (h : Renders true (Tree.agg tg cs) s) (hx : ∀ a ∈ x, notLt a = true) (hc : c ∈ x) (hs : isSpace c = false)
    : parse (s ++ x) = .error .parse := by
  cases h with
  | agg _ w0 _ body ht h0 hl hself =>
    have := agg_run tg w0 cs body x [] St.init ht h0 hl (hself rfl) (rendersList_ok hl) hx (Or.inl rfl) rfl
    rw [List.append_nil] at this
    rw [parse_eq, this, not_blank_optStr hc hs]
    rfl

/-- text that is not white space after a CDATA section raises in any builder state, whatever follows: the white space
    is passed over by `\s*`, the text is the match's `tail` -/
theorem C08_text_after_cdata_rejected (t d w x rest : Str) (c : Char) (st : St) (ht : tagOk t = true)
    (hd : dataOk d = true) (hcd : cdataOk d = true) (hw : ws w = true) (hc : isSpace c = false)
    (hx : ∀ a ∈ c :: x, notLt a = true) (hrest : Stops notLt rest) :
    run (startTag t ++ (cdataOf d ++ (w ++ (c :: x ++ rest)))) st = .error .parse := by
  obtain ⟨hdne, -, -⟩ := dataOk_parts hd
  obtain ⟨htne, htc⟩ := tagChars ht
  have hm := matchHere_cdata_tail t d w x rest c htne htc hdne (cdataOk_notNl hcd) ((ws_iff w).mp hw) hc hx hrest
    (cdataOk_noClose hcd)
  exact run_first_error _ _ st _ hm
    (step_tail _ st (not_blank_optStr (x := c :: x) List.mem_cons_self hc))

theorem C08_text_after_cdata_rejected_doc (t d w x rest : Str) (c : Char) (ht : tagOk t = true)
    (hd : dataOk d = true) (hcd : cdataOk d = true) (hw : ws w = true) (hc : isSpace c = false)
    (hx : ∀ a ∈ c :: x, notLt a = true) (hrest : Stops notLt rest) :
    parse (startTag t ++ (cdataOf d ++ (w ++ (c :: x ++ rest)))) = .error .parse := by
  rw [parse_eq, C08_text_after_cdata_rejected t d w x rest c St.init ht hd hcd hw hc hx hrest]

end strings

/-! The hypotheses are met by concrete bodies.  `rw [String.toList_ofList]` reads a literal as `String.ofList` of its
characters, so the literal is never decoded. -/

example : balanced (toks "<A>\n<B>1\n<C><D>x</D></C>\n</A>\n".toList) = true := by
  rw [String.toList_ofList]
  decide

/-- renamed end tag -/
example : ∃ e, parse "<A><B>1</X>".toList = .error e :=
  C08_faults_rejected _ (toks "<A><B>1".toList ++ ⟨['/', 'X'], none, none, none, none, 4⟩ :: []) (by decide +kernel)
    (C08_faults_rename (toks "<A><B>1".toList) [] ⟨['/', 'A'], none, none, none, none, 4⟩ _ ['A'] ['X']
      (by decide +kernel) rfl rfl (by decide))

/-- deleted end tag -/
example : ∃ e, parse "<A><B><C>1</A>".toList = .error e :=
  C08_faults_rejected _ (toks "<A><B><C>1".toList ++ toks "</A>".toList) (by decide +kernel)
    (C08_faults_delete (toks "<A><B><C>1".toList) (toks "</A>".toList) ⟨['/', 'B'], none, none, none, none, 4⟩
      (by decide +kernel) rfl)

/-- truncation at an element boundary, two levels deep -/
example : parse "<A><B>1<C>".toList = .error .parse := by
  have e : "<A><B>1<C>".toList = startTag ['A'] ++ ([] ++ (((startTag ['B'] ++ ([] ++ ['1'])) ++ ([] ++ [])) ++
      (startTag ['C'] ++ ([] ++ [])))) := by
    rw [String.toList_ofList]
    rfl
  rw [e]
  exact C08_truncation _ (OpenPrefix.deeper ['A'] [] _ _ _ (by decide) (by decide)
    (RendersList.cons _ _ _ [] _ (Renders.leafOpen ['B'] ['1'] [] (by decide) (by decide) (by decide)) (by decide)
      RendersList.nil)
    (OpenPrefix.here ['C'] [] [] [] (by decide) (by decide) RendersList.nil))

/-- the hypotheses of `C08_text_after_cdata_rejected_doc` are met: `<B><![CDATA[x]]> junk</B>` -/
example : parse "<B><![CDATA[x]]> junk</B>".toList = .error .parse := by
  have e : "<B><![CDATA[x]]> junk</B>".toList = startTag ['B'] ++ (cdataOf ['x'] ++ ([' '] ++ ('j' :: "unk".toList ++ "</B>".toList))) := by
    rw [String.toList_ofList, String.toList_ofList, String.toList_ofList]
    rfl
  rw [e]
  exact C08_text_after_cdata_rejected_doc ['B'] ['x'] [' '] _ _ 'j' (by decide) (by decide) (by decide) (by decide) (by decide)
    (by decide) (stops_cons _ (by decide))

/-- white space between `]]>` and the end tag is well nested; text there is not -/
example : balanced (toks "<A><B><![CDATA[x]]> </B></A>".toList) = true := by
  rw [String.toList_ofList]
  decide
example : balanced (toks "<A><B><![CDATA[x]]>\n<C>1\n</A>".toList) = true := by
  rw [String.toList_ofList]
  decide
example : balanced (toks "<A><B><![CDATA[x]]> junk</A>".toList) = false := by
  rw [String.toList_ofList]
  decide
example : parse "<A><B><![CDATA[x]]> junk</A>".toList = .error .parse := by
  rw [String.toList_ofList]
  rfl

example : parse "<A><B>1".toList = .error .parse := by
  rw [String.toList_ofList]
  rfl
example : parse "<A><B><C>1</B>".toList = .error .parse := by
  rw [String.toList_ofList]
  rfl
example : parse "<A><B></A></B>".toList = .error .parse := by
  rw [String.toList_ofList]
  rfl
example : parse [] = .error .parse := by rfl

end Ofx.C08
