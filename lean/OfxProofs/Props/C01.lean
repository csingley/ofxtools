/-
C01 — serialize-then-parse returns the same model; the aggregate-layer half.  The text map `esc` is the identity or
`_escape_cdata`, which is what writing with `ET.tostring` and re-parsing does to element data.  `Valid`
(Lemmas/NodeRT.lean) is the declarative validity of an instance, all the way down; its class-level premises `ClsWF` are
discharged for the generated schema by kernel evaluation (`Gen/WF.lean`, `schema_clsWF`).  The generated classes that
fail a premise are `Gen.roundTripExceptions`: TAX1099INT_V100 (recorded finding: list block interleaved) and the
abstract base `ElementList`.
-/
import OfxProofs.Lemmas.NodeRT

namespace Ofx.Agg
open Ofx

/-- C01, aggregate layer: writing a valid instance to an element tree and converting the tree back —
    with any text map `esc` in between under which the converters still read their own output —
    returns the instance. -/
theorem C01_agg_roundtrip (S : Schema) (cv : Conv) (esc : Str → Str)
    (Dom : Kind → Bool → Val → Prop) (laws : ConvLaws cv S.enums esc Dom) (i : Node)
    (hv : Valid S cv esc Dom i) :
    ∃ t, toEtree S cv i = .ok t ∧ fromEtree S cv (mapText esc t) = .ok i :=
  rt_node S cv esc Dom laws i hv

/-- `C01_agg_roundtrip` under the second name the registry lists it by -/
theorem C01_agg_roundtrip_partial (S : Schema) (cv : Conv) (esc : Str → Str)
    (Dom : Kind → Bool → Val → Prop) (laws : ConvLaws cv S.enums esc Dom) (i : Node)
    (hv : Valid S cv esc Dom i) :
    ∃ t, toEtree S cv i = .ok t ∧ fromEtree S cv (mapText esc t) = .ok i :=
  C01_agg_roundtrip S cv esc Dom laws i hv

/-- the written tree is rooted at the class's tag and carries no text of its own -/
theorem C01_written_root (S : Schema) (cv : Conv) (ci : Nat) (f : List (Str × Node)) (i : List Node)
    (c : Cls) (t : Tree) (hc : S.cls? ci = some c) (h : toEtree S cv (.agg ci f i) = .ok t) :
    t.tag = c.name ∧ t.text = none :=
  toEtree_shape S cv ci f i c t hc h

end Ofx.Agg
