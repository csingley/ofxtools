/-
C04 on the tree route (continues Props/C04.lean): the reader's
position never falls behind a position around which the list block is not interleaved (`PrevGe`, `BlockAt`), and
the tree route ends in the keyword route (`fromEtree_is_construct`).
-/
import OfxProofs.Props.C04
namespace Ofx.Agg
open Ofx

def PrevGe (c : Cls) (lo : Nat) (acc : Accum) : Prop :=
  ∃ p, acc.prev = some p ∧ lo ≤ p ∧ (acc.prevIsList = true → ∃ ap, c.spec[p]? = some ap ∧ ap.kind.isList = true)

def BlockAt (c : Cls) (lo : Nat) : Prop :=
  ∀ i q ai aq, c.spec[i]? = some ai → ai.kind.isList = true → i < lo →
    c.spec[q]? = some aq → aq.kind.isList = true → q < lo

theorem stepCore_prevGe (c : Cls) (hnd : (c.spec.map (·.name)).Nodup) (lo : Nat) (hb : BlockAt c lo)
    (acc acc' : Accum) (tag : Str) (v : PyM Node) (h : stepCore c acc tag v = .ok acc')
    (hinv : PrevGe c lo acc) : PrevGe c lo acc' := by
  rcases stepCore_ok h with ⟨_, rfl⟩ | ⟨idx, value, hidx, hord, _, hcase⟩
  · exact hinv
  · obtain ⟨ai, hai, hain, haim⟩ := specIndex_get c _ idx hidx
    obtain ⟨p, hp, hlo, hpl⟩ := hinv
    have hlist : isListMember c (lower tag) = true → ai.kind.isList = true :=
      fun hil => listMember_isList c ai haim hnd (by rw [hain]; exact hil)
    have hnew : lo ≤ idx := by
      cases hoo : outOfOrder acc.prev idx with
      | false =>
        simp only [outOfOrder, hp, decide_eq_false_iff_not] at hoo
        omega
      | true =>
        -- out of order, yet accepted: a repeated child after a repeated child, both inside the list block
        simp only [hoo, Bool.true_and, Bool.not_eq_false', Bool.and_eq_true] at hord
        obtain ⟨ap, hap, hapl⟩ := hpl hord.2
        apply Classical.byContradiction
        intro hlt
        have := hb idx p ai ap hai (hlist hord.1) (by omega) hap hapl
        omega
    rcases hcase with ⟨hil, rfl⟩ | ⟨_, _, rfl⟩
    · exact ⟨idx, rfl, hnew, fun _ => ⟨ai, hai, hlist hil⟩⟩
    · exact ⟨idx, rfl, hnew, fun hf => by cases hf⟩

theorem foldChildren_prevGe (c : Cls) (hnd : (c.spec.map (·.name)).Nodup) (lo : Nat) (hb : BlockAt c lo)
    (ts : List Tree) (ss : List (PyM Node)) (acc acc' : Accum) (h : foldChildren c ts ss acc = .ok acc')
    (hinv : PrevGe c lo acc) : PrevGe c lo acc' := by
  refine foldChildren_invariant c (PrevGe c lo) ?_ ts ss acc acc' h hinv
  intro acc t s acc' hi hu
  rcases updateArgs_ok hu with ⟨rfl, _⟩ | ⟨tag, _, hu⟩
  · exact hi
  · exact stepCore_prevGe c hnd lo hb _ acc' tag _ hu hi

theorem fromEtree_is_construct (S : Schema) (cv : Conv) (tag : Str) (x tl : Option Str) (children : List Tree)
    (n : Node) (h : fromEtree S cv (.node tag x tl children) = .ok n) :
    ∃ ci args kw, S.findIdx? tag = some ci ∧ construct S cv ci args kw = .ok n := by
  obtain ⟨ci, c, acc, hf, _, _, hcon⟩ := fromEtree_ok h
  exact ⟨ci, acc.args, acc.kwargs, hf, hcon⟩

/-- C04 (consequence, tree route): every instance `from_etree` returns was built by the constructor from some `args`
    and `kw` (nothing here ties them to `children`), so `C04_sound_kw` applies: the declared groups hold on `kw`, the
    instance holds per attribute what its converter accepted of `kw`, and has only permitted members.
    `C04_sound_full_tree` states the groups on the stored values. -/
theorem C04_sound_tree (S : Schema) (cv : Conv) (tag : Str) (x tl : Option Str) (children : List Tree) (n : Node)
    (h : fromEtree S cv (.node tag x tl children) = .ok n) :
    ∃ ci args kw c fields items, S.findIdx? tag = some ci ∧ n = .agg ci fields items ∧ S.cls? ci = some c ∧
      extraRule S c.extra args kw = .ok () ∧
      (∀ g ∈ c.optMutex, mutexCount kw g ≤ 1) ∧ (∀ g ∈ c.reqMutex, mutexCount kw g = 1) ∧
      FieldsMatch (fun a v => setAttr S cv a ((lookup a.name kw).getD (.val .none)) = .ok (some v))
        (specNoList c) fields ∧
      applyArgs S cv c args = .ok items ∧
      (∀ k ∈ kw.map (·.1), k ∈ (specNoList c).map (·.name)) := by
  obtain ⟨ci, args, kw, hf, hc⟩ := fromEtree_is_construct S cv tag x tl children n h
  obtain ⟨c, fields, items, rfl, hcls, h1, h2, h3, h4, h5, h6⟩ := C04_sound_kw S cv ci args kw n hc
  exact ⟨ci, args, kw, c, fields, items, hf, rfl, hcls, h1, h2, h3, h4, h5, h6⟩

end Ofx.Agg
