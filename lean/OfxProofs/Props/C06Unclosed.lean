/-
C06 on the wire, end-tag-less form (`close_elements=False`, OFX versions 1xx: `tostring_unclosed_elements`).  C01's
file-level theorem for that form holds when the written tree has no childless aggregate (known finding
unclosed-empty-aggregate-no-end-tag: `<TAG>` without children and without end tag reads back as an element that swallows
what follows); `treeGuard` is that guard.  It holds of the composed statement requests that name their account and
carry their include flag (`Req.given`), of the account-info request with its date, of every profile request and of the
tax request unless it names no year, account number or record id (`<TAX1099RQ>` is written childless; witness in
Gen/C06UnclosedW.lean).
-/
import OfxProofs.Props.C06
import OfxProofs.Props.C01File
import OfxProofs.Lemmas.C06Dense

namespace Ofx.C06
open Ofx Ofx.Compose Ofx.Agg Ofx.Spec.Request Ofx.Pipeline Ofx.Header Ofx.Serialize

/-- the guard of the unclosed writer, on the instance to be written: `to_etree` succeeds and the tree has no
    element without text and without children -/
def treeGuard (S : Schema) (cv : Conv) (root : Node) : Bool :=
  match toEtree S cv root with
  | .ok t => unclosedGuard t
  | .error _ => false

theorem treeGuard_spec {S : Schema} {cv : Conv} {root : Node} (h : treeGuard S cv root = true) :
    ∀ t, toEtree S cv root = .ok t → unclosedGuard t = true := by
  intro t ht
  simpa [treeGuard, ht] using h

def taxGiven (taxyears : List Str) (acctnum recid : Option Str) : Bool :=
  !taxyears.isEmpty || (emptyAsNone acctnum).isSome || (emptyAsNone recid).isSome

section
variable (E : Pipeline.Env) (Dom : Kind → Bool → Val → Prop)

/-- a valid, dense instance (every aggregate has an attribute that is set, or a list member) passes the guard -/
theorem C06_treeGuard_of_dense (laws : ConvLaws E.cv E.S.enums escapeCdata Dom) (root : Node)
    (hv : Valid E.S E.cv escapeCdata Dom root) (hd : dense root = true) : treeGuard E.S E.cv root = true := by
  obtain ⟨t, ht, _⟩ := C01_agg_roundtrip_partial E.S E.cv escapeCdata Dom laws root hv
  simp [treeGuard, ht, unclosedGuard_of_dense E.S E.cv escapeCdata Dom laws root hv hd t ht]

/-- every composed statement request whose requests name their
    account and carry their include flags passes the guard — whatever the configuration, the dates, the number and
    the mix of requests (none at all included: the sign-on alone is dense) -/
theorem C06_treeGuard_statements (laws : ConvLaws E.cv E.S.enums escapeCdata Dom) (cfg : Cfg) (password : Str)
    (dtclient : DT) (reqs : List Req) (hv : Int) (root : Node)
    (hval : Valid E.S E.cv escapeCdata Dom root) (hgiven : ∀ r ∈ reqs, Req.given r = true)
    (hspec : RequestSpec E.S cfg password dtclient reqs hv root) : treeGuard E.S E.cv root = true :=
  C06_treeGuard_of_dense E Dom laws root hval (check_dense E.cv escapeCdata Dom hval hgiven hspec)

example : Req.given (.stmt (some "123".toList) (some "CHECKING".toList) none none (some true)) = true ∧
    Req.given (.invStmt (some "9".toList) none none none (some false) (some false) (some true) (some false)) = true ∧
    Req.given (.ccStmtEnd (some "4".toList) none none) = true := by decide

theorem C06_treeGuard_accounts (laws : ConvLaws E.cv E.S.enums escapeCdata Dom) (cfg : Cfg) (password : Str)
    (dtclient : DT) (dtacctup : Option DT) (hv : Int) (root : Node)
    (hval : Valid E.S E.cv escapeCdata Dom root) (hd : dtacctup.isSome = true)
    (hspec : checkAccounts E.S cfg password dtclient dtacctup hv root = []) : treeGuard E.S E.cv root = true := by
  obtain ⟨d, rfl⟩ := Option.isSome_iff_exists.mp hd
  exact C06_treeGuard_of_dense E Dom laws root hval
    (checkSingle_dense E.cv escapeCdata Dom hval
      (by simp [expDense, presentAny, denseAll, expPresent, wantPresent]) hspec)

theorem C06_treeGuard_profile (laws : ConvLaws E.cv E.S.enums escapeCdata Dom) (cfg : Cfg)
    (dtclient : DT) (dtprofup : Option DT) (version : Option Nat) (hv : Int) (root : Node)
    (hval : Valid E.S E.cv escapeCdata Dom root)
    (hspec : checkProfile E.S cfg dtclient dtprofup version hv root = []) : treeGuard E.S E.cv root = true :=
  C06_treeGuard_of_dense E Dom laws root hval
    (checkSingle_dense E.cv escapeCdata Dom hval
      (by simp [expDense, presentAny, denseAll, expPresent, wantPresent]) hspec)

/-- every tax request that names a year, an account number or a record id -/
theorem C06_treeGuard_tax (laws : ConvLaws E.cv E.S.enums escapeCdata Dom) (cfg : Cfg) (password : Str)
    (dtclient : DT) (taxyears : List Str) (acctnum recid : Option Str) (hv : Int) (root : Node)
    (hval : Valid E.S E.cv escapeCdata Dom root) (hg : taxGiven taxyears acctnum recid = true)
    (hspec : checkTax E.S cfg password dtclient taxyears acctnum recid hv root = []) :
    treeGuard E.S E.cv root = true := by
  refine C06_treeGuard_of_dense E Dom laws root hval (checkSingle_dense E.cv escapeCdata Dom hval ?_ hspec)
  simp only [taxGiven, Bool.or_eq_true, Bool.not_eq_true'] at hg
  simp only [expTaxRq, expDense, presentAny, denseAll, expPresent, wantPresent, Bool.or_false, Bool.and_true,
    Bool.true_or, Bool.true_and, List.isEmpty_map]
  rcases hg with (h | h) | h <;> simp [h]

example : taxGiven ["2019".toList] none none = true ∧ taxGiven [] none (some "7".toList) = true ∧
    taxGiven [] none none = false ∧ taxGiven [] (some []) none = false := by decide

/-- the end-tag-less form: for `close_elements=False` and a version below 200, every
    configuration and request list for which composition succeeds with a tree that has no childless aggregate
    (`treeGuard`, decidable): the file `request_statements(dryrun=True)` returns (1xx header with the n-th uuid as
    NEWFILEUID, body by `tostring_unclosed_elements`, plain or pretty, utf-8) is read back by `OFXTree.parse` +
    `convert` to exactly that header and exactly the composed instance, which satisfies `RequestSpec` with the header
    version read.  The other hypotheses are those of C06 (`ReqWF`, `ConvOK`, uuid stream) and of C01 (valid instance,
    converter laws, legal tags, header tables). -/
theorem C06_wire_unclosed_partial {Ptext : Str → Prop} (hS : ReqWF E.S = true) (hcv : ConvOK E.cv Ptext)
    (laws : ConvLaws E.cv E.S.enums escapeCdata Dom) (htext : TextOk E.S E.cv Dom)
    (htag : ∀ ci c, E.S.cls? ci = some c → c.abstract = false → TagWF E.htmlEmpty c)
    (wf1 : WFV1 E.p1) (wf2 : WFV2 E.p2)
    (cfg : Cfg) (password : Str) (reqs : List Req) (uuidStream : Nat → Str) (dtclient : DT)
    (hclose : cfg.closeElements = false) (hv200 : cfg.version < 200)
    (htexts : ∀ s ∈ cfg.texts, Ptext s) (hpw : Ptext password) (hreqs : ∀ r ∈ reqs, ∀ s ∈ r.texts, Ptext s)
    (huuid : ∀ i j, uuidStream i = uuidStream j → i = j) (hne : ∀ i, uuidStream i ≠ [])
    (huP : ∀ i, Ptext (uuidStream i))
    (ho1 : UidOk E.p1.oldLen none) (ho2 : UidOk E.p2.oldLen none)
    (hn1 : UidOk E.p1.newLen (some (uuidStream reqs.length)))
    (hn2 : UidOk E.p2.newLen (some (uuidStream reqs.length))) {root : Node}
    (h : requestStatements E.S E.cv cfg password reqs uuidStream dtclient = .ok root)
    (hv : Valid E.S E.cv escapeCdata Dom root) (hguard : treeGuard E.S E.cv root = true) {hdr : Hdr}
    (hmk : makeHeader E.p1 E.p2 (.int (cfg.version : Nat)) none none (some (uuidStream reqs.length)) = .ok hdr) :
    ∃ file, writeFile E cfg.version none (some (uuidStream reqs.length)) cfg.prettyprint cfg.closeElements root
        = .ok file ∧
      readFile E file = .ok (hdr, root) ∧ hdrVersion hdr = Int.ofNat cfg.version ∧
      RequestSpec E.S cfg password dtclient reqs (hdrVersion hdr) root := by
  obtain ⟨file, hw, hr⟩ := C01_file_roundtrip_unclosed_partial E Dom laws htext htag wf1 wf2 cfg.version none _ ho1 hn1
    ho2 hn2 cfg.prettyprint root hv hdr hmk hv200 (treeGuard_spec hguard)
  refine ⟨file, by rw [hclose]; exact hw, hr, ?_⟩
  rw [makeHeader_version _ _ _ _ _ _ _ hmk]
  exact ⟨rfl, C06_compose hS hcv cfg password reqs uuidStream dtclient htexts hpw hreqs huuid hne huP h⟩

/-- the guard discharged: statement requests that name their account and carry their include
    flags always pass it, so for them the end-tag-less form says exactly what was asked, unconditionally on the tree -/
theorem C06_wire_unclosed {Ptext : Str → Prop} (hS : ReqWF E.S = true) (hcv : ConvOK E.cv Ptext)
    (laws : ConvLaws E.cv E.S.enums escapeCdata Dom) (htext : TextOk E.S E.cv Dom)
    (htag : ∀ ci c, E.S.cls? ci = some c → c.abstract = false → TagWF E.htmlEmpty c)
    (wf1 : WFV1 E.p1) (wf2 : WFV2 E.p2)
    (cfg : Cfg) (password : Str) (reqs : List Req) (uuidStream : Nat → Str) (dtclient : DT)
    (hclose : cfg.closeElements = false) (hv200 : cfg.version < 200)
    (htexts : ∀ s ∈ cfg.texts, Ptext s) (hpw : Ptext password) (hreqs : ∀ r ∈ reqs, ∀ s ∈ r.texts, Ptext s)
    (hgiven : ∀ r ∈ reqs, Req.given r = true)
    (huuid : ∀ i j, uuidStream i = uuidStream j → i = j) (hne : ∀ i, uuidStream i ≠ [])
    (huP : ∀ i, Ptext (uuidStream i))
    (ho1 : UidOk E.p1.oldLen none) (ho2 : UidOk E.p2.oldLen none)
    (hn1 : UidOk E.p1.newLen (some (uuidStream reqs.length)))
    (hn2 : UidOk E.p2.newLen (some (uuidStream reqs.length))) {root : Node}
    (h : requestStatements E.S E.cv cfg password reqs uuidStream dtclient = .ok root)
    (hv : Valid E.S E.cv escapeCdata Dom root) {hdr : Hdr}
    (hmk : makeHeader E.p1 E.p2 (.int (cfg.version : Nat)) none none (some (uuidStream reqs.length)) = .ok hdr) :
    ∃ file, writeFile E cfg.version none (some (uuidStream reqs.length)) cfg.prettyprint cfg.closeElements root
        = .ok file ∧
      readFile E file = .ok (hdr, root) ∧ hdrVersion hdr = Int.ofNat cfg.version ∧
      RequestSpec E.S cfg password dtclient reqs (hdrVersion hdr) root :=
  C06_wire_unclosed_partial E Dom hS hcv laws htext htag wf1 wf2 cfg password reqs uuidStream dtclient hclose hv200
    htexts hpw hreqs huuid hne huP ho1 ho2 hn1 hn2 h hv
    (C06_treeGuard_statements E Dom laws cfg password dtclient reqs _ root hv hgiven
      (C06_compose hS hcv cfg password reqs uuidStream dtclient htexts hpw hreqs huuid hne huP h)) hmk

end
end Ofx.C06
