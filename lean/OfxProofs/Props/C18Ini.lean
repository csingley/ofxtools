/-
C18 — persistence through the file: what `ConfigParser.write()` puts on disk as text, read again by
`ConfigParser.read()` on the next run, is the configuration that was saved.  Model: `OfxModel/Ofx/IniText.lean`.
-/
import OfxProofs.Lemmas.IniLoad
import OfxProofs.Lemmas.IniSaved
import OfxProofs.Lemmas.IniTotal
import OfxProofs.Gen.Ofxget
import OfxProofs.Props.C18Persist

set_option linter.unusedSimpArgs false

namespace Ofx.IniText
open Ofx Ofx.Ofxget

theorem fileOf_clean (c : Ini) (h : iniClean c = true) :
    (∀ sec ∈ fileOf c, cleanName sec.1 = true ∧ cleanSect sec.2 = true) ∧ ((fileOf c).map (·.1)).Nodup := by
  obtain ⟨hd, hs, hnd⟩ := iniClean_spec c h
  unfold fileOf
  constructor
  · intro sec hsec
    rcases List.mem_append.mp hsec with hsec | hsec
    · split at hsec
      · cases hsec
      · simp only [List.mem_singleton] at hsec
        subst hsec
        exact ⟨(by decide : cleanName defaultSect = true), hd⟩
    · exact ⟨(hs sec hsec).1, (hs sec hsec).2.2⟩
  · split
    · simpa using hnd
    · simp only [List.map_append, List.map_cons, List.map_nil, List.singleton_append, List.nodup_cons]
      refine ⟨?_, hnd⟩
      intro hm
      obtain ⟨sec, hsec, he⟩ := List.mem_map.mp hm
      exact (hs sec hsec).2.1 he

/-- For every configuration inside the guard `iniClean` — section names non-empty, on one
    line, distinct, none of them `DEFAULT`; option names non-empty, lower-case, distinct per section, without `=`,
    `:`, line break, blank at either end, leading `#`, `;` or `[`; values whose lines carry no blank at either end,
    whose continuation lines do not start with `#` or `;`, and which do not end in white space (so: any number of
    lines, empty lines in the middle, an empty first line) — the text `ConfigParser.write` produces is read by
    `read_string` on a fresh parser as exactly that configuration: same sections in the same order, same options in
    the same order, same values. -/
theorem C18_ini_roundtrip (c : Ini) (h : iniClean c = true) : iniRead (iniWrite c) = .ok c := by
  obtain ⟨hclean, hnd⟩ := fileOf_clean c h
  unfold iniRead
  rw [iniWrite_lines, iniReadInto_fileOf Ini.empty (fileOf c) rfl hclean hnd, fileOf_load_empty c h]

/-- the guard is satisfiable by a configuration with a DEFAULT section, two sections, a URL with `%`, `=`, `:`, a
    list, a three-line value with an empty line in the middle, a value starting with an empty line -/
def sampleIni : Ini :=
  ⟨[("clientuid".toList, "9e5c3b1e-2b3f-4c47-9d0a-5f3d1c2b7a10".toList)],
   [("acme bank".toList, [("url".toList, "https://ofx.example.com/cgi?x=%41&y=2:3".toList),
                          ("checking".toList, "123, 456".toList), ("version".toList, "102".toList)]),
    ("b]".toList, [("note".toList, "first\n\nthird = x".toList), ("k2".toList, "\nsecond line; no comment".toList)])]⟩

example : iniClean sampleIni = true := by decide +kernel

/-- The same on a parser that already holds content `c0` (as `USERCFG` does after
    `fi.cfg`, or after `clear()`, which keeps DEFAULT): reading the written text is, section by section,
    "`[name]` creates the section unless it exists, each option is assigned" — `loadRaw1`.  `c0` must not hold a section called
    `DEFAULT` (no parser does). -/
theorem C18_ini_roundtrip_into (c0 c : Ini) (hc0 : (c0.sections.lookup defaultSect).isSome = false)
    (h : iniClean c = true) : iniReadInto c0 (iniWrite c) = .ok ((fileOf c).foldl loadRaw1 c0) := by
  obtain ⟨hclean, hnd⟩ := fileOf_clean c h
  rw [iniWrite_lines, iniReadInto_fileOf c0 (fileOf c) hc0 hclean hnd]

/-- With values that are also stripped at their own two ends, reading the written
    text into any parser is exactly the API-level `loadFile` of the API-level file content `toFile` — the two things
    the persistence theorems (`fileLookup_toFile`, `C18_persist_partial`) are stated with. -/
theorem C18_ini_read_is_loadFile (c0 c : Ini) (hc0 : (c0.sections.lookup defaultSect).isSome = false)
    (h : iniClean c = true) (hv : valuesStripped c = true) :
    iniReadInto c0 (iniWrite c) = .ok (c0.loadFile c.toFile) := by
  rw [C18_ini_roundtrip_into c0 c hc0 h, fileOf_load c0 c h hv]

example : valuesStripped ⟨sampleIni.defaults, sampleIni.sections.take 1⟩ = true := by decide +kernel

theorem unlGo_noCR (s : Str) (h : '\r' ∉ s) : unlGo false s = s := by
  induction s with
  | nil => rfl
  | cons c cs ih =>
    have hc : c ≠ '\r' := fun e => h (by simp [e])
    simp only [unlGo, hc, if_false, Bool.and_false, Bool.false_eq_true]
    rw [ih (fun hm => h (by simp [hm]))]

theorem noCR_writeSection (name : Str) (s : Sect) (hn : '\r' ∉ name) (hs : ∀ kv ∈ s, '\r' ∉ kv.1 ∧ '\r' ∉ kv.2) :
    '\r' ∉ writeSection name s := by
  simp only [writeSection, writeOption, replace_single, delim, List.mem_append, List.mem_flatMap, List.mem_cons,
    List.not_mem_nil, or_false, not_or, not_exists, not_and]
  refine ⟨⟨⟨⟨by decide, hn⟩, by decide, by decide⟩,
    fun kv hkv => ⟨⟨(hs kv hkv).1, by decide, fun x hx => ?_⟩, by decide⟩⟩, by decide⟩
  split
  · decide
  · intro hm
    rw [List.mem_singleton] at hm
    exact (hs kv hkv).2 (hm ▸ hx)

theorem noCR_iniWrite (c : Ini) (h : noCR c = true) : '\r' ∉ iniWrite c := by
  obtain ⟨hd, hs⟩ := (noCR_iff c).mp h
  unfold iniWrite
  rw [List.mem_append, List.mem_flatMap]
  rintro (hm | ⟨sec, hsec, hm⟩)
  · split at hm
    · cases hm
    · exact noCR_writeSection _ _ (by decide) hd hm
  · exact noCR_writeSection _ _ (hs sec hsec).1 (hs sec hsec).2 hm
/-- `write_config` writes with `open(path, "w")`, the next run reads with `read(path)`,
    i.e. in text mode with universal newlines: with no carriage return in any name, option or value, the file
    round trip is the text round trip. -/
theorem C18_ini_roundtrip_file (c0 c : Ini) (hc0 : (c0.sections.lookup defaultSect).isSome = false)
    (h : iniClean c = true) (hcr : noCR c = true) :
    iniReadFile c0 (iniWrite c) = .ok ((fileOf c).foldl loadRaw1 c0) := by
  unfold iniReadFile universalNewlines
  rw [unlGo_noCR _ (noCR_iniWrite c hcr), C18_ini_roundtrip_into c0 c hc0 h]

example : noCR sampleIni = true := by decide +kernel

def roundTrips (c : Ini) : Bool :=
  match iniRead (iniWrite c) with
  | .ok c' => c' == c
  | .error _ => false

theorem roundTrips_iff (c : Ini) : roundTrips c = true ↔ iniRead (iniWrite c) = .ok c := by
  unfold roundTrips
  cases iniRead (iniWrite c) with
  | error e => simp
  | ok c' => simp

/-- full strength: every configuration a parser can hold survives `write` + `read` -/
def C18_ini_roundtrip_full : Prop := ∀ c : Ini, iniRead (iniWrite c) = .ok c

def one (name key value : String) : Ini := ⟨[], [(name.toList, [(key.toList, value.toList)])]⟩

/-- a section name may not be empty (`[]` is no header), span lines, or be `DEFAULT`; names must differ -/
theorem C18_ini_guard_name :
    (iniClean ⟨[], [([], [])]⟩ = false ∧ roundTrips ⟨[], [([], [])]⟩ = false) ∧
    (iniClean (one "a\nb" "k" "v") = false ∧ roundTrips (one "a\nb" "k" "v") = false) ∧
    (iniClean (one "DEFAULT" "k" "v") = false ∧ roundTrips (one "DEFAULT" "k" "v") = false) ∧
    (iniClean ⟨[], [("s".toList, [("k".toList, "v".toList)]), ("s".toList, [("j".toList, "w".toList)])]⟩ = false ∧
      roundTrips ⟨[], [("s".toList, [("k".toList, "v".toList)]), ("s".toList, [("j".toList, "w".toList)])]⟩ = false) := by
  decide +kernel

/-- an option name may not be empty, carry a blank at either end, contain `=`, `:` or a line break, start with
    `#`, `;` or `[`, contain upper-case letters, or occur twice in a section -/
theorem C18_ini_guard_key :
    (iniClean (one "s" "" "v") = false ∧ roundTrips (one "s" "" "v") = false) ∧
    (iniClean (one "s" " k" "v") = false ∧ roundTrips (one "s" " k" "v") = false) ∧
    (iniClean (one "s" "k " "v") = false ∧ roundTrips (one "s" "k " "v") = false) ∧
    (iniClean (one "s" "a=b" "v") = false ∧ roundTrips (one "s" "a=b" "v") = false) ∧
    (iniClean (one "s" "a:b" "v") = false ∧ roundTrips (one "s" "a:b" "v") = false) ∧
    (iniClean (one "s" "a\nb" "v") = false ∧ roundTrips (one "s" "a\nb" "v") = false) ∧
    (iniClean (one "s" "#k" "v") = false ∧ roundTrips (one "s" "#k" "v") = false) ∧
    (iniClean (one "s" ";k" "v") = false ∧ roundTrips (one "s" ";k" "v") = false) ∧
    (iniClean (one "s" "[k]" "v") = false ∧ roundTrips (one "s" "[k]" "v") = false) ∧
    (iniClean (one "s" "K" "v") = false ∧ roundTrips (one "s" "K" "v") = false) ∧
    (iniClean ⟨[], [("s".toList, [("k".toList, "v".toList), ("k".toList, "w".toList)])]⟩ = false ∧
      roundTrips ⟨[], [("s".toList, [("k".toList, "v".toList), ("k".toList, "w".toList)])]⟩ = false) := by
  decide +kernel

/-- a value may not carry a blank at either end of any of its lines, have a continuation line that starts like a
    comment, or end in a line break -/
theorem C18_ini_guard_value :
    (iniClean (one "s" "k" " v") = false ∧ roundTrips (one "s" "k" " v") = false) ∧
    (iniClean (one "s" "k" "v ") = false ∧ roundTrips (one "s" "k" "v ") = false) ∧
    (iniClean (one "s" "k" "a\n b") = false ∧ roundTrips (one "s" "k" "a\n b") = false) ∧
    (iniClean (one "s" "k" "a \nb") = false ∧ roundTrips (one "s" "k" "a \nb") = false) ∧
    (iniClean (one "s" "k" "a\n#b") = false ∧ roundTrips (one "s" "k" "a\n#b") = false) ∧
    (iniClean (one "s" "k" "a\n;b") = false ∧ roundTrips (one "s" "k" "a\n;b") = false) ∧
    (iniClean (one "s" "k" "a\n") = false ∧ roundTrips (one "s" "k" "a\n") = false) := by
  decide +kernel

/-- a carriage return survives `read_string` but not the file (text mode turns it into a line break) -/
theorem C18_ini_guard_cr :
    iniClean (one "s" "k" "a\rb") = true ∧ roundTrips (one "s" "k" "a\rb") = true ∧ noCR (one "s" "k" "a\rb") = false ∧
    (match iniReadFile Ini.empty (iniWrite (one "s" "k" "a\rb")) with
     | .ok c' => c' == one "s" "k" "a\rb"
     | .error _ => false) = false := by
  decide +kernel

/-- a value that `loadFile` (which strips) and the text reader (which does not strip across lines) see differently:
    inside `iniClean`, outside `valuesStripped` -/
theorem C18_ini_guard_stripped :
    iniClean (one "s" "k" "\nb") = true ∧ roundTrips (one "s" "k" "\nb") = true ∧
    valuesStripped (one "s" "k" "\nb") = false ∧
    (Ini.empty.loadFile (one "s" "k" "\nb").toFile == one "s" "k" "\nb") = false := by
  decide +kernel

theorem C18_ini_roundtrip_full_false : ¬ C18_ini_roundtrip_full := by
  intro h
  have := (roundTrips_iff (one "s" "k" " v")).mpr (h _)
  rw [C18_ini_guard_value.1.2] at this
  cases this

/-- Whatever the parser holds and whatever the text is, the reader returns a configuration or
    one of `DuplicateSectionError`, `DuplicateOptionError`, `MissingSectionHeaderError`, `ParsingError`: the
    defensive branches of the model (`KeyError` / `AttributeError` inside `_read`) are dead. -/
theorem C18_ini_errors (c0 : Ini) (text : Str) : iniReadInto c0 text ≠ .error .internal :=
  iniReadInto_no_internal c0 text

/-- The parser of the next run — `USERCFG.read([fi.cfg, ofxget.cfg])` on the *texts* of the two
    files — holds exactly the content the API-level model assigns to it (`loadUser fidb cfg'.toFile`) when
    ofxget.cfg is the text `write` produced for a configuration `cfg'` inside the three guards.  `fidb` is the
    API-level view of fi.cfg (hypothesis `hfi`: that is what reading fi.cfg's text gives). -/
theorem C18_ini_reload (fidb : FileC) (fidbText : Str)
    (hfi : iniReadFile Ini.empty fidbText = .ok (loadLib fidb))
    (cfg' : Ini) (h : iniClean cfg' = true) (hv : valuesStripped cfg' = true) (hcr : noCR cfg' = true) :
    iniLoadUser fidbText (iniWrite cfg') = .ok (loadUser fidb cfg'.toFile) := by
  have hc0 : ((loadLib fidb).sections.lookup defaultSect).isSome = false :=
    congrArg Option.isSome (canon_loadFile _ canon_empty fidb).lookup_default
  unfold iniLoadUser
  simp only [hfi, PyM.ok_bind]
  rw [C18_ini_roundtrip_file _ cfg' hc0 h hcr, fileOf_load _ cfg' h hv]
  rfl

/-- the file lookup of the persistence theorems, through the text: what the next run finds under `(s, k)` in the file
    `write` produced is the stored text, stripped (`fileLookup_toFile`, with the file as text) -/
theorem C18_ini_fileLookup (cfg' : Ini) (h : iniClean cfg' = true) (s : Str) (k : Name) :
    ∃ c2, iniRead (iniWrite cfg') = .ok c2 ∧ fileLookup c2.toFile s k = (cfg'.look s k).map strip := by
  refine ⟨cfg', C18_ini_roundtrip cfg' h, ?_⟩
  exact fileLookup_toFile cfg' ((iniClean_iff cfg').mp h).1 s k

/-- `C18_persist_partial` with the configuration file as *text*: the saving run
    leaves `cfg'` in `USERCFG` (`mk_server_cfg`), `write_config` writes `iniWrite cfg'` to ofxget.cfg, and the next
    process builds its `USERCFG` by reading the texts of fi.cfg and of that file.  If `cfg'` is inside the guards of
    the text round trip (see `C18_saved_is_clean` for when it is), every option that `C18_persist_partial` covers
    (`WillWrite`, `readsBack`) has the same value in effect in the next run. -/
theorem C18_persist_text_partial (T : Tables) (hwf : T.WF = true) (hnd : (T.configurable.map (·.1)).Nodup)
    (lookup : Str → Option OhRec) (fidb user : FileC) (c1 : Chain) (uuid : Str) (cfg' : Ini) (s : Str)
    (hs : s ≠ defaultSect) (hnick : serverNick c1 = .ok s)
    (hmk : mkServerCfg T c1 (loadUser fidb user) (loadLib fidb) user uuid = .ok cfg')
    (k : Name) (ty : CfgTy) (hkt : (k, ty) ∈ T.configurable) (v : CfgVal) (hv : effective c1 k = some v)
    (libCfg : Map) (hlib : readConfig T (loadLib fidb) s = .ok libCfg)
    (hw : WillWrite T (reloadCfg (loadUser fidb user) user uuid).defaults libCfg k v)
    (hrb : readsBack T ty v = true)
    (fidbText : Str) (hfi : iniReadFile Ini.empty fidbText = .ok (loadLib fidb))
    (hclean : iniClean cfg' = true) (hvs : valuesStripped cfg' = true) (hcr : noCR cfg' = true)
    (ns2 : Map) (c2 : Chain) (d : CfgVal)
    (hsrv2 : (extractns ns2).lookup "server".toList = some (.str s))
    (hdry2 : (extractns ns2).lookup "dryrun".toList = some d) (htd : truthy d = true)
    (hk2 : (extractns ns2).lookup k = none)
    (U2 : Ini) (hU2 : iniLoadUser fidbText (iniWrite cfg') = .ok U2)
    (h2 : mergeConfig T lookup ns2 U2 = .ok c2) :
    effective c2 k = effective c1 k := by
  rw [C18_ini_reload fidb fidbText hfi cfg' hclean hvs hcr] at hU2
  cases hU2
  exact C18_persist_partial T hwf hnd lookup fidb user c1 uuid cfg' s hs hnick hmk k ty hkt v hv libCfg hlib hw hrb
    ns2 c2 d hsrv2 hdry2 htd hk2 h2

/-- If the configuration `mk_server_cfg` starts from (DEFAULT kept by `clear()`, ofxget.cfg
    re-read, global CLIENTUID) is inside the three guards, the server nickname is a clean section name, the
    CONFIGURABLE option names are clean, and every text `arg2config` returns for a value in effect is a stripped
    single line without carriage return (`SavedOk`; see `C18_saved_values_ok`), then what is written is
    inside the three guards. -/
theorem C18_saved_is_clean (T : Tables) (c1 : Chain) (mem lib : Ini) (hmem : Canon mem) (disk : FileC) (uuid : Str)
    (cfg' : Ini) (s : Str) (hs : s ≠ defaultSect) (hnick : serverNick c1 = .ok s)
    (hmk : mkServerCfg T c1 mem lib disk uuid = .ok cfg')
    (hbase : iniClean (reloadCfg mem disk uuid) = true ∧ valuesStripped (reloadCfg mem disk uuid) = true ∧
      noCR (reloadCfg mem disk uuid) = true)
    (hname : cleanName s = true) (hnamecr : '\r' ∉ s)
    (hkeys : ∀ ot ∈ T.configurable, cleanKey (lower ot.1) = true ∧ '\r' ∉ lower ot.1)
    (hvals : ∀ ot ∈ T.configurable, ∀ v txt, c1.get? ot.1 = some v → arg2config ot.2 v = .ok txt → SavedOk txt) :
    iniClean cfg' = true ∧ valuesStripped cfg' = true ∧ noCR cfg' = true := by
  obtain ⟨h1, h2, h3⟩ := hbase
  obtain ⟨_, hcanon, _⟩ := mkServerCfg_defaults T c1 mem lib hmem disk uuid cfg' s hs hnick hmk
  refine ⟨?_, ?_, ?_⟩
  · rw [iniClean_iff]
    refine ⟨hcanon, mkServerCfg_allKV _ _ T c1 mem lib disk uuid cfg' s hs hnick hmk ((iniClean_iff _).mp h1).2 hname ?_⟩
    intro ot hot v txt hv htxt
    exact ⟨(hkeys ot hot).1, cleanValue_of_savedOk txt (hvals ot hot v txt hv htxt)⟩
  · rw [valuesStripped_iff]
    refine mkServerCfg_allKV _ _ T c1 mem lib disk uuid cfg' s hs hnick hmk ((valuesStripped_iff _).mp h2) trivial ?_
    intro ot hot v txt hv htxt
    exact edgeClean_of_strip txt (hvals ot hot v txt hv htxt).stripped
  · rw [noCR_iff]
    refine mkServerCfg_allKV _ _ T c1 mem lib disk uuid cfg' s hs hnick hmk ((noCR_iff _).mp h3) hnamecr ?_
    intro ot hot v txt hv htxt
    exact ⟨(hkeys ot hot).2, (hvals ot hot v txt hv htxt).noCr⟩

/-- the guards are satisfiable: a starting configuration as `mk_server_cfg` reloads it (a user file with one server
    section, a fresh global CLIENTUID), a nickname with a blank in it -/
example : iniClean (reloadCfg Ini.empty [("srv1".toList, [("User".toList, " bob ".toList)])] "9e5c3b1e".toList) = true ∧
    valuesStripped (reloadCfg Ini.empty [("srv1".toList, [("User".toList, " bob ".toList)])] "9e5c3b1e".toList) = true ∧
    noCR (reloadCfg Ini.empty [("srv1".toList, [("User".toList, " bob ".toList)])] "9e5c3b1e".toList) = true ∧
    cleanName "acme bank".toList = true := by decide +kernel

/-- … and the hypothesis `hfi` of `C18_ini_reload`: a fi.cfg text and its API-level view -/
example : (match iniReadFile Ini.empty "[NAMES]\nacme = 1\n\n[acme]\nURL: https://ofx.acme.example/\n  ?x=1\n".toList with
    | .ok c => c == loadLib [("NAMES".toList, [("acme".toList, "1".toList)]),
                             ("acme".toList, [("url".toList, "https://ofx.acme.example/\n?x=1".toList)])]
    | .error _ => false) = true := by decide +kernel

/-- the CONFIGURABLE option names of the generated tables are clean option names -/
theorem C18_configurable_keys_clean :
    ∀ ot ∈ Generated.ofxgetTables.configurable, cleanKey (lower ot.1) = true ∧ '\r' ∉ lower ot.1 := by
  decide +kernel

/-- the value-level hypothesis of `C18_saved_is_clean` holds for any integer, any boolean, a string without blanks at
    its ends and without line breaks, a non-empty list of clean account numbers -/
theorem C18_saved_values_ok :
    (∀ (i : Int) txt, arg2config .int (.int i) = .ok txt → SavedOk txt) ∧
    (∀ (b : Bool) txt, arg2config .bool (.bool b) = .ok txt → SavedOk txt) ∧
    (∀ (s : Str) txt, strip s = s → '\n' ∉ s → '\r' ∉ s → arg2config .str (.str s) = .ok txt → SavedOk txt) ∧
    (∀ (l : List Str) txt, l ≠ [] → (∀ m ∈ l, CleanMember m) → arg2config .list (.list l) = .ok txt → SavedOk txt) :=
  ⟨fun i _ h => Except.ok.inj h ▸ savedOk_int i, fun b _ h => Except.ok.inj h ▸ savedOk_bool b,
   fun _ _ h1 h2 h3 h => Except.ok.inj h ▸ ⟨h1, h2, h3⟩, fun l _ hne hl h => Except.ok.inj h ▸ savedOk_list l hne hl⟩

example : SavedOk "https://ofx.example.com/cgi?x=%41&y=2".toList :=
  .of_chars (by decide +kernel) (by decide +kernel)

/-- The two together: saving from a clean starting configuration, under a clean nickname, with
    saved texts that are stripped single lines — then the text written, read by the next process, puts every option
    covered by `C18_persist_partial` in effect with the value it had. -/
theorem C18_persist_text (T : Tables) (hwf : T.WF = true) (hnd : (T.configurable.map (·.1)).Nodup)
    (lookup : Str → Option OhRec) (fidb user : FileC) (c1 : Chain) (uuid : Str) (cfg' : Ini) (s : Str)
    (hs : s ≠ defaultSect) (hnick : serverNick c1 = .ok s)
    (hmk : mkServerCfg T c1 (loadUser fidb user) (loadLib fidb) user uuid = .ok cfg')
    (k : Name) (ty : CfgTy) (hkt : (k, ty) ∈ T.configurable) (v : CfgVal) (hv : effective c1 k = some v)
    (libCfg : Map) (hlib : readConfig T (loadLib fidb) s = .ok libCfg)
    (hw : WillWrite T (reloadCfg (loadUser fidb user) user uuid).defaults libCfg k v)
    (hrb : readsBack T ty v = true)
    (fidbText : Str) (hfi : iniReadFile Ini.empty fidbText = .ok (loadLib fidb))
    (hbase : iniClean (reloadCfg (loadUser fidb user) user uuid) = true ∧
      valuesStripped (reloadCfg (loadUser fidb user) user uuid) = true ∧
      noCR (reloadCfg (loadUser fidb user) user uuid) = true)
    (hname : cleanName s = true) (hnamecr : '\r' ∉ s)
    (hkeys : ∀ ot ∈ T.configurable, cleanKey (lower ot.1) = true ∧ '\r' ∉ lower ot.1)
    (hvals : ∀ ot ∈ T.configurable, ∀ v txt, c1.get? ot.1 = some v → arg2config ot.2 v = .ok txt → SavedOk txt)
    (ns2 : Map) (c2 : Chain) (d : CfgVal)
    (hsrv2 : (extractns ns2).lookup "server".toList = some (.str s))
    (hdry2 : (extractns ns2).lookup "dryrun".toList = some d) (htd : truthy d = true)
    (hk2 : (extractns ns2).lookup k = none)
    (U2 : Ini) (hU2 : iniLoadUser fidbText (iniWrite cfg') = .ok U2)
    (h2 : mergeConfig T lookup ns2 U2 = .ok c2) :
    effective c2 k = effective c1 k := by
  obtain ⟨h1, h2', h3⟩ := C18_saved_is_clean T c1 _ _ (canon_loadUser fidb user) user uuid cfg' s hs hnick hmk hbase
    hname hnamecr hkeys hvals
  exact C18_persist_text_partial T hwf hnd lookup fidb user c1 uuid cfg' s hs hnick hmk k ty hkt v hv libCfg hlib hw hrb
    fidbText hfi h1 h2' h3 ns2 c2 d hsrv2 hdry2 htd hk2 U2 hU2 h2

end Ofx.IniText
