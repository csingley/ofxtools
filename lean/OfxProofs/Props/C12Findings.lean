/-
C12 — dispositions of the deviations the extension theorems exhibit.

`C12_refuse_reorder_v1` refuses every reordering of the nine v1 header lines except three orders.  One exception deviates
from the property ("a field out of order is refused ... never yields a header object"): with the optional COMPRESSION line
moved to the very end the unanchored pattern reads the eight mandatory lines, a header object comes back, and the COMPRESSION
line is handed over in front of the body.  (Moved to the very beginning the line is text in front of `OFXHEADER:`, which
the search skips like any other: the eight-line header and the exact body come back, `C12_compression_first_accepted`;
`C12_refuse_reorder_v1_full` is false of that order too.)  Known finding `v1-compression-last-accepted`
(known_findings.json); the witness below is replayed on the real `parse_header` on every run of the C12 check.
-/
import OfxProofs.Props.C12Ext

namespace Ofx.Header
attribute [-simp] String.reduceToList

/-- the statement the property asks for -/
def C12_refuse_reorder_v1_full : Prop :=
  ∀ (p : V1P) (h : V1), ValidV1 p h → ∀ (nvs : List NV), nvs.Perm (v1NVs h) → nvs.map Prod.fst ≠ names9 →
    ∀ (body : Str), body.head? = some '<' → ¬ ofxMarker <:+: body →
      parseV1 p (renderLines nvs ++ body) = .error .header

/-- what the model (and the code) do with COMPRESSION moved last: a header comes back and the COMPRESSION line is left
    in front of the body -/
theorem C12_compression_last_accepted :
    (match parseV1 pinnedV1P wCompLast with
      | .ok (h, n) => h.newfileuid == "NONE".toList && wCompLast.drop n == "\r\nCOMPRESSION:NONE\r\n\r\n<OFX></OFX>".toList
      | .error _ => false) = true := by decide +kernel

/-- with COMPRESSION moved first the search skips the line: accepted, the body is exact -/
theorem C12_compression_first_accepted :
    (match parseV1 pinnedV1P wCompFirst with
      | .ok (h, n) => h.newfileuid == "NONE".toList && wCompFirst.drop n == "\r\n\r\n<OFX></OFX>".toList
      | .error _ => false) = true := by decide +kernel

example : (match parseV1 pinnedV1P wCompLast with
      | .ok (h, n) => h.newfileuid == "NONE".toList && wCompLast.drop n == "\r\nCOMPRESSION:NONE\r\n\r\n<OFX></OFX>".toList
      | .error _ => false) = true := C12_compression_last_accepted
example : (match parseV1 pinnedV1P wCompFirst with
      | .ok (h, n) => h.newfileuid == "NONE".toList && wCompFirst.drop n == "\r\n\r\n<OFX></OFX>".toList
      | .error _ => false) = true := C12_compression_first_accepted

theorem wCompLast_not_refused :
    (match parseV1 pinnedV1P wCompLast with | .error _ => true | .ok _ => false) = false := by
  have h := C12_compression_last_accepted
  cases hp : parseV1 pinnedV1P wCompLast with
  | error e => rw [hp] at h; cases h
  | ok r => rfl

theorem C12_refuse_reorder_v1_full_false : ¬ C12_refuse_reorder_v1_full := by
  intro H
  have hperm : ((v1NVs wHdr).eraseIdx 6 ++ [(compName, "NONE".toList)]).Perm (v1NVs wHdr) :=
    List.isPerm_iff.mp (by decide +kernel)
  have h3 : parseV1 pinnedV1P wCompLast = .error .header :=
    H pinnedV1P wHdr wHdr_valid _ hperm (by decide +kernel) "<OFX></OFX>".toList rfl (by decide +kernel)
  have h2 := wCompLast_not_refused
  rw [h3] at h2
  exact Bool.noConfusion h2

end Ofx.Header
