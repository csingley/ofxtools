/-
C19 — ofxget requests exactly the configured or discovered accounts and given dates.
-/
import OfxProofs.Lemmas.Ofxget
import OfxProofs.Lemmas.OfxgetStmt
import OfxProofs.Lemmas.OfxgetAll
import OfxProofs.Gen.Ofxget

namespace Ofx.Ofxget
open Ofx Ofx.Spec.Ofxget

/-- `convert_datetime` hands exactly `DateTime().convert(text or None)` of the three configured texts
    to the requests, in the order start, end, as-of (`D` is `DateTime().convert`, abstract). -/
theorem C19_dates {δ : Type} (D : Option Str → PyM (Option δ)) (args : Chain) (ts te ta : Str) (r : Dates δ)
    (hs : args.get? "dtstart".toList = some (.str ts)) (he : args.get? "dtend".toList = some (.str te))
    (ha : args.get? "dtasof".toList = some (.str ta))
    (h : convertDatetime D args = .ok r) :
    D (if ts = [] then none else some ts) = .ok r.start ∧
    D (if te = [] then none else some te) = .ok r.end ∧
    D (if ta = [] then none else some ta) = .ok r.asof := by
  unfold convertDatetime at h
  generalize "dtstart".toList = k1 at hs h
  generalize "dtend".toList = k2 at he h
  generalize "dtasof".toList = k3 at ha h
  simp only [getItem_of_get? hs, getItem_of_get? he, getItem_of_get? ha, dateArg, PyM.ok_bind] at h
  obtain ⟨v1, h1, h⟩ := PyM.bind_ok h
  obtain ⟨v2, h2, h⟩ := PyM.bind_ok h
  obtain ⟨v3, h3, h⟩ := PyM.bind_ok h
  cases h
  simp only [List.isEmpty_iff] at h1 h2 h3
  exact ⟨h1, h2, h3⟩

/-- without `--all` nothing is discovered: the mapping is left as it is -/
theorem C19_no_all_no_discovery (args : Chain) (acct : PyM (List AcctInfo)) (v : CfgVal)
    (hv : args.get? "all".toList = some v) (hf : truthy v = false) : discover args acct = .ok args :=
  discover_no_all args acct v hv hf

/-- the ids the loop over one account type runs through are the configured list, in order -/
theorem C19_ids_of_list (args : Chain) (k : Name) (ids : List Str) (h : args.get? k = some (.list ids)) :
    acctIds args k = .ok ids :=
  acctIds_of_get? h

/-- the discovered mapping is consulted right after the command line and before the configuration files -/
theorem C19_discovered_rank (cli : Map) (rest : List Map) (infos : List AcctInfo) (m : Map) (c : Chain)
    (hm : parsedAcctinfo infos = .ok m) (h : mergeAcctinfo (cli :: rest) infos = .ok c) :
    c = cli :: m :: rest := by
  obtain ⟨m', hm', hc⟩ := mergeAcctinfo_ok cli rest infos c h
  rw [hm] at hm'
  cases hm'
  exact hc

/-- `ofxget stmt`.  For every mapping without `--all` whose six account-type options hold
    lists `a` and whose include flags are `t oo pos bal`: if `request_stmt` gets as far as calling the client, the
    request tuples are exactly the declarative list `specStmt` — one per configured id, bank types in the order
    checking, savings, moneymrkt, creditline with `accttype` the upper-cased option name, then credit cards, then
    investment accounts, each with the converted dates and the flags — in that order, none missing, duplicated or
    of another kind; the client is built from the same mapping, in particular with the configured bank id and
    broker id (or `None` when empty). -/
theorem C19_configured {δ : Type} (D : Option Str → PyM (Option δ)) (args : Chain) (acct : PyM (List AcctInfo))
    (a : Accounts) (t oo pos bal v b k : CfgVal)
    (hall : args.get? "all".toList = some v) (hnot : truthy v = false)
    (ha : HasAccounts args a) (hf : HasFlags args t oo pos bal)
    (hb : args.get? "bankid".toList = some b) (hk : args.get? "brokerid".toList = some k)
    (p : Plan δ) (h : requestStmt D args acct = .ok p) :
    ∃ dt, convertDatetime D args = .ok dt ∧
      p.requests = specStmt a ⟨dt.start, dt.end, dt.asof, t, oo, pos, bal⟩ ∧
      p.client.lookup "bankid".toList = some (orNone b) ∧ p.client.lookup "brokerid".toList = some (orNone k) := by
  obtain ⟨dt, hdt, hrq, hcl, -⟩ := plan_configured (closing := false) hall hnot h
  have := initClient_ids args p.client hcl b k hb hk
  exact ⟨dt, hdt, by rw [hrq, ha.accountsOf, hf.optsOf]; rfl, this.1, this.2⟩

/-- `ofxget stmtend`: bank and credit-card accounts only, no flags. -/
theorem C19_configured_stmtend {δ : Type} (D : Option Str → PyM (Option δ)) (args : Chain) (acct : PyM (List AcctInfo))
    (a : Accounts) (v : CfgVal)
    (hall : args.get? "all".toList = some v) (hnot : truthy v = false)
    (ha : HasAccounts args a)
    (p : Plan δ) (h : requestStmtend D args acct = .ok p) :
    ∃ dt, convertDatetime D args = .ok dt ∧
      p.requests = specStmtend a ⟨dt.start, dt.end, dt.asof, .null, .null, .null, .null⟩ := by
  obtain ⟨dt, hdt, hrq, -, -⟩ := plan_configured (closing := true) hall hnot h
  exact ⟨dt, hdt, by rw [hrq, ha.accountsOf]; rfl⟩

/-- `ofxget stmt --all` with no account named on the command line: for every configuration
    underneath and every account-information response (account types in ACCTTYPES), if the request is composed,
    then under `NoFallback` (no account-type key the response is silent about is configured further down) the
    accounts requested are, as a multiset, exactly those the response lists as ACTIVE of requestable types. -/
theorem C19_all_active {δ : Type} (D : Option Str → PyM (Option δ)) (cli : Map) (rest : Chain)
    (infos : List AcctInfo) (p : Plan δ) (v : CfgVal)
    (hall : Chain.get? (cli :: rest) "all".toList = some v) (ht : truthy v = true)
    (hcli : ∀ t ∈ acctKeys, cli.lookup t = none)
    (hv : ValidInfos infos) (hg : NoFallback rest infos)
    (h : requestStmt D (cli :: rest) (.ok infos) = .ok p) :
    (p.requests.map rqAcct).Perm (specActive false infos) :=
  all_active false D cli rest infos p v hall ht hcli hv hg h

/-- `ofxget stmtend --all` -/
theorem C19_all_active_stmtend {δ : Type} (D : Option Str → PyM (Option δ)) (cli : Map) (rest : Chain)
    (infos : List AcctInfo) (p : Plan δ) (v : CfgVal)
    (hall : Chain.get? (cli :: rest) "all".toList = some v) (ht : truthy v = true)
    (hcli : ∀ t ∈ closingKeys, cli.lookup t = none)
    (hv : ValidInfos infos) (hg : NoFallbackClosing rest infos)
    (h : requestStmtend D (cli :: rest) (.ok infos) = .ok p) :
    (p.requests.map rqAcct).Perm (specActive true infos) :=
  all_active true D cli rest infos p v hall ht hcli hv hg h

/-- Under the same guard every account requested with `--all` is one the response
    lists as ACTIVE (hence never one it lists only with another status). -/
theorem C19_never_inactive_partial {δ : Type} (D : Option Str → PyM (Option δ)) (cli : Map) (rest : Chain)
    (infos : List AcctInfo) (p : Plan δ) (v : CfgVal)
    (hall : Chain.get? (cli :: rest) "all".toList = some v) (ht : truthy v = true)
    (hcli : ∀ t ∈ acctKeys, cli.lookup t = none)
    (hv : ValidInfos infos) (hg : NoFallback rest infos)
    (h : requestStmt D (cli :: rest) (.ok infos) = .ok p) :
    ∀ r ∈ p.requests, ∃ inf ∈ infos, requestable false inf = some (rqAcct r) := by
  intro r hr
  exact listed_active_of_perm false infos _ (C19_all_active D cli rest infos p v hall ht hcli hv hg h) (rqAcct r)
    (List.mem_map_of_mem hr)

theorem C19_never_inactive_partial_stmtend {δ : Type} (D : Option Str → PyM (Option δ)) (cli : Map) (rest : Chain)
    (infos : List AcctInfo) (p : Plan δ) (v : CfgVal)
    (hall : Chain.get? (cli :: rest) "all".toList = some v) (ht : truthy v = true)
    (hcli : ∀ t ∈ closingKeys, cli.lookup t = none)
    (hv : ValidInfos infos) (hg : NoFallbackClosing rest infos)
    (h : requestStmtend D (cli :: rest) (.ok infos) = .ok p) :
    ∀ r ∈ p.requests, ∃ inf ∈ infos, requestable true inf = some (rqAcct r) := by
  intro r hr
  exact listed_active_of_perm true infos _ (C19_all_active_stmtend D cli rest infos p v hall ht hcli hv hg h)
    (rqAcct r) (List.mem_map_of_mem hr)

/-- the guard is satisfiable by a non-trivial situation: a response with an ACTIVE checking account and a PEND
    savings account, over a configuration that lists a *checking* account (shadowed by the discovered one) -/
example : NoFallback [[("checking".toList, .list ["OLD".toList])], Generated.ofxgetTables.defaults]
    [.bank "1".toList "C1".toList "CHECKING".toList "ACTIVE".toList,
     .bank "1".toList "S1".toList "SAVINGS".toList "PEND".toList] := by
  unfold NoFallback
  decide +kernel

example : ValidInfos [.bank "1".toList "C1".toList "CHECKING".toList "ACTIVE".toList, .cc "K".toList "PEND".toList] := by
  intro inf hinf
  simp only [List.mem_cons, List.mem_nil_iff, or_false] at hinf
  rcases hinf with rfl | rfl
  · show "CHECKING".toList ∈ validAcctTypes
    decide
  · trivial

/-- does a run of `ofxget stmt` request an account that the response lists with a status other than ACTIVE? -/
def requestsInactive (args : Chain) (infos : List AcctInfo) : Bool :=
  match requestStmt (fun (d : Option Str) => .ok d) args (.ok infos) with
  | .ok p => p.requests.any fun r => listedInactive infos (rqAcct r)
  | .error _ => false

/-- does the run fail although the response lists ACTIVE accounts? -/
def failsWithActive (args : Chain) (infos : List AcctInfo) : Bool :=
  match requestStmt (fun (d : Option Str) => .ok d) args (.ok infos) with
  | .ok _ => false
  | .error _ => !(specActive false infos).isEmpty

def C19_never_inactive_full : Prop :=
  ∀ (cli user : Map) (infos : List AcctInfo), cli.lookup "all".toList = some (.bool true) →
    (∀ k ∈ bankTypes ++ ["creditcard".toList, "investment".toList, "bankid".toList, "brokerid".toList], cli.lookup k = none) →
    requestsInactive [cli, user, Generated.ofxgetTables.defaults] infos = false

def wCli : Map := [("all".toList, .bool true), ("url".toList, .str "https://h/".toList)]

/-- the two recorded runs below, evaluated in one pass over the generated DEFAULTS -/
theorem all_runs :
    requestsInactive [wCli, [("savings".toList, .list ["S1".toList])], Generated.ofxgetTables.defaults]
      [.bank "1".toList "C1".toList "CHECKING".toList "ACTIVE".toList,
       .bank "1".toList "S1".toList "SAVINGS".toList "PEND".toList] = true ∧
    failsWithActive [wCli, [], Generated.ofxgetTables.defaults]
      [.bank "1".toList "C1".toList "CHECKING".toList "PEND".toList, .cc "K1".toList "ACTIVE".toList] = false := by
  decide +kernel

/-- witness: the server lists checking C1 ACTIVE and savings S1 PEND; ofxget.cfg lists S1 under `savings`;
    `--all` requests S1 as well (the SAVINGS type has no ACTIVE account, so `args["savings"]` falls through) -/
theorem C19_falls_back_witness :
    requestsInactive [wCli, [("savings".toList, .list ["S1".toList])], Generated.ofxgetTables.defaults]
      [.bank "1".toList "C1".toList "CHECKING".toList "ACTIVE".toList,
       .bank "1".toList "S1".toList "SAVINGS".toList "PEND".toList] = true :=
  all_runs.1

/-- bank accounts listed, none ACTIVE, an ACTIVE credit card: `ofxget --all` does not fail, the request is composed (for
    the credit card); the input of finding all-no-active-bank-raises -/
theorem C19_no_active_bank_fixed :
    failsWithActive [wCli, [], Generated.ofxgetTables.defaults]
      [.bank "1".toList "C1".toList "CHECKING".toList "PEND".toList, .cc "K1".toList "ACTIVE".toList] = false :=
  all_runs.2

theorem C19_never_inactive_full_false : ¬ C19_never_inactive_full := by
  intro h
  have := (h wCli [("savings".toList, .list ["S1".toList])]
      [.bank "1".toList "C1".toList "CHECKING".toList "ACTIVE".toList,
       .bank "1".toList "S1".toList "SAVINGS".toList "PEND".toList] (by decide +kernel) (by decide +kernel))
  rw [C19_falls_back_witness] at this
  cases this

end Ofx.Ofxget
