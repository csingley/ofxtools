/-
C13 — constructibility as a theorem (`C13_constructible`), and the renamed children written under their tag
(`C13_child_written_under_tag`).  The table of (class, child) obligations is a finite obligation over the generated
schema, closed by kernel evaluation in `Gen/C13Exist*.lean`; generic are `ValidFull`, the shape facts and, for an
instance the table finds valid (`validB`, given the schema facts `CheckEnv`), the written form and the read-back:
`written_tag` and the round-trip theorem stand in for running writer and reader.
-/
import OfxProofs.Lemmas.C13Level
import OfxProofs.Props.C13

namespace Ofx.Agg
open Ofx Ofx.Spec.Witness

def coversB (S : Schema) (cover : List (Nat × Nat)) : Bool :=
  (List.range S.classes.length).all fun ci => cover.any fun p => decide (p.1 ≤ ci) && decide (ci < p.1 + p.2)

/-- the per-child table is closed on every range of a cover of the class indices -/
def Constructible (S : Schema) (cv : Conv) (esc : Str → Str) (domB : Kind → Bool → Val → Bool) (X : List Str)
    (fuel : Nat) (cover : List (Nat × Nat)) : Prop :=
  coversB S cover = true ∧ ∀ p ∈ cover, rangeOk S cv esc domB X fuel p.1 p.2 = true

theorem coversB_mem {S : Schema} {cover : List (Nat × Nat)} (h : coversB S cover = true) {ci : Nat}
    (hlt : ci < S.classes.length) : ∃ p ∈ cover, p.1 ≤ ci ∧ ci < p.1 + p.2 := by
  obtain ⟨p, hp, hin⟩ := List.any_eq_true.mp (List.all_eq_true.mp h ci (List.mem_range.mpr hlt))
  simp only [Bool.and_eq_true, decide_eq_true_eq] at hin
  exact ⟨p, hp, hin⟩

theorem holds_iff (a : Attr) (ci : Nat) (fields : List (Str × Node)) (items : List Node) :
    holds a (.agg ci fields items) = true ↔
      match a.kind with
      | .listAgg t => ∃ m ∈ items, m.cls? = some t
      | .listElem .. => items ≠ []
      | _ => ∃ v, lookup a.name fields = some v ∧ v ≠ .val .none := by
  have hnn : ∀ v : Node, notNone v = true ↔ v ≠ .val .none := by
    intro v
    cases v with
    | val x => cases x <;> simp [notNone]
    | agg => simp [notNone]
  have hplain : (match lookup a.name fields with | some v => notNone v | none => false) = true ↔
      ∃ v, lookup a.name fields = some v ∧ v ≠ .val .none := by
    cases hl : lookup a.name fields with
    | none => simp
    | some v => simp [hnn]
  cases hk : a.kind <;> simp only [holds, hk] <;> first
    | exact hplain
    | simp [List.any_eq_true]
    | (cases items <;> simp)

/-- **C13 (constructibility).**  For every schema whose table of (class, child) obligations is closed (`Constructible`),
    every supported child `a` declared by a concrete exported class `ci` has the description `Witness.mkWith S fuel ci a`,
    which the constructors accept (`Witness.build`, bottom-up `Agg.construct` with the real converters), giving an
    instance of class `ci` that holds the child (`Witness.holds`), satisfies every constraint of its class all the way
    down (`ValidFull` — proved generically for every description the constructors accept, `build_full`, not read off
    the table), is written by `to_etree` under the class's tag with a child tagged `wireTag c a` (the child's own tag,
    or the renamed one for the three `ungroom` classes), and is read back by `from_etree` (after the text map of
    serialise ∘ parse) as the very same instance. -/
theorem C13_constructible (S : Schema) (hS : SchemaOk S) (esc : Str → Str) (domB : Kind → Bool → Val → Bool)
    (X : List Str) (env : CheckEnv S Types.conv esc domB X) (fuel : Nat) (cover : List (Nat × Nat))
    (h : Constructible S Types.conv esc domB X fuel cover)
    (ci : Nat) (c : Cls) (a : Attr) (hc : S.cls? ci = some c) (hab : c.abstract = false) (hex : c.exported = true)
    (ha : a ∈ c.spec) (hs : a.kind.isUnsupported = false) :
    ∃ d fields items,
      mkWith S fuel ci a = some d ∧
      build S Types.conv d = .ok (.agg ci fields items) ∧
      holds a (.agg ci fields items) = true ∧
      ValidFull S (.agg ci fields items) ∧
      ∃ x tl children,
        toEtree S Types.conv (.agg ci fields items) = .ok (.node c.name x tl children) ∧
        (∃ ch ∈ children, ch.tag = wireTag c a) ∧
        fromEtree S Types.conv (mapText esc (.node c.name x tl children)) = .ok (.agg ci fields items) := by
  obtain ⟨hcov, hall⟩ := h
  have hlt : ci < S.classes.length := by
    unfold Schema.cls? at hc
    exact (List.getElem?_eq_some_iff.mp hc).1
  obtain ⟨p, hp, hin⟩ := coversB_mem hcov hlt
  obtain ⟨d, n, hd, hb, hh, t, ht, hch, hf⟩ :=
    rangeOk_sound S Types.conv esc domB X env fuel p.1 p.2 (hall p hp) ci hin.1 hin.2 c hc hab hex a ha hs
  -- the description is a call of class `ci`, so the instance is one of class `ci`
  obtain ⟨kw, args, rfl, _, _⟩ := mk_children S fuel ci _ d hd
  obtain ⟨fields, items, rfl⟩ := build_agg S Types.conv ci kw args n hb
  have hfull : ValidFull S (.agg ci fields items) := build_full S hS _ _ hb rfl
  cases t with
  | node tag x tl children =>
    have hshape := toEtree_shape S Types.conv ci fields items c _ hc ht
    simp only [Tree.tag] at hshape
    obtain ⟨htag, _⟩ := hshape
    subst htag
    exact ⟨_, fields, items, hd, hb, hh, hfull, x, tl, children, ht, hch, hf⟩

/-- **C13 (a renamed child is written under its tag and read back).**  For a valid instance of a class whose writer
    renames one child (`ungroom`: `u.fromTag` → `u.toTag`; `YLD` → `YIELD` for `MFINFO`/`STOCKINFO`, `FRM` → `FROM`
    for `MAIL`), the element the instance holds under the attribute `lower u.fromTag` is written as a child tagged
    `u.toTag`, and the library's reader converts the written tree back into the very same instance — so the child is
    read back into the same attribute.  (`hup`: the attribute's upper-cased name is the renamed-from tag — a clause
    of the generated obligation, `Gen.schema_ungroom_upper`.) -/
theorem C13_child_written_under_tag (S : Schema) (cv : Conv) (esc : Str → Str)
    (Dom : Kind → Bool → Val → Prop) (laws : ConvLaws cv S.enums esc Dom)
    (ci : Nat) (fields : List (Str × Node)) (items : List Node)
    (hv : Valid S cv esc Dom (.agg ci fields items))
    (c : Cls) (hc : S.cls? ci = some c) (u : Rename) (hu : c.ungroom = some u)
    (hup : upper (lower u.fromTag) = u.fromTag)
    (x : Val) (hx : lookup (lower u.fromTag) fields = some (.val x)) (hxn : x ≠ .none) :
    ∃ tx tl children, toEtree S cv (.agg ci fields items) = .ok (.node c.name tx tl children) ∧
      fromEtree S cv (mapText esc (.node c.name tx tl children)) = .ok (.agg ci fields items) ∧
      ∃ ch ∈ children, ch.tag = u.toTag := by
  obtain ⟨t, ht, hrt⟩ := C01_agg_roundtrip S cv esc Dom laws _ hv
  obtain ⟨⟨c', ok⟩, _, _⟩ := hv
  have hcc : c' = c := by
    have := ok.hc; rw [hc] at this; injection this with this; exact this.symm
  subst hcc
  obtain ⟨a, haL, hname, hunsup, _⟩ := ok.fm.mem _ _ (lookup_mem hx)
  obtain ⟨haS, hlist⟩ := mem_specNoList.mp haL
  obtain ⟨out, hem, rfl⟩ := toEtree_ok S cv hc ht
  obtain ⟨ch, hch, htag⟩ := emitSpec_emits S cv c' fields items c'.spec true out hem a haS hlist hunsup x
    (by rw [hname]; exact hx) hxn
  rw [hname, hup] at htag
  obtain ⟨ch', hch', htag'⟩ := renameFirst_has u out ⟨ch, hch, htag⟩
  rw [hu] at ht hrt
  exact ⟨none, none, renameFirst u out, ht, hrt, ch', hch', htag'⟩

end Ofx.Agg
