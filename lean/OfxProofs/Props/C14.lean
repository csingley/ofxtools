/-
C14 — the client sends only what it should, where it should, and nothing on a dry run.

Every statement is about the state machine `OfxModel/Ofx/ClientSM.lean` (tied to ofxtools/Client.py by
`harness/corr/C14.py`, which runs the real methods against an in-process fake HTTP layer) and holds for
**every** network (`World.net`: any function of the request number and the request), every profile content
(`World.adv`), every cache directory `fs`, every client state and every operation.

Partial: urllib's header normalisation and redirect handling and the `requests` branch of `post_request` are not
modelled.  The state machine's own jar is the simplest one (cookies are pairs of numbers, "host-only session cookies
with Path=/"), and `C14_cookies` below is about that jar.  The domain / path / secure / expiry policy of
`http.cookiejar` is modelled in `OfxModel/Ofx/CookieJar.lean` and the cookie clauses are proved for it in
`Props/C14Cookies.lean`; no theorem relates `HttpReq.cookies` here to `cookieHeader` there.
-/
import OfxProofs.Lemmas.ClientSM
import OfxModel.Spec.CacheSpec

namespace Ofx.ClientSM
open Ofx Ofx.Cache Ofx.Spec.Client

variable (w : World) (clock who : Nat) (fs : FS) (st : ClientSt) (op : Op)

/-- A dry run performs no network request (whatever the kind of call, the cache and the network). -/
theorem C14_dryrun (h : op.mode = .dryrun) : (step w clock who fs st op).evs = [] := by
  rcases step_cases w clock who fs st op with ⟨h0, _⟩ | ⟨_, hm, _⟩ | ⟨_, hm, _⟩ | ⟨_, hm, _⟩
  · exact h0
  · exact absurd h hm
  · rw [h] at hm; cases hm
  · rw [h] at hm; cases hm

theorem accept_admits : acceptAdmits acceptValue ofxMime = true := by decide +kernel

/-- Every request of every call is one POST by the calling client, with the headers of
    `http_headers` — content type `application/x-ofx`, an Accept header admitting it, the configured user agent —
    and its body is the serialised request of that call: a PROFRQ with the date held, or the call's own request
    with the configured user id and the given password. -/
theorem C14_shape (e : Ev) (he : e ∈ (step w clock who fs st op).evs) :
    e.who = who ∧ e.req.method = .POST ∧ e.req.headers = httpHeaders st.cfg ∧
      shapeOk st.cfg.effUseragent e.req = true ∧
      ((∃ h, e.req.body = profileBody h) ∨ e.req.body = mainBody st op) := by
  have hshape : ∀ (st' : ClientSt) (url : Url) (body : Body), st'.cfg = st.cfg →
      shapeOk st.cfg.effUseragent (mkReq st' url body) = true := by
    intro st' url body hc
    simp [shapeOk, httpHeaders, hc, accept_admits]
  rcases step_origin w clock who fs st op e he with ⟨h, _, rfl, _⟩ | ⟨_, _, rfl⟩ | ⟨_, _, p, url, st', clock', _, hc, _, rfl⟩
  · refine ⟨post_who .., ?_, ?_, ?_, .inl ⟨h.map Profile.date, ?_⟩⟩ <;> simp only [profilePost, post_req]
    · rfl
    · rfl
    · exact hshape st _ _ rfl
    · rfl
  · refine ⟨post_who .., ?_, ?_, ?_, .inr ?_⟩ <;> simp only [post_req]
    · rfl
    · rfl
    · exact hshape st _ _ rfl
    · rfl
  · refine ⟨post_who .., ?_, ?_, ?_, .inr ?_⟩ <;> simp only [post_req]
    · rfl
    · rw [mkReq_headers, hc]
    · exact hshape st' _ _ hc
    · simp [mainBody, Cfg.effUserid, hc]

/-- A profile request goes to the configured URL and carries only the anonymous placeholder
    credentials. -/
theorem C14_profile (e : Ev) (he : e ∈ (step w clock who fs st op).evs) (hk : e.req.body.kind = .profile) :
    e.req.url = st.cfg.url ∧ e.req.body.user = authPlaceholder ∧ e.req.body.pass = authPlaceholder := by
  rcases step_origin w clock who fs st op e he with ⟨h, _, rfl, _⟩ | ⟨hk', _, rfl⟩ | ⟨hk', _, p, url, st', clock', _, _, _, rfl⟩
  · simp [profilePost, post_req, profileBody]
  · simp [post_req] at hk; exact absurd hk hk'
  · simp [post_req] at hk; exact absurd hk hk'

/-- the credentials clause of `C14_profile` on the `Bool` oracle `isPlaceholderCreds` -/
theorem C14_profile_creds (e : Ev) (he : e ∈ (step w clock who fs st op).evs) (hk : e.req.body.kind = .profile) :
    isPlaceholderCreds e.req.body = true := by
  obtain ⟨_, hu, hp⟩ := C14_profile w clock who fs st op e he hk
  simp [isPlaceholderCreds, hu, hp]

/-- A request that carries anything else than the placeholder pair — the user's id or password — is
    the main request of a statement / account-info / tax call, and goes

    * under `skip_profile`: to the configured URL;
    * otherwise: to the URL advertised by the profile that `request_profile` returned in this very call — every
      statement message set of that profile names this URL and no other. -/
theorem C14_creds (e : Ev) (he : e ∈ (step w clock who fs st op).evs)
    (hc : isPlaceholderCreds e.req.body = false) :
    op.kind ≠ .profile ∧ e.req.body.kind = op.kind ∧
    ((op.mode = .skipProfile ∧ e.req.url = st.cfg.url) ∨
     (op.mode = .normal ∧ ∃ p, (requestProfile w clock who fs st false).res = .ok (.prof p) ∧
        e.req.url ∈ w.adv p.body ∧ ∀ u ∈ w.adv p.body, u = e.req.url)) := by
  rcases step_origin w clock who fs st op e he with ⟨h, _, rfl, _⟩ | ⟨hk', hm, rfl⟩ | ⟨hk', hm, p, url, st', clock', hp, _, hu, rfl⟩
  · simp [profilePost, post_req, profileBody, isPlaceholderCreds] at hc
  · exact ⟨hk', by simp [post_req], .inl ⟨hm, by simp [post_req]⟩⟩
  · obtain ⟨h1, h2⟩ := serviceUrl_ok hu
    exact ⟨hk', by simp [post_req], .inr ⟨hm, p, hp, by simpa [post_req] using h1, by simpa [post_req] using h2⟩⟩

theorem C14_count : (step w clock who fs st op).evs.length ≤ 2 := by
  rcases step_cases w clock who fs st op with ⟨h, _⟩ | ⟨_, _, _, h, _⟩ | ⟨_, _, h, _⟩ | ⟨_, _, _, _, _, _, _, _, h, _⟩ <;>
    simp [h]

/-- Start any number of client instances with empty jars (as `__init__` creates them) over any
    cache directory, and let them perform **any history** of public calls in any order against any network.  Look
    at any request `e` on the wire and the requests `pre` before it.  Then

    1. *origin / isolation:* every cookie `e` carries was set by the response to an earlier request **of the same
       client instance** at the same host — so a cookie a server gave to one instance never shows up in a request
       of another;
    2. *replay:* if that client keeps cookies (`persist_cookies`), every cookie name that a response to one of its
       earlier requests at this host set is present in `e`.

    (The jar of `ClientSM.lean`: host-only session cookies with `Path=/`; see the file header.) -/
theorem C14_cookies (w : World) (s0 : Sys) (hjar : ∀ who, (s0.clients who).jar = []) (hist : List (Nat × Op))
    (pre : List Ev) (e : Ev) (post : List Ev) (h : Sys.trace w s0 hist = pre ++ e :: post) :
    (∀ nv ∈ e.req.cookies, ∃ e0 ∈ pre, e0.who = e.who ∧ e0.req.url.host = e.req.url.host ∧ nv ∈ e0.set) ∧
    ((s0.clients e.who).cfg.persistCookies = true →
      ∀ e0 ∈ pre, e0.who = e.who → e0.req.url.host = e.req.url.host →
        ∀ nv ∈ e0.set, ∃ v', (nv.1, v') ∈ e.req.cookies) := by
  have hinv : SysInv (fun who => (s0.clients who).cfg.persistCookies) s0 [] := by
    refine ⟨fun who => ⟨?_, ?_⟩, fun _ => rfl, traceOK_nil _⟩
    · intro c hc; rw [hjar who] at hc; cases hc
    · intro _ e0 he0; cases he0
  have := sys_run_inv w _ hist s0 [] hinv pre e post (by simpa using h)
  exact this

/-- Isolation, spelled out: a cookie that no response to this client's own earlier requests set is not sent. -/
theorem C14_cookies_isolation (w : World) (s0 : Sys) (hjar : ∀ who, (s0.clients who).jar = [])
    (hist : List (Nat × Op)) (pre : List Ev) (e : Ev) (post : List Ev)
    (h : Sys.trace w s0 hist = pre ++ e :: post) (nv : Nat × Nat)
    (hforeign : ∀ e0 ∈ pre, e0.who = e.who → nv ∉ e0.set) : nv ∉ e.req.cookies := by
  intro hin
  obtain ⟨e0, he0, hw, _, hs⟩ := (C14_cookies w s0 hjar hist pre e post h).1 nv hin
  exact hforeign e0 he0 hw hs

/-- The requests of a history are those of its operations, each by the client that performed it. -/
theorem C14_trace_who (w : World) (s : Sys) (hist : List (Nat × Op)) :
    ∀ r ∈ Sys.run w s hist, ∀ e ∈ r.evs, e.who = r.who := by
  induction hist generalizing s with
  | nil => simp [Sys.run]
  | cons x rest ih =>
    obtain ⟨who, op⟩ := x
    intro r hr
    simp only [Sys.run, List.mem_cons] at hr
    rcases hr with rfl | hr
    · intro e he
      exact (C14_shape w s.clock who s.fs (s.clients who) op e he).1
    · exact ih _ r hr

/-! ### the `Bool` oracles `profileOk`, `credsOk`, `originOk` of `Spec/CacheSpec.lean` (what `spec.c14` evaluates on the
     real trace) hold of the model; `shapeOk` is in `C14_shape`, `replayOk` has no theorem -/

/-- the URL to which this call may send the user's credentials -/
def allowedUrl : Option Url :=
  match op.mode with
  | .dryrun => none
  | .skipProfile => some st.cfg.url
  | .normal =>
    match (requestProfile w clock who fs st false).res with
    | .ok (.prof p) => match serviceUrl w p with | .ok u => some u | .error _ => none
    | _ => none

theorem C14_oracle_profile (e : Ev) (he : e ∈ (step w clock who fs st op).evs) :
    profileOk st.cfg.url e.req = true := by
  by_cases hk : e.req.body.kind = .profile
  · obtain ⟨h1, h2, h3⟩ := C14_profile w clock who fs st op e he hk
    simp [profileOk, isPlaceholderCreds, h1, h2, h3]
  · simp [profileOk, hk]

theorem C14_oracle_creds (e : Ev) (he : e ∈ (step w clock who fs st op).evs) :
    credsOk (allowedUrl w clock who fs st op) e.req = true := by
  rcases step_origin w clock who fs st op e he with ⟨h, _, rfl, _⟩ | ⟨hk', hm, rfl⟩ | ⟨hk', hm, p, url, st', clock', hp, _, hu, rfl⟩
  · simp [credsOk, profilePost, post_req, profileBody, isPlaceholderCreds]
  · simp [credsOk, allowedUrl, hm, post_req]
  · simp [credsOk, allowedUrl, hm, hp, hu, post_req]

/-- the origin oracle the harness evaluates on the real trace is always true of the model's trace -/
theorem C14_oracle_origin (s0 : Sys) (hjar : ∀ who, (s0.clients who).jar = []) (hist : List (Nat × Op)) :
    originOk [] (Sys.trace w s0 hist) = true := by
  rw [originOk_iff]
  intro a e post heq nv hnv
  obtain ⟨e0, he0, hw, hh, hs⟩ := (C14_cookies w s0 hjar hist a e post heq).1 nv hnv
  exact mem_setBy.mpr ⟨e0, by simpa using he0, hw, hh, hs⟩

section Example
def exWorld : World :=
  { net := fun n _ => if n = 0 then ⟨[(1, 7)], false, .profile ⟨3, 1, 0⟩⟩ else ⟨[], false, .garbage⟩,
    adv := fun _ => [⟨1, 0⟩, ⟨1, 0⟩] }
def exClient : ClientSt := ⟨⟨⟨0, 0⟩, some "alice".toList, none, none, none, true⟩, []⟩
-- two instances talking to the same host: each gets back only its own cookie
def exSys : Sys := ⟨fun _ => exClient, FS.empty, 0⟩
def exCookieWorld : World :=
  { net := fun n _ => ⟨[(1, 100 + n)], false, .garbage⟩, adv := fun _ => [] }
example : ((Sys.trace exCookieWorld exSys
      [(0, ⟨.tax, .skipProfile, []⟩), (1, ⟨.tax, .skipProfile, []⟩), (0, ⟨.tax, .skipProfile, []⟩),
       (1, ⟨.tax, .skipProfile, []⟩)]).map fun e => (e.who, e.req.cookies, e.set)) =
    [(0, [], [(1, 100)]), (1, [], [(1, 101)]), (0, [(1, 100)], [(1, 102)]), (1, [(1, 101)], [(1, 103)])] := by
  decide +kernel
-- the guards are satisfiable: a normal statements call against a server whose profile advertises another host
-- issues the PROFRQ to the configured URL and the statement request, with the user's credentials, to the advertised one
example : ((step exWorld 0 0 FS.empty exClient ⟨.statements, .normal, "pw".toList⟩).evs.map
      fun e => (e.req.url, e.req.body.kind, decide (e.req.body.user = authPlaceholder), e.req.cookies)) =
    [((⟨0, 0⟩ : Url), Kind.profile, true, []), (⟨1, 0⟩, Kind.statements, false, [])] := by decide +kernel
end Example

end Ofx.ClientSM
