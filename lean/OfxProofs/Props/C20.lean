/-
C20 — security-identifier check digits.

Every statement is about the model `OfxModel/Ofx/SecId.lean` (tied to
`ofxtools/utils.py` by the correspondence check `harness/corr/C20.py`).
-/
import OfxProofs.Lemmas.SecId
import OfxProofs.Lemmas.PyM

namespace Ofx.SecId
open Ofx Ofx.Spec.SecId

/-- For every 8-character base over the CUSIP alphabet (`0-9 A-Z a-z * @ #`) the code's check
    digit is the one the public mod-10 double-add-double algorithm defines. -/
theorem C20_cusip_eq (base : Str) (vals : List Nat) (hl : base.length = 8)
    (hv : valsOf cusipCharVal base = some vals) :
    cusipChecksum base = .ok (digitChar (cusipSpec vals)) := by
  obtain ⟨parts, hp, hs⟩ := cusipParts_sum base 0 vals hv
  simp [cusipChecksum, hl, hp, hs, cusipSpec, checkChar_eq]

theorem C20_cusip_validates (base : Str) (vals : List Nat) (hl : base.length = 8)
    (hv : valsOf cusipCharVal base = some vals) :
    validateCusip (base ++ [digitChar (cusipSpec vals)]) = .ok true := by
  simp [validateCusip_snoc base _ hl, C20_cusip_eq base vals hl hv, Except.map]

theorem C20_cusip_detects (base : Str) (vals : List Nat) (c : Char) (hl : base.length = 8)
    (hv : valsOf cusipCharVal base = some vals) (hc : c ≠ digitChar (cusipSpec vals)) :
    validateCusip (base ++ [c]) = .ok false := by
  simp [validateCusip_snoc base c hl, C20_cusip_eq base vals hl hv, Except.map, Ne.symm hc]

theorem C20_cusip_length (s : Str) (h : s.length ≠ 9) : validateCusip s = .ok false := by
  simp [validateCusip, h]

-- the hypotheses are satisfiable by a non-trivial value (Apple's CUSIP base, and one with `*@#`)
example : valsOf cusipCharVal "03783310".toList = some [0, 3, 7, 8, 3, 3, 1, 0] := by decide +kernel
example : cusipChecksum "03783310".toList = .ok '0' := by rfl
example : (valsOf cusipCharVal "A*@#z019".toList).isSome = true := by decide +kernel

/-- For every 6-character alphanumeric base without the letters `A E I O` the code's check
    digit is the weighted-sum check digit (weights 1,3,1,7,3,9). -/
theorem C20_sedol_eq (base : Str) (vals : List Nat) (hl : base.length = 6)
    (hv : valsOf b36 base = some vals)
    (hbad : base.any (fun c => c = 'A' || c = 'E' || c = 'I' || c = 'O') = false) :
    sedolChecksum base = .ok (digitChar (sedolSpec vals)) := by
  have := sedolSum_eq base sedolWeights vals hv (by simp [hl, sedolWeights])
  simp only [sedolWeights] at this
  simp [sedolChecksum, hl, hbad, this, sedolSpec, checkChar_eq, sedolWeights]

/-- a base with one of the excluded vowels is refused, not given a digit -/
theorem C20_sedol_vowel (base : Str) (hl : base.length = 6)
    (hbad : base.any (fun c => c = 'A' || c = 'E' || c = 'I' || c = 'O') = true) :
    sedolChecksum base = .error .assert := by
  simp only [sedolChecksum, hl, hbad]; simp

example : sedolChecksum "026349".toList = .ok '4' := by rfl

/-- For every 11-character alphanumeric base with a known agency prefix the code's check digit is
    the Luhn digit of the base-36 digit expansion. -/
theorem C20_isin_eq (ag : List Str) (base : Str) (vals : List Nat) (hl : base.length = 11)
    (hp : base.take 2 ∈ ag) (hv : valsOf b36 base = some vals) :
    isinChecksum ag base = .ok (digitChar (isinSpec vals)) := by
  have hex := isinExpand_eq base vals hv
  have hlt := expand_lt10 vals (valsOf_b36_le base vals hv)
  obtain ⟨out, ho, hs⟩ := isinDouble_sum (expand vals).reverse 0 (fun d hd => hlt d (by simpa using hd))
  have hp' : ag.contains (base.take 2) = true := by simpa using hp
  simp only [isinChecksum, hl, hp', hex, PyM.ok_bind, PyM.pure_eq]
  rw [← List.map_reverse, ho]
  simp [hs, isinSpec, checkChar_eq]

theorem C20_isin_validates (ag : List Str) (base : Str) (vals : List Nat) (hl : base.length = 11)
    (hp : base.take 2 ∈ ag) (hv : valsOf b36 base = some vals) :
    validateIsin ag (base ++ [digitChar (isinSpec vals)]) = .ok true :=
  validateIsin_append (C20_isin_eq ag base vals hl hp hv)

theorem C20_isin_detects (ag : List Str) (base : Str) (vals : List Nat) (c : Char) (hl : base.length = 11)
    (hp : base.take 2 ∈ ag) (hv : valsOf b36 base = some vals)
    (hc : c ≠ digitChar (isinSpec vals)) :
    validateIsin ag (base ++ [c]) = .ok false := by
  simp [validateIsin_snoc ag base c hl hp, C20_isin_eq ag base vals hl hp hv, Except.map, Ne.symm hc]

theorem C20_isin_length (ag : List Str) (s : Str) (h : s.length ≠ 12) : validateIsin ag s = .ok false := by
  simp [validateIsin, h]

theorem C20_isin_prefix (ag : List Str) (s : Str) (h : s.take 2 ∉ ag) :
    validateIsin ag s = .ok false := by
  simp [validateIsin, h]

/-- Whatever `cusip2isin` returns validates as an ISIN and has the original CUSIP just before its check character
    (`r = n ++ cusip ++ [k]`; that `n` is the country prefix is not stated) — for every input; it may refuse (raise),
    it never returns an invalid identifier.  No arithmetic is involved: whatever `isinChecksum` returns, appended to
    its base, validates. -/
theorem C20_cusip2isin_sound (ag : List Str) (cusip : Str) (nation : Option Str) (r : Str)
    (h : cusip2isin ag cusip nation = .ok r) :
    validateIsin ag r = .ok true ∧ ∃ n k, r = n ++ cusip ++ [k] := by
  unfold cusip2isin at h
  obtain ⟨v, _, h⟩ := PyM.bind_ok h
  split at h
  · cases h
  dsimp only at h
  split at h
  · cases h
  obtain ⟨k, hk, h⟩ := PyM.bind_ok h
  cases h
  exact ⟨validateIsin_append hk, _, k, rfl⟩

/-- Whatever `sedol2isin` returns validates as an ISIN and has the zero-padded SEDOL just before its check character. -/
theorem C20_sedol2isin_sound (ag : List Str) (sedol : Str) (nation : Option Str) (r : Str)
    (h : sedol2isin ag sedol nation = .ok r) :
    validateIsin ag r = .ok true ∧ ∃ n k, r = n ++ ('0' :: '0' :: sedol) ++ [k] := by
  unfold sedol2isin at h
  dsimp only at h
  split at h
  · cases h
  rename_i h7
  obtain ⟨c, _, h⟩ := PyM.bind_ok h
  split at h
  · cases h
  obtain ⟨k, hk, h⟩ := PyM.bind_ok h
  cases h
  have hz : zfill 9 sedol = '0' :: '0' :: sedol := by simp [zfill, Decidable.not_not.mp h7, List.replicate]
  exact hz ▸ ⟨validateIsin_append hk, _, k, rfl⟩

/-- `cusip2isin` does return an ISIN for every valid all-alphanumeric CUSIP and two-letter agency. -/
theorem C20_cusip2isin_total (ag : List Str) (cusip nation : Str) (vals nvals : List Nat)
    (hvalid : validateCusip cusip = .ok true) (hv : valsOf b36 cusip = some vals)
    (hn2 : nation.length = 2) (hnv : valsOf b36 nation = some nvals) (hag : nation ∈ ag) :
    ∃ r, cusip2isin ag cusip (some nation) = .ok r := by
  have hl9 : cusip.length = 9 := by
    unfold validateCusip at hvalid
    split at hvalid
    · assumption
    · simp at hvalid
  have hne : nation.isEmpty = false := by
    cases nation with
    | nil => simp at hn2
    | cons a b => rfl
  have hlen : (nation ++ cusip).length = 11 := by simp [hn2, hl9]
  have htake : (nation ++ cusip).take 2 = nation := List.take_left' hn2
  obtain ⟨vs, hvs⟩ := valsOf_append hnv hv
  have hk := C20_isin_eq ag (nation ++ cusip) vs hlen (by rw [htake]; exact hag) hvs
  refine ⟨nation ++ cusip ++ [digitChar (isinSpec vs)], ?_⟩
  simp [cusip2isin, nationOr, hvalid, hne, hag, hk]

example : cusip2isin ["US".toList] "084670108".toList none = .ok "US0846701086".toList := by rfl

end Ofx.SecId
