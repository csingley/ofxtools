/-
C12 (extension) — the refusal theorems in concrete form: a header text produced by corrupting one value of a valid
header, by leaving a line out, or by reordering lines, followed by a body that starts with `<` and does not contain
`OFXHEADER:` (v1) / `<?OFX` (v2), is refused with the header error.  The "marker does not occur later" side
condition of `C12_refuse_text_order_*` is derived from the shape of the text, not assumed.

Value texts: any ASCII text without `:` and line feed (v1) / without `"` and `<` (v2); "outside the class" means that
the stripped text is not wholly inside the character class of the field's pattern group (whitespace around a value
is tolerated layout — C05 — and is therefore not a corruption).

In order: v1 — lines of which no tail has the accepted shape (`C12_refuse_lines_v1`), hence wrong names (`_names_v1`,
`_omit_field_v1`, `_swap_fields_v1`) and one corrupted value (`C12_refuse_corrupt_v1`; for NEWFILEUID the wished-for statement
fails, `C12_refuse_corrupt_v1_full_false`, `C12_newfileuid_prefix_v1`); the same for v2 (`C12_refuse_attrs_v2` …); examples of
the hypotheses; each theorem once more through `parse_header` on the bytes of a file (`…_file`); every reordering of the nine
v1 lines (`C12_refuse_reorder_v1`).
-/
import OfxProofs.Lemmas.HeaderExt
import OfxProofs.Props.C12

namespace Ofx.Header
open Ofx Ofx.Codec
attribute [-simp] String.reduceToList

/-! v1: lines of which no tail has the shape the pattern accepts -/

theorem names9_suffix : ∀ n ∈ names9, "OFXHEADER".toList <:+ n → n = "OFXHEADER".toList := by
  rw [names9_chars, lit_OFXHEADER]; decide +kernel

theorem names9_drop1 : ∀ n ∈ names9, ¬ "OFXHEADER".toList <:+ n.drop 1 := by
  rw [names9_chars, lit_OFXHEADER]; decide +kernel

theorem not_marker_crlf_body (body : Str) (h : ¬ ofxMarker <:+: body) : ¬ ofxMarker <:+: crlf ++ body :=
  fun hi => h (ofxMarker_skip_space crlf_space hi)

theorem reSearch_lines_none (nvs : List NV) (g body : Str) (hg : allSpace g)
    (hgood : ∀ nv ∈ nvs, GoodNV nv) (hB : ∀ c ∈ body.head?, c = '<') (hmark : ¬ ofxMarker <:+: body)
    (hshape : ∀ sfx, sfx <:+ nvs → ¬ V1Shape sfx) :
    reSearch v1Regex (NF (linesOf nvs) (g ++ body)) = none := by
  induction nvs with
  | nil => exact reSearch_v1_none _ fun hi => hmark (ofxMarker_skip_space hg hi)
  | cons nv rest ih =>
    have g0 := hgood nv (by simp)
    apply reSearch_v1_line ⟨nv.1, nv.2, crlf⟩ _ g0.line (names9_drop1 _ g0.name)
    · cases hm : reMatch v1Regex (NF (linesOf (nv :: rest)) (g ++ body)) with
      | none => exact hm
      | some r =>
        exfalso
        rw [NF_absorb g body _ (by simp [linesOf])] at hm
        have := v1_shape_of_match _ body r
          (absorbLast_good g hg _ (linesOf_good _ hgood)) hB hm
        rw [absorbLast_nv, linesOf_nv] at this
        exact hshape _ (List.suffix_refl _) this
    · exact ih (fun x hx => hgood x (by simp [hx]))
        (fun sfx hs => hshape sfx (List.IsSuffix.trans hs (List.suffix_cons nv rest)))

/-- General refusal, v1: a text made of `NAME:value CRLF` lines (names among the nine field names, values any ASCII
    text without colon and line feed), a blank line and a body that starts with `<` and does not contain
    `OFXHEADER:`, is refused with the header error unless the lines, from some line on, have the accepted shape. -/
theorem C12_refuse_lines_v1 (p : V1P) (nvs : List NV) (body : Str)
    (hgood : ∀ nv ∈ nvs, GoodNV nv) (hb : body.head? = some '<') (hmark : ¬ ofxMarker <:+: body)
    (hshape : ∀ sfx, sfx <:+ nvs → ¬ V1Shape sfx) :
    parseV1 p (renderLines nvs ++ body) = .error .header := by
  apply C12_refuse_text_nomatch_v1
  rw [renderLines, NF_append]
  have hB : ∀ c ∈ body.head?, c = '<' := by intro c hc; rw [hb] at hc; simp at hc; exact hc.symm
  exact reSearch_lines_none nvs crlf body crlf_space hgood hB hmark hshape

/-! v1: the names are not the eight or nine in order — a line left out, two lines transposed -/

theorem V1Shape.names {nvs : List NV} (h : V1Shape nvs) :
    (nvs.map Prod.fst).take 8 = names8 ∨ (nvs.map Prod.fst).take 9 = names9 := by
  obtain ⟨_, _, _, _, _, _, _, rfl, _, _, _, _, _, _, ⟨_, _, _, _, rfl, _⟩ | ⟨_, _, _, rfl, _⟩⟩ := h
  · exact Or.inr (by simp only [List.map_cons, List.take_succ_cons, List.take_zero, names9])
  · exact Or.inl (by simp only [List.map_cons, List.take_succ_cons, List.take_zero, names8])

def tailsOf : List α → List (List α)
  | [] => [[]]
  | a :: l => (a :: l) :: tailsOf l

theorem mem_tailsOf {t : List α} : ∀ {l : List α}, t <:+ l → t ∈ tailsOf l
  | [], h => by simp [List.suffix_nil.1 h, tailsOf]
  | a :: l, h => by
    rcases List.suffix_cons_iff.1 h with h | h
    · simp [h, tailsOf]
    · simp [tailsOf, mem_tailsOf h]

theorem mem_tailsOf_suffix {t : List α} : ∀ {l : List α}, t ∈ tailsOf l → t <:+ l
  | [], h => by simp [tailsOf] at h; subst h; exact List.suffix_refl _
  | a :: l, h => by
    simp only [tailsOf, List.mem_cons] at h
    rcases h with h | h
    · subst h; exact List.suffix_refl _
    · exact List.IsSuffix.trans (mem_tailsOf_suffix h) (List.suffix_cons a l)

def NamesRefused (ns : List Str) : Prop :=
  ∀ t : List Str, t ∈ tailsOf ns → ¬ (t.take 8 = names8 ∨ t.take 9 = names9)

instance (ns : List Str) : Decidable (NamesRefused ns) := by unfold NamesRefused; infer_instance

theorem C12_refuse_names_v1 (p : V1P) (nvs : List NV) (body : Str)
    (hgood : ∀ nv ∈ nvs, GoodNV nv) (hb : body.head? = some '<') (hmark : ¬ ofxMarker <:+: body)
    (hnames : NamesRefused (nvs.map Prod.fst)) :
    parseV1 p (renderLines nvs ++ body) = .error .header := by
  apply C12_refuse_lines_v1 p nvs body hgood hb hmark
  intro sfx hs hsh
  exact hnames _ (mem_tailsOf (List.IsSuffix.map Prod.fst hs)) hsh.names

/-- the nine (name, value text) lines of `str(h)` -/
def v1NVs (h : V1) : List NV := names9.zip (v1Vals h)

theorem strV1_lines (h : V1) : strV1 h = renderLines (v1NVs h) := by
  simp [strV1, join, crlf, renderLines, NF, linesOf, v1NVs, names9, v1Vals, colon_OFXHEADER, colon_DATA, colon_VERSION,
    colon_SECURITY, colon_ENCODING, colon_CHARSET, colon_COMPRESSION, colon_OLDFILEUID, colon_NEWFILEUID]

theorem v1NVs_names (h : V1) : (v1NVs h).map Prod.fst = names9 := by
  simp [v1NVs, names9, v1Vals]

theorem v1NVs_length (h : V1) : (v1NVs h).length = 9 := by simp [v1NVs, names9, v1Vals]

inductive V1Field where
  | ofxheader | data | version | security | encoding | charset | compression | oldfileuid | newfileuid
  deriving DecidableEq, Repr

def V1Field.idx : V1Field → Nat
  | .ofxheader => 0 | .data => 1 | .version => 2 | .security => 3 | .encoding => 4 | .charset => 5
  | .compression => 6 | .oldfileuid => 7 | .newfileuid => 8

def V1Field.name : V1Field → Str
  | .ofxheader => "OFXHEADER".toList | .data => "DATA".toList | .version => "VERSION".toList
  | .security => "SECURITY".toList | .encoding => "ENCODING".toList | .charset => "CHARSET".toList
  | .compression => "COMPRESSION".toList | .oldfileuid => "OLDFILEUID".toList | .newfileuid => "NEWFILEUID".toList

/-- the character class of the field's group in `OFXHeaderV1.regex` -/
def V1Field.cls : V1Field → Char → Bool
  | .ofxheader => isDigit | .data => isUpper | .version => isDigit | .security => isWord
  | .encoding => isUpDigDash | .charset => isWordDash | .compression => isUpper
  | .oldfileuid => isWordDash | .newfileuid => isWordDash

def V1Field.text (h : V1) : V1Field → Str
  | .ofxheader => pyStrInt h.ofxheader | .data => h.data | .version => pyStrInt h.version | .security => h.security
  | .encoding => h.encoding | .charset => h.charset | .compression => h.compression | .oldfileuid => h.oldfileuid
  | .newfileuid => h.newfileuid

theorem ValidV1.cls {p : V1P} {h : V1} (hv : ValidV1 p h) : ∀ f : V1Field, inClass f.cls (f.text h)
  | .ofxheader => (pyStrInt_nonneg _ hv.oh0.1).1 | .data => hv.data.2 | .version => (pyStrInt_nonneg _ hv.ver0.1).1
  | .security => hv.sec.2 | .encoding => hv.enc.2 | .charset => hv.cs.2 | .compression => hv.comp.2
  | .oldfileuid => hv.old.1 | .newfileuid => hv.new.1

theorem V1Field.cls_wordDash (f : V1Field) (c : Char) (h : f.cls c = true) : isWordDash c = true := by
  cases f
  · exact digit_wordDash c h
  · exact upper_wordDash c h
  · exact digit_wordDash c h
  · exact word_wordDash c h
  · exact upDigDash_wordDash c h
  · exact h
  · exact upper_wordDash c h
  · exact h
  · exact h

theorem V1Field.name_mem (f : V1Field) : f.name ∈ names9 := by
  cases f <;> dsimp only [V1Field.name] <;> simp [names9]

theorem goodNV_of_class (n v : Str) (hn : n ∈ names9) (hv : inClass isWordDash v) : GoodNV (n, v) :=
  ⟨hn, fun h => absurd (hv.2 _ h) (by decide), fun h => absurd (hv.2 _ h) (by decide),
    fun c hc => wordDash_ascii c (hv.2 c hc)⟩

theorem v1NVs_good (p : V1P) (h : V1) (hv : ValidV1 p h) : ∀ nv ∈ v1NVs h, GoodNV nv := by
  have key : ∀ f : V1Field, GoodNV (f.name, f.text h) := fun f =>
    goodNV_of_class _ _ f.name_mem (inClass_mono f.cls_wordDash (hv.cls f))
  simp only [v1NVs, names9, v1Vals, List.zip_cons_cons, List.zip_nil_right, List.forall_mem_cons, List.not_mem_nil,
    false_imp_iff, implies_true, and_true]
  exact ⟨key .ofxheader, key .data, key .version, key .security, key .encoding, key .charset, key .compression,
    key .oldfileuid, key .newfileuid⟩

theorem map_eraseIdx (f : α → β) : ∀ (l : List α) (i : Nat), (l.eraseIdx i).map f = (l.map f).eraseIdx i
  | [], _ => rfl
  | _ :: _, 0 => rfl
  | a :: l, i + 1 => by simp [List.eraseIdx, map_eraseIdx f l i]

theorem names8_eq : names8 = names9.eraseIdx 6 := rfl

theorem omit_namesRefused : ∀ i, i < 9 → i ≠ 6 → NamesRefused (names9.eraseIdx i) := by
  simp only [NamesRefused, names8_eq, names9_chars]; decide +kernel

/-- `str(h)` of a valid header with line `i` left out (any but the optional COMPRESSION line, index 6) -/
theorem C12_refuse_omit_field_v1 (p : V1P) (h : V1) (hv : ValidV1 p h) (i : Nat) (hi : i < 9) (hi6 : i ≠ 6)
    (body : Str) (hb : body.head? = some '<') (hmark : ¬ ofxMarker <:+: body) :
    parseV1 p (renderLines ((v1NVs h).eraseIdx i) ++ body) = .error .header := by
  apply C12_refuse_names_v1 p _ body (fun nv hnv => v1NVs_good p h hv nv (List.mem_of_mem_eraseIdx hnv)) hb hmark
  rw [map_eraseIdx, v1NVs_names]
  exact omit_namesRefused i hi hi6

def swapAt : Nat → List α → List α
  | _, [] => []
  | 0, [a] => [a]
  | 0, a :: b :: l => b :: a :: l
  | n + 1, a :: l => a :: swapAt n l

theorem swapAt_map (f : α → β) : ∀ (i : Nat) (l : List α), (swapAt i l).map f = swapAt i (l.map f)
  | 0, [] => rfl
  | 0, [_] => rfl
  | 0, _ :: _ :: _ => rfl
  | _ + 1, [] => rfl
  | n + 1, a :: l => by simp [swapAt, swapAt_map f n l]

theorem swapAt_length : ∀ (i : Nat) (l : List α), (swapAt i l).length = l.length
  | 0, [] => rfl
  | 0, [_] => rfl
  | 0, _ :: _ :: _ => rfl
  | _ + 1, [] => rfl
  | n + 1, a :: l => by simp [swapAt, swapAt_length n l]

theorem mem_swapAt {x : α} : ∀ (i : Nat) (l : List α), x ∈ swapAt i l → x ∈ l
  | 0, [], h => h
  | 0, [_], h => h
  | 0, a :: b :: l, h => by
    simp only [swapAt, List.mem_cons] at h ⊢
    rcases h with h | h | h
    · exact Or.inr (Or.inl h)
    · exact Or.inl h
    · exact Or.inr (Or.inr h)
  | _ + 1, [], h => h
  | n + 1, a :: l, h => by
    simp only [swapAt, List.mem_cons] at h ⊢
    rcases h with h | h
    · exact Or.inl h
    · exact Or.inr (mem_swapAt n l h)

theorem swap_namesRefused : ∀ i, i < 8 → NamesRefused (swapAt i names9) := by
  simp only [NamesRefused, names8_eq, names9_chars]; decide +kernel

/-- `str(h)` of a valid header with lines `i`, `i+1` transposed -/
theorem C12_refuse_swap_fields_v1 (p : V1P) (h : V1) (hv : ValidV1 p h) (i : Nat) (hi : i < 8)
    (body : Str) (hb : body.head? = some '<') (hmark : ¬ ofxMarker <:+: body) :
    parseV1 p (renderLines (swapAt i (v1NVs h)) ++ body) = .error .header := by
  apply C12_refuse_names_v1 p _ body (fun nv hnv => v1NVs_good p h hv nv (mem_swapAt _ _ hnv)) hb hmark
  rw [swapAt_map, v1NVs_names]
  exact swap_namesRefused i hi

/-! v1: one value replaced — outside the class of its group (refused by the pattern) or inside it and outside the
    domain (refused by the constructor) -/

def corruptV1 (h : V1) (f : V1Field) (w : Str) : List NV := (v1NVs h).set f.idx (f.name, w)

/-- with all nine names in place, only the whole list can have the accepted shape -/
theorem shape_names9 (nvs sfx : List NV) (hn : nvs.map Prod.fst = names9) (hs : sfx <:+ nvs) (hsh : V1Shape sfx)
    (f : V1Field) (w : Str) (hw : nvs[f.idx]? = some (f.name, w)) :
    if f = .newfileuid then LastOk w (nvs.drop 9) else InStrip f.cls w := by
  have key : ∀ t : List Str, t ∈ tailsOf names9 → (t.take 8 = names8 ∨ t.take 9 = names9) → t = names9 := by
    rw [names8_eq, names9_chars]; decide +kernel
  have hs' : sfx.map Prod.fst <:+ names9 := hn ▸ List.IsSuffix.map Prod.fst hs
  have hnm := key _ (mem_tailsOf hs') hsh.names
  have heq : sfx = nvs := hs.eq_of_length (by
    have h1 := congrArg List.length hnm
    have h2 := congrArg List.length hn
    simp at h1 h2; omega)
  subst heq
  obtain ⟨v1, v2, v3, v4, v5, v6, _, rfl, c1, c2, c3, c4, c5, c6, ⟨v7, v8, v9, _, rfl, c7, c8, c9⟩ | ⟨_, _, _, rfl, _⟩⟩ := hsh
  · cases f <;> simp only [V1Field.idx, List.getElem?_cons_succ, List.getElem?_cons_zero, Option.some.injEq,
      Prod.mk.injEq] at hw <;> obtain ⟨_, rfl⟩ := hw
    · exact c1
    · exact c2
    · exact c3
    · exact c4
    · exact c5
    · exact c6
    · exact c7
    · exact c8
    · exact c9
  · have h8 : names8 = names9.take 8 := congrArg (List.take 8) hnm
    exact absurd h8 (by rw [names8_eq, names9_chars]; decide)

theorem corruptV1_names (h : V1) (f : V1Field) (w : Str) : (corruptV1 h f w).map Prod.fst = names9 := by
  rw [corruptV1, List.map_set, v1NVs_names]
  cases f <;> rfl

theorem corruptV1_good (p : V1P) (h : V1) (hv : ValidV1 p h) (f : V1Field) (w : Str)
    (hwc : ':' ∉ w) (hwl : '\n' ∉ w) (hwa : ∀ c ∈ w, c.toNat < 128) :
    ∀ nv ∈ corruptV1 h f w, GoodNV nv := by
  intro nv hnv
  rcases List.mem_or_eq_of_mem_set hnv with h1 | h1
  · exact v1NVs_good p h hv nv h1
  · subst h1
    exact ⟨f.name_mem, hwc, hwl, hwa⟩

theorem inStrip_strip (p : Char → Bool) (hp : ∀ c, p c = true → isSpace c = false) (v : Str) (h : InStrip p v) :
    inClass p (strip v) := by
  obtain ⟨a, core, b, e, ha, hb, hc⟩ := h
  obtain ⟨c0, cs, hcore⟩ := List.exists_cons_of_ne_nil hc.1
  have hl : core.getLast? = some (core.getLast hc.1) := List.getLast?_eq_some_getLast hc.1
  rw [e, strip_ws_body_ws a core b ha hb c0 cs hcore (hp _ (hc.2 _ (by rw [hcore]; simp))) _ hl
    (hp _ (hc.2 _ (List.getLast_mem hc.1)))]
  exact hc

theorem corruptV1_length (h : V1) (f : V1Field) (w : Str) : (corruptV1 h f w).length = 9 := by
  rw [corruptV1, List.length_set]; simp [v1NVs, names9, v1Vals]

theorem corruptV1_noshape (h : V1) (f : V1Field) (w : Str)
    (hbad : if f = .newfileuid then (w.dropWhile isSpace).takeWhile isWordDash = []
      else ¬ inClass f.cls (strip w)) :
    ∀ sfx, sfx <:+ corruptV1 h f w → ¬ V1Shape sfx := by
  intro sfx hs hsh
  have hlen := corruptV1_length h f w
  have := shape_names9 _ sfx (corruptV1_names h f w) hs hsh f w (by
    rw [corruptV1, List.getElem?_set_self (by rw [← List.length_set, ← corruptV1, hlen]; cases f <;> decide)])
  split at this <;> rename_i hf
  · rw [if_pos hf] at hbad
    rcases this with h3 | ⟨_, h3⟩
    · exact h3 hbad
    · exact h3 (List.drop_eq_nil_of_le (by rw [hlen]; exact Nat.le_refl 9))
  · rw [if_neg hf] at hbad
    exact hbad (inStrip_strip _ (fun c hc => wordDash_not_space c (f.cls_wordDash c hc)) _ this)

/-- Outside the class: `str(h)` of a valid header with the value of any field but the last replaced by a text `w`
    whose stripped form is not wholly inside the field's character class (the empty text, a text with a foreign
    character, a text with whitespace inside): the pattern no longer matches anywhere.  For the last field
    (NEWFILEUID) the pattern is not anchored: the text is refused when `w`, after leading whitespace, does not
    start inside the class. -/
theorem C12_refuse_corrupt_v1_class (p : V1P) (h : V1) (hv : ValidV1 p h) (f : V1Field) (w : Str)
    (hwc : ':' ∉ w) (hwl : '\n' ∉ w) (hwa : ∀ c ∈ w, c.toNat < 128)
    (hbad : if f = .newfileuid then (w.dropWhile isSpace).takeWhile isWordDash = []
      else ¬ inClass f.cls (strip w))
    (body : Str) (hb : body.head? = some '<') (hmark : ¬ ofxMarker <:+: body) :
    parseV1 p (renderLines (corruptV1 h f w) ++ body) = .error .header :=
  C12_refuse_lines_v1 p _ body (corruptV1_good p h hv f w hwc hwl hwa) hb hmark (corruptV1_noshape h f w hbad)

/-- the nine lines with values `g`: here as name/value pairs (the form the refusals by shape invert), in `nineW` as the
    `V1W` on which `v1_match` says what the constructor is handed (the refusals by domain) -/
def nine (g : V1Field → Str) : List NV :=
  names9.zip [g .ofxheader, g .data, g .version, g .security, g .encoding, g .charset, g .compression, g .oldfileuid,
    g .newfileuid]

theorem corruptV1_nine (h : V1) (f : V1Field) (w : Str) :
    corruptV1 h f w = nine fun f' => if f' = f then w else f'.text h := by
  cases f <;> rfl

def nineW (g : V1Field → Str) : V1W :=
  { indent := [], b1 := [], v1 := g .ofxheader, w1 := crlf, b2 := [], v2 := g .data, w2 := crlf, b3 := [],
    v3 := g .version, w3 := crlf, b4 := [], v4 := g .security, w4 := crlf, b5 := [], v5 := g .encoding, w5 := crlf,
    b6 := [], v6 := g .charset, w6 := crlf, comp := some ([], g .compression, crlf), b8 := [], v8 := g .oldfileuid,
    w8 := crlf, b9 := [], v9 := g .newfileuid }

theorem nine_raw (g : V1Field → Str) : NF (linesOf (nine g)) [] = (nineW g).text crlf := by
  simp [nine, names9, linesOf, NF, V1W.text, V1W.compText, nineW, fld, crlf]

theorem nine_text (g : V1Field → Str) (body : Str) :
    renderLines (nine g) ++ body = (nineW g).text (crlf ++ (crlf ++ body)) := by
  rw [text_append, ← nine_raw, NF_append, renderLines, NF_append]
  rfl

theorem allSpace_nil : allSpace [] := fun _ h => by cases h

/-- `OFXHeaderV1.__init__` on the nine captured texts -/
def ctorOfV1 (p : V1P) (g : V1Field → Str) : PyM V1 :=
  ctorV1 p (.str (g .version)) (.str (g .ofxheader)) (some (g .data)) (some (g .security)) (some (g .encoding))
    (some (g .charset)) (some (g .compression)) (some (g .oldfileuid)) (some (g .newfileuid))

theorem parseV1_nineW (p : V1P) (g : V1Field → Str) (R : Str) (hc : ∀ f, inClass f.cls (g f))
    (hR : ∀ c ∈ R.head?, isWordDash c = false) :
    parseV1 p ((nineW g).text R) = (ctorOfV1 p g >>= fun h => pure (h, ((nineW g).text R).length - R.length)) := by
  have ok : (nineW g).Ok :=
    { indent := allSpace_nil, b1 := allSpace_nil, b2 := allSpace_nil, b3 := allSpace_nil, b4 := allSpace_nil,
      b5 := allSpace_nil, b6 := allSpace_nil, b8 := allSpace_nil, b9 := allSpace_nil,
      w1 := crlf_space, w2 := crlf_space, w3 := crlf_space, w4 := crlf_space, w5 := crlf_space, w6 := crlf_space,
      w8 := crlf_space, v1 := hc .ofxheader, v2 := hc .data, v3 := hc .version, v4 := hc .security, v5 := hc .encoding,
      v6 := hc .charset, v8 := hc .oldfileuid, v9 := hc .newfileuid,
      comp := by
        intro b v w h
        simp only [nineW, Option.some.injEq, Prod.mk.injEq] at h
        obtain ⟨rfl, rfl, rfl⟩ := h
        exact ⟨allSpace_nil, hc .compression, crlf_space⟩ }
  have hm := reSearch_of_match _ _ _ (v1_match (nineW g) R ok hR)
  rw [parseV1, hm]
  rfl

/-- errors raised inside the constructors are `ValueError`s (incl. `OFXSpecError`), which `wrapValueError` turns
    into the header error -/
def VS {α : Type} (x : PyM α) : Prop := ∀ e, x = .error e → e = .value ∨ e = .spec

theorem VS_bind {α β : Type} (x : PyM α) (f : α → PyM β) (hx : VS x) (hf : ∀ a, VS (f a)) : VS (x >>= f) := by
  intro e he
  cases x with
  | error e' => cases he; exact hx e rfl
  | ok a => exact hf a e he

theorem VS_pure {α : Type} (a : α) : VS (pure a : PyM α) := by intro e he; cases he

theorem VS_wrap {α : Type} (x : PyM α) (hx : VS x) : ∀ e, wrapValueError x = .error e → e = .header := by
  intro e he
  cases x with
  | ok a => simp [wrapValueError] at he
  | error e' =>
    rcases hx e' rfl with h | h <;> subst h <;> simp [wrapValueError] at he <;> exact he.symm

theorem VS_toInt_str (s : Str) (d : Arg) (hd : ∃ i, d = .int i) : VS (toInt ((Arg.str s).orElse d)) := by
  intro e he
  obtain ⟨i, rfl⟩ := hd
  cases s with
  | nil => simp [Arg.orElse, toInt] at he
  | cons c cs =>
    simp only [Arg.orElse, toInt] at he
    split at he
    · cases he
    · cases he; exact Or.inl rfl

theorem VS_toInt_str' (s : Str) : VS (toInt (Arg.str s)) := by
  intro e he
  simp only [toInt] at he
  split at he
  · cases he
  · cases he; exact Or.inl rfl

theorem VS_oneOfInt (l : List Str) (i : Int) : VS (oneOfInt l i) := by
  intro e he; unfold oneOfInt at he; split at he
  · cases he
  · cases he; exact Or.inr rfl

theorem VS_oneOfStr (l : List Str) (s : Str) : VS (oneOfStr l s) := by
  intro e he; unfold oneOfStr at he; split at he
  · cases he
  · cases he; exact Or.inr rfl

theorem VS_integerConv (l : Option Nat) (i : Int) : VS (integerConv l i) := by
  intro e he; unfold integerConv at he
  split at he
  · split at he
    · cases he; exact Or.inr rfl
    · cases he
  · cases he

theorem VS_stringConv (l : Option Nat) (s : Str) : VS (stringConv l s) := by
  intro e he; unfold stringConv at he
  simp only at he
  split at he
  · split at he
    · cases he; exact Or.inr rfl
    · cases he
  · cases he

theorem ctorV1_str_error (p : V1P) (ver oh : Str) (d s e c cm o n : Option Str) (err : Err)
    (h : ctorV1 p (.str ver) (.str oh) d s e c cm o n = .error err) : err = .header := by
  unfold ctorV1 at h
  refine VS_wrap _ ?_ err h
  refine VS_bind _ _ (VS_toInt_str _ _ ⟨_, rfl⟩) fun _ => ?_
  refine VS_bind _ _ (VS_oneOfInt _ _) fun _ => ?_
  refine VS_bind _ _ (VS_oneOfStr _ _) fun _ => ?_
  refine VS_bind _ _ (VS_toInt_str _ _ ⟨_, rfl⟩) fun _ => ?_
  refine VS_bind _ _ (VS_integerConv _ _) fun _ => ?_
  refine VS_bind _ _ (VS_oneOfStr _ _) fun _ => ?_
  refine VS_bind _ _ (VS_oneOfStr _ _) fun _ => ?_
  refine VS_bind _ _ (VS_oneOfStr _ _) fun _ => ?_
  refine VS_bind _ _ (VS_oneOfStr _ _) fun _ => ?_
  refine VS_bind _ _ (VS_stringConv _ _) fun _ => ?_
  refine VS_bind _ _ (VS_stringConv _ _) fun _ => ?_
  exact VS_pure _

def V1Field.dom (p : V1P) : V1Field → Str → Prop
  | .ofxheader, w => ∃ i, intOfStr w = some i ∧ pyStrInt i ∈ p.ofxheader
  | .data, w => w ∈ p.data
  | .version, w => ∃ i, intOfStr w = some i ∧ ∀ k, p.versionLen = some k → i < (10 : Int) ^ k
  | .security, w => w ∈ p.security
  | .encoding, w => w ∈ p.encoding
  | .charset, w => w ∈ p.charset
  | .compression, w => w ∈ p.compression
  | .oldfileuid, w => ∀ k, p.oldLen = some k → (unescape w).length ≤ k
  | .newfileuid, w => ∀ k, p.newLen = some k → (unescape w).length ≤ k

theorem ctorV1_str_sound (p : V1P) (g : V1Field → Str) (h : V1) (hne : ∀ f, g f ≠ []) (hk : ctorOfV1 p g = .ok h) :
    ∀ f : V1Field, f.dom p (g f) := by
  rw [ctorOfV1, ctorV1_ok_iff, orElse_str _ _ (hne _), orElse_str _ _ (hne _), orStr_some _ _ (hne _),
    orStr_some _ _ (hne _), orStr_some _ _ (hne _), orStr_some _ _ (hne _), orStr_some _ _ (hne _),
    orStr_some _ _ (hne _), orStr_some _ _ (hne _)] at hk
  obtain ⟨a1, a4, h1, m2, m3, h4, m5, m6, m7, m8, m9, m10, m11, _⟩ := hk
  exact fun
    | .ofxheader => ⟨a1, (toInt_str_ok_iff _ _).1 h1, m2⟩ | .data => m3 | .version => ⟨a4, (toInt_str_ok_iff _ _).1 h4, m5⟩
    | .security => m6 | .encoding => m7 | .charset => m8 | .compression => m9 | .oldfileuid => m10 | .newfileuid => m11

theorem refuse_nineW (p : V1P) (g : V1Field → Str) (R : Str) (hc : ∀ f, inClass f.cls (g f))
    (hR : ∀ c ∈ R.head?, isWordDash c = false) (f : V1Field) (hbad : ¬ f.dom p (g f)) :
    parseV1 p ((nineW g).text R) = .error .header := by
  rw [parseV1_nineW p g R hc hR]
  cases hk : ctorOfV1 p g with
  | error e => rw [ctorV1_str_error _ _ _ _ _ _ _ _ _ _ _ hk]; rfl
  | ok h => exact absurd (ctorV1_str_sound p g h (fun f => (hc f).1) hk f) hbad

theorem crlf_head (s : Str) : ∀ c ∈ (crlf ++ s).head?, isWordDash c = false := by
  intro c hc; simp [crlf] at hc; subst hc; decide

theorem corrupt_cls {p : V1P} {h : V1} (hv : ValidV1 p h) {f : V1Field} {w : Str} (hc : inClass f.cls w)
    (f' : V1Field) : inClass f'.cls (if f' = f then w else f'.text h) := by
  split
  · next e => exact e ▸ hc
  · exact hv.cls f'

/-- Inside the class but outside the domain: `str(h)` of a valid header with the value of field `f` replaced by a
    text `w` that the pattern's group accepts but the field's validator does not (unknown DATA / SECURITY /
    ENCODING / CHARSET / COMPRESSION token, OFXHEADER other than 100, VERSION of more than three digits, UID longer
    than 36): header error, for every continuation `body` whatsoever -/
theorem C12_refuse_corrupt_v1_domain (p : V1P) (h : V1) (hv : ValidV1 p h) (f : V1Field) (w : Str)
    (hc : inClass f.cls w) (hd : ¬ f.dom p w) (body : Str) :
    parseV1 p (renderLines (corruptV1 h f w) ++ body) = .error .header := by
  rw [corruptV1_nine, nine_text]
  exact refuse_nineW p _ _ (corrupt_cls hv hc) (crlf_head _) f (by rwa [if_pos rfl])

/-- `w` is outside the domain of field `f`, in one of the two ways the property lists -/
def OutsideV1 (p : V1P) (f : V1Field) (w : Str) : Prop :=
  (inClass f.cls w ∧ ¬ f.dom p w) ∨
  (':' ∉ w ∧ '\n' ∉ w ∧ (∀ c ∈ w, c.toNat < 128) ∧
    if f = .newfileuid then (w.dropWhile isSpace).takeWhile isWordDash = [] else ¬ inClass f.cls (strip w))

theorem C12_refuse_corrupt_v1 (p : V1P) (h : V1) (hv : ValidV1 p h) (f : V1Field) (w : Str)
    (hout : OutsideV1 p f w) (body : Str) (hb : body.head? = some '<') (hmark : ¬ ofxMarker <:+: body) :
    parseV1 p (renderLines (corruptV1 h f w) ++ body) = .error .header := by
  rcases hout with ⟨hc, hd⟩ | ⟨hwc, hwl, hwa, hbad⟩
  · exact C12_refuse_corrupt_v1_domain p h hv f w hc hd body
  · exact C12_refuse_corrupt_v1_class p h hv f w hwc hwl hwa hbad body hb hmark

/-- the texts of the theorems above are single-value changes of `str(h)` -/
theorem corruptV1_self (h : V1) : renderLines (corruptV1 h .data h.data) = strV1 h := by
  rw [strV1_lines]; rfl

/-- the statement one would like: *every* value text with a character outside the field's class is refused -/
def C12_refuse_corrupt_v1_full : Prop :=
  ∀ (h : V1) (f : V1Field) (w body : Str), ValidV1 pinnedV1P h → w ≠ [] → ':' ∉ w → (∀ c ∈ w, isSpace c = false) →
    (∀ c ∈ w, c.toNat < 128) → ¬ inClass f.cls w → body.head? = some '<' → ¬ ofxMarker <:+: body →
    parseV1 pinnedV1P (renderLines (corruptV1 h f w) ++ body) = .error .header

def wTruncText : Str := renderLines (corruptV1 wHdr .newfileuid "abc$def".toList) ++ "<OFX></OFX>".toList

/-- false for NEWFILEUID: `NEWFILEUID:abc$def` is read as `abc` (and `$def…` is handed over with the body) -/
theorem C12_refuse_corrupt_v1_full_false : ¬ C12_refuse_corrupt_v1_full := by
  intro hf
  have h1 : parseV1 pinnedV1P wTruncText = .error .header :=
    hf wHdr .newfileuid "abc$def".toList "<OFX></OFX>".toList wHdr_valid (by decide +kernel) (by decide +kernel)
      (by decide +kernel) (by decide +kernel) (by intro h; exact absurd (h.2 '$' (by decide +kernel)) (by decide +kernel)) rfl
      (by decide +kernel)
  have hw : (match parseV1 pinnedV1P wTruncText with
      | .ok (h, _) => h.newfileuid == "abc".toList
      | .error _ => false) = true := by decide +kernel
  generalize parseV1 pinnedV1P wTruncText = T at h1 hw
  subst h1
  cases hw

/-- in general the value is cut at the first character outside `[\w-]`; the header object carries the prefix -/
theorem C12_newfileuid_prefix_v1 (p : V1P) (h : V1) (hv : ValidV1 p h) (a b body : Str) (c : Char)
    (ha : inClass isWordDash a) (hc : isWordDash c = false) (hlen : ∀ n, p.newLen = some n → a.length ≤ n) :
    ∃ n, parseV1 p (renderLines (corruptV1 h .newfileuid (a ++ c :: b)) ++ body) =
      .ok ({ h with newfileuid := a }, n) := by
  have hv' : ValidV1 p { h with newfileuid := a } :=
    { oh0 := hv.oh0, oh := hv.oh, data := hv.data, ver0 := hv.ver0, ver := hv.ver, sec := hv.sec, enc := hv.enc,
      cs := hv.cs, comp := hv.comp, old := hv.old, new := ⟨ha, hlen⟩ }
  have e : renderLines (corruptV1 h .newfileuid (a ++ c :: b)) ++ body =
      (nineW fun f => f.text { h with newfileuid := a }).text (c :: (b ++ (crlf ++ (crlf ++ body)))) := by
    rw [corruptV1_nine]
    simp [renderLines, nine, names9, linesOf, NF, V1W.text, V1W.compText, nineW, fld, crlf, V1Field.text]
  rw [e, parseV1_nineW p _ _ hv'.cls (by intro x hx; simp at hx; subst hx; exact hc),
    show ctorOfV1 p (fun f => f.text { h with newfileuid := a }) = _ from
      ctorV1_valid p _ hv' (some h.compression) (Or.inl rfl)]
  exact ⟨_, rfl⟩

/-! v2: the same three kinds of text -/

def names5 : List Str :=
  ["OFXHEADER".toList, "VERSION".toList, "SECURITY".toList, "OLDFILEUID".toList, "NEWFILEUID".toList]

theorem names5_sub : ∀ n ∈ names5, n ∈ names9 := by simp [names5, names9]

/-- the text `OFXHeaderV2.__str__` writes around a list of attributes -/
def renderAttrs (avs : List AV) : Str := xmlDecl ++ (crlf ++ (ofxDecl avs "?>".toList ++ crlf))

def v2Vals (h : V2) : List Str :=
  [pyStrInt h.ofxheader, pyStrInt h.version, h.security, h.oldfileuid, h.newfileuid]

def v2AVs (h : V2) : List AV := names5.zip (v2Vals h)

theorem strV2_attrs (h : V2) : strV2 h = renderAttrs (v2AVs h) := by
  simp [strV2, renderAttrs, ofxDecl, v2AVs, names5, v2Vals, AF, attr, join, crlf,
    show "<?OFX ".toList = "<?OFX".toList ++ [' '] by decide, show "=\"".toList = ['=', '"'] by decide,
    show "\"".toList = ['"'] by decide, show " ".toList = [' '] by decide]

def V2Shape (avs : List AV) : Prop :=
  ∃ v1 v2 v3 v4 v5, avs = [("OFXHEADER".toList, v1), ("VERSION".toList, v2), ("SECURITY".toList, v3),
      ("OLDFILEUID".toList, v4), ("NEWFILEUID".toList, v5)] ∧
    inClass isDigit v1 ∧ inClass isDigit v2 ∧ inClass isWord v3 ∧ inClass isWordDash v4 ∧ inClass isWordDash v5

theorem xmlDecl_split : xmlDecl = '<' :: '?' :: 'x' :: xmlDecl.drop 3 := by rw [xmlDecl_chars]; rfl

theorem xmlDecl_noLt : '<' ∉ '?' :: 'x' :: xmlDecl.drop 3 := by rw [xmlDecl_chars]; decide

theorem reSearch_renderAttrs (avs : List AV) (body : Str) :
    reSearch v2Regex (renderAttrs avs ++ body) = reSearch v2Regex (ofxDecl avs ("?>".toList ++ (crlf ++ body))) := by
  have e : renderAttrs avs ++ body =
      '<' :: '?' :: 'x' :: (xmlDecl.drop 3 ++ (crlf ++ ofxDecl avs ("?>".toList ++ (crlf ++ body)))) := by
    rw [renderAttrs]
    conv => lhs; rw [xmlDecl_split]
    simp [ofxDecl, AF_append]
  rw [e, reSearch_skip_xml]
  have e2 : '?' :: 'x' :: (xmlDecl.drop 3 ++ (crlf ++ ofxDecl avs ("?>".toList ++ (crlf ++ body)))) =
      ('?' :: 'x' :: xmlDecl.drop 3) ++ (crlf ++ ofxDecl avs ("?>".toList ++ (crlf ++ body))) := by simp
  rw [e2, reSearch_skip_noLt _ _ xmlDecl_noLt, reSearch_skip_noLt _ _ (by decide)]

/-- General refusal, v2: the XML declaration, then `<?OFX` with any list of `NAME="value"` attributes (names
    without `=`, `<`, not starting with `?` or whitespace; values without `"` and `<`), `?>`, CRLF and a body that
    does not contain `<?OFX`: header error unless the attributes are exactly the five, in order, each value inside
    its class -/
theorem C12_refuse_attrs_v2 (p : V2P) (avs : List AV) (body : Str) (hgood : ∀ a ∈ avs, GoodAV a)
    (hmark : ¬ ofxOpen <:+: body) (hshape : ¬ V2Shape avs) :
    parseV2 p (renderAttrs avs ++ body) = .error .header := by
  apply C12_refuse_text_nomatch_v2
  rw [reSearch_renderAttrs]
  have hR : ∀ c ∈ ("?>".toList ++ (crlf ++ body)).head?, c = '?' := by
    intro c hc; simp [lit_close] at hc; exact hc.symm
  have hm : reMatch v2Regex (ofxDecl avs ("?>".toList ++ (crlf ++ body))) = none := by
    cases hm : reMatch v2Regex (ofxDecl avs ("?>".toList ++ (crlf ++ body))) with
    | none => rfl
    | some r => exact absurd (v2_match_inv avs _ r hgood hR hm) hshape
  have e : ofxDecl avs ("?>".toList ++ (crlf ++ body)) =
      '<' :: (('?' :: 'O' :: 'F' :: 'X' :: ' ' :: AF avs ("?>".toList ++ crlf)) ++ body) := by
    simp [ofxDecl, AF_append, lit_ofxOpen]
  rw [e, reSearch_cons_none _ _ _ (e ▸ hm), reSearch_skip_noLt]
  · exact reSearch_v2_none body hmark
  · have := AF_noLt avs ("?>".toList ++ crlf) hgood (by decide)
    simp only [List.mem_cons, not_or]
    exact ⟨by decide, by decide, by decide, by decide, by decide, this⟩

theorem V2Shape.names {avs : List AV} (h : V2Shape avs) : avs.map Prod.fst = names5 := by
  obtain ⟨v1, v2, v3, v4, v5, e, _⟩ := h
  subst e; rfl

theorem v2AVs_names (h : V2) : (v2AVs h).map Prod.fst = names5 := by
  simp [v2AVs, names5, v2Vals]

theorem names5_good : ∀ n ∈ names5, n ≠ [] ∧ '=' ∉ n ∧ (∀ c ∈ n.head?, isSpace c = false ∧ c ≠ '?') ∧ '<' ∉ n := by
  simp only [names5, lit_OFXHEADER, lit_VERSION, lit_SECURITY, lit_OLDFILEUID, lit_NEWFILEUID]; decide

theorem goodAV_of_class (n v : Str) (hn : n ∈ names5) (hv : inClass isWordDash v) : GoodAV (n, v) := by
  obtain ⟨k1, k2, k3, k4⟩ := names5_good n hn
  exact ⟨k1, k2, k3, k4, fun h => absurd (hv.2 _ h) (by decide), fun h => absurd (hv.2 _ h) (by decide),
    fun c hc => wordDash_ascii c (hv.2 c hc)⟩

inductive V2Field where
  | ofxheader | version | security | oldfileuid | newfileuid
  deriving DecidableEq, Repr

def V2Field.idx : V2Field → Nat
  | .ofxheader => 0 | .version => 1 | .security => 2 | .oldfileuid => 3 | .newfileuid => 4

def V2Field.name : V2Field → Str
  | .ofxheader => "OFXHEADER".toList | .version => "VERSION".toList | .security => "SECURITY".toList
  | .oldfileuid => "OLDFILEUID".toList | .newfileuid => "NEWFILEUID".toList

def V2Field.cls : V2Field → Char → Bool
  | .ofxheader => isDigit | .version => isDigit | .security => isWord
  | .oldfileuid => isWordDash | .newfileuid => isWordDash

def V2Field.text (h : V2) : V2Field → Str
  | .ofxheader => pyStrInt h.ofxheader | .version => pyStrInt h.version | .security => h.security
  | .oldfileuid => h.oldfileuid | .newfileuid => h.newfileuid

theorem ValidV2.cls {p : V2P} {h : V2} (hv : ValidV2 p h) : ∀ f : V2Field, inClass f.cls (f.text h)
  | .ofxheader => (pyStrInt_nonneg _ hv.oh0.1).1 | .version => (pyStrInt_nonneg _ hv.ver0.1).1
  | .security => hv.sec.2 | .oldfileuid => hv.old.1 | .newfileuid => hv.new.1

theorem V2Field.name_mem (f : V2Field) : f.name ∈ names5 := by
  cases f <;> dsimp only [V2Field.name] <;> simp [names5]

theorem V2Field.cls_wordDash (f : V2Field) (c : Char) (h : f.cls c = true) : isWordDash c = true := by
  cases f
  · exact digit_wordDash c h
  · exact digit_wordDash c h
  · exact word_wordDash c h
  · exact h
  · exact h

theorem v2AVs_good (p : V2P) (h : V2) (hv : ValidV2 p h) : ∀ a ∈ v2AVs h, GoodAV a := by
  have key : ∀ f : V2Field, GoodAV (f.name, f.text h) := fun f =>
    goodAV_of_class _ _ f.name_mem (inClass_mono f.cls_wordDash (hv.cls f))
  simp only [v2AVs, names5, v2Vals, List.zip_cons_cons, List.zip_nil_right, List.forall_mem_cons, List.not_mem_nil,
    false_imp_iff, implies_true, and_true]
  exact ⟨key .ofxheader, key .version, key .security, key .oldfileuid, key .newfileuid⟩

/-- `str(h)` of a valid v2 header with attribute `i` left out -/
theorem C12_refuse_omit_field_v2 (p : V2P) (h : V2) (hv : ValidV2 p h) (i : Nat) (hi : i < 5)
    (body : Str) (hmark : ¬ ofxOpen <:+: body) :
    parseV2 p (renderAttrs ((v2AVs h).eraseIdx i) ++ body) = .error .header := by
  apply C12_refuse_attrs_v2 p _ body (fun a ha => v2AVs_good p h hv a (List.mem_of_mem_eraseIdx ha)) hmark
  intro hsh
  have := hsh.names
  rw [map_eraseIdx, v2AVs_names] at this
  have key : ∀ i, i < 5 → names5.eraseIdx i ≠ names5 := by decide +kernel
  exact key i hi this

/-- `str(h)` of a valid v2 header with attributes `i`, `i+1` transposed -/
theorem C12_refuse_swap_fields_v2 (p : V2P) (h : V2) (hv : ValidV2 p h) (i : Nat) (hi : i < 4)
    (body : Str) (hmark : ¬ ofxOpen <:+: body) :
    parseV2 p (renderAttrs (swapAt i (v2AVs h)) ++ body) = .error .header := by
  apply C12_refuse_attrs_v2 p _ body (fun a ha => v2AVs_good p h hv a (mem_swapAt _ _ ha)) hmark
  intro hsh
  have := hsh.names
  rw [swapAt_map, v2AVs_names] at this
  have key : ∀ i, i < 4 → swapAt i names5 ≠ names5 := by decide +kernel
  exact key i hi this

/-- any list of attributes whose names are not exactly the five, in order (omission, duplication, reordering) -/
theorem C12_refuse_names_v2 (p : V2P) (avs : List AV) (body : Str) (hgood : ∀ a ∈ avs, GoodAV a)
    (hmark : ¬ ofxOpen <:+: body) (hn : avs.map Prod.fst ≠ names5) :
    parseV2 p (renderAttrs avs ++ body) = .error .header :=
  C12_refuse_attrs_v2 p avs body hgood hmark (fun hsh => hn hsh.names)

def corruptV2 (h : V2) (f : V2Field) (w : Str) : List AV := (v2AVs h).set f.idx (f.name, w)

theorem goodAV_of_text (f : V2Field) (w : Str) (hq : '"' ∉ w) (hlt : '<' ∉ w) (hwa : ∀ c ∈ w, c.toNat < 128) :
    GoodAV (f.name, w) := by
  obtain ⟨k1, k2, k3, k4⟩ := names5_good f.name f.name_mem
  exact ⟨k1, k2, k3, k4, hq, hlt, hwa⟩

theorem corruptV2_good (p : V2P) (h : V2) (hv : ValidV2 p h) (f : V2Field) (w : Str) (hw : GoodAV (f.name, w)) :
    ∀ a ∈ corruptV2 h f w, GoodAV a := by
  intro a ha
  rcases List.mem_or_eq_of_mem_set ha with h1 | h1
  · exact v2AVs_good p h hv a h1
  · exact h1 ▸ hw

theorem names5_ascii : ∀ n ∈ names5, isAscii n := fun n hn => names9_ascii n (names5_sub n hn)

theorem v2AVs_ascii (h : V2) : ∀ a ∈ v2AVs h, isAscii a.1 := fun a ha =>
  names5_ascii _ (v2AVs_names h ▸ List.mem_map_of_mem ha)

theorem corruptV2_ascii (h : V2) (f : V2Field) (w : Str) : ∀ a ∈ corruptV2 h f w, isAscii a.1 := by
  intro a ha
  rcases List.mem_or_eq_of_mem_set ha with h1 | h1
  · exact v2AVs_ascii h a h1
  · exact h1 ▸ names5_ascii _ f.name_mem

def five (g : V2Field → Str) : List AV :=
  names5.zip [g .ofxheader, g .version, g .security, g .oldfileuid, g .newfileuid]

theorem corruptV2_five (h : V2) (f : V2Field) (w : Str) :
    corruptV2 h f w = five fun f' => if f' = f then w else f'.text h := by
  cases f <;> rfl

theorem V2Shape.cls {g : V2Field → Str} (hsh : V2Shape (five g)) : ∀ f : V2Field, inClass f.cls (g f) := by
  obtain ⟨v1, v2, v3, v4, v5, e, c1, c2, c3, c4, c5⟩ := hsh
  simp only [five, names5, List.zip_cons_cons, List.zip_nil_right, List.cons.injEq, Prod.mk.injEq, true_and,
    and_true] at e
  obtain ⟨rfl, rfl, rfl, rfl, rfl⟩ := e
  exact fun | .ofxheader => c1 | .version => c2 | .security => c3 | .oldfileuid => c4 | .newfileuid => c5

/-- A character outside the class: `str(h)` of a valid v2 header with the value of any attribute replaced by a text
    `w` (without `"` and `<`) that is not wholly inside the attribute's character class, in particular the empty
    text and a text with whitespace -/
theorem C12_refuse_corrupt_v2_class (p : V2P) (h : V2) (hv : ValidV2 p h) (f : V2Field) (w : Str)
    (hq : '"' ∉ w) (hlt : '<' ∉ w) (hwa : ∀ c ∈ w, c.toNat < 128) (hbad : ¬ inClass f.cls w) (body : Str)
    (hmark : ¬ ofxOpen <:+: body) :
    parseV2 p (renderAttrs (corruptV2 h f w) ++ body) = .error .header :=
  C12_refuse_attrs_v2 p (corruptV2 h f w) body (corruptV2_good p h hv f w (goodAV_of_text f w hq hlt hwa)) hmark
    fun hsh => hbad (by have := (corruptV2_five h f w ▸ hsh).cls f; rwa [if_pos rfl] at this)

theorem five_text (g : V2Field → Str) (body : Str) :
    ofxDecl (five g) ("?>".toList ++ (crlf ++ body)) =
      ofxNF [' '] (g .ofxheader) [' '] (g .version) [' '] (g .security) [' '] (g .oldfileuid) [' '] (g .newfileuid) []
        (crlf ++ body.takeWhile isSpace) (body.dropWhile isSpace) '"' '"' '"' '"' '"' := by
  have hb : body = body.takeWhile isSpace ++ body.dropWhile isSpace := List.takeWhile_append_dropWhile.symm
  conv => lhs; rw [hb]
  simp [ofxDecl, five, names5, AF, ofxNF, eq_OFXHEADER, eq_VERSION, eq_SECURITY, eq_OLDFILEUID, eq_NEWFILEUID]

/-- `OFXHeaderV2.__init__` on the five captured texts -/
def ctorOfV2 (p : V2P) (g : V2Field → Str) : PyM V2 :=
  ctorV2 p (.str (g .version)) (.str (g .ofxheader)) (some (g .security)) (some (g .oldfileuid)) (some (g .newfileuid))

theorem parseV2_five (p : V2P) (g : V2Field → Str) (body : Str) (hc : ∀ f, inClass f.cls (g f)) :
    ∃ n, parseV2 p (renderAttrs (five g) ++ body) = (ctorOfV2 p g >>= fun h => pure (h, n)) := by
  have sp : allSpace [' '] := by intro c hc; simp at hc; subst hc; decide
  have hg : allSpace (crlf ++ body.takeWhile isSpace) := by
    intro c hc
    rcases List.mem_append.1 hc with hc | hc
    · exact crlf_space c hc
    · exact List.mem_takeWhile hc
  have hm := reSearch_of_match _ _ _ (v2_match [' '] _ [' '] _ [' '] _ [' '] _ [' '] _ []
    (crlf ++ body.takeWhile isSpace) (body.dropWhile isSpace) .dq .dq .dq .dq .dq (by simp) sp (by simp) sp
    (by simp) sp (by simp) sp (by simp) sp allSpace_nil hg (hc .ofxheader) (hc .version) (hc .security)
    (hc .oldfileuid) (hc .newfileuid) (head_dropWhile_space body))
  refine ⟨(renderAttrs (five g) ++ body).length - (body.dropWhile isSpace).length, ?_⟩
  rw [parseV2, reSearch_renderAttrs, five_text]
  simp only [Spec.HeaderLayout.Quote.ch] at hm
  rw [hm]
  rfl

theorem ctorV2_str_error (p : V2P) (ver oh : Str) (s o n : Option Str) (err : Err)
    (h : ctorV2 p (.str ver) (.str oh) s o n = .error err) : err = .header := by
  unfold ctorV2 at h
  refine VS_wrap _ ?_ err h
  refine VS_bind _ _ (VS_toInt_str' _) fun _ => ?_
  refine VS_bind _ _ (VS_oneOfInt _ _) fun _ => ?_
  refine VS_bind _ _ (VS_toInt_str _ _ ⟨_, rfl⟩) fun _ => ?_
  refine VS_bind _ _ (VS_oneOfInt _ _) fun _ => ?_
  refine VS_bind _ _ (VS_oneOfStr _ _) fun _ => ?_
  refine VS_bind _ _ (VS_stringConv _ _) fun _ => ?_
  refine VS_bind _ _ (VS_stringConv _ _) fun _ => ?_
  exact VS_pure _

def V2Field.dom (p : V2P) : V2Field → Str → Prop
  | .ofxheader, w => ∃ i, intOfStr w = some i ∧ pyStrInt i ∈ p.ofxheader
  | .version, w => ∃ i, intOfStr w = some i ∧ pyStrInt i ∈ p.version
  | .security, w => w ∈ p.security
  | .oldfileuid, w => ∀ k, p.oldLen = some k → (unescape w).length ≤ k
  | .newfileuid, w => ∀ k, p.newLen = some k → (unescape w).length ≤ k

theorem ctorV2_str_sound (p : V2P) (g : V2Field → Str) (h : V2) (hne : ∀ f, g f ≠ []) (hk : ctorOfV2 p g = .ok h) :
    ∀ f : V2Field, f.dom p (g f) := by
  rw [ctorOfV2, ctorV2_ok_iff, orElse_str _ _ (hne _), orStr_some _ _ (hne _), orStr_some _ _ (hne _),
    orStr_some _ _ (hne _)] at hk
  obtain ⟨a1, a3, h1, m2, h3, m4, m5, m6, m7, _⟩ := hk
  exact fun
    | .ofxheader => ⟨a3, (toInt_str_ok_iff _ _).1 h3, m4⟩ | .version => ⟨a1, (toInt_str_ok_iff _ _).1 h1, m2⟩
    | .security => m5 | .oldfileuid => m6 | .newfileuid => m7

theorem refuse_five (p : V2P) (g : V2Field → Str) (body : Str) (hc : ∀ f, inClass f.cls (g f)) (f : V2Field)
    (hbad : ¬ f.dom p (g f)) : parseV2 p (renderAttrs (five g) ++ body) = .error .header := by
  obtain ⟨n, hn⟩ := parseV2_five p g body hc
  rw [hn]
  cases hk : ctorOfV2 p g with
  | error e => rw [ctorV2_str_error _ _ _ _ _ _ _ hk]; rfl
  | ok h => exact absurd (ctorV2_str_sound p g h (fun f => (hc f).1) hk f) hbad

/-- Inside the class but outside the domain: unknown SECURITY token, OFXHEADER other than 200, VERSION not one of the
    seven listed, UID longer than 36: header error, for every body -/
theorem C12_refuse_corrupt_v2_domain (p : V2P) (h : V2) (hv : ValidV2 p h) (f : V2Field) (w : Str)
    (hc : inClass f.cls w) (hd : ¬ f.dom p w) (body : Str) :
    parseV2 p (renderAttrs (corruptV2 h f w) ++ body) = .error .header := by
  rw [corruptV2_five]
  refine refuse_five p _ body (fun f' => ?_) f (by rwa [if_pos rfl])
  split
  · next e => exact e ▸ hc
  · exact hv.cls f'

def OutsideV2 (p : V2P) (f : V2Field) (w : Str) : Prop :=
  (inClass f.cls w ∧ ¬ f.dom p w) ∨ ('"' ∉ w ∧ '<' ∉ w ∧ (∀ c ∈ w, c.toNat < 128) ∧ ¬ inClass f.cls w)

theorem C12_refuse_corrupt_v2 (p : V2P) (h : V2) (hv : ValidV2 p h) (f : V2Field) (w : Str)
    (hout : OutsideV2 p f w) (body : Str) (hmark : ¬ ofxOpen <:+: body) :
    parseV2 p (renderAttrs (corruptV2 h f w) ++ body) = .error .header := by
  rcases hout with ⟨hc, hd⟩ | ⟨hq, hlt, hwa, hbad⟩
  · exact C12_refuse_corrupt_v2_domain p h hv f w hc hd body
  · exact C12_refuse_corrupt_v2_class p h hv f w hq hlt hwa hbad body hmark

/-! The hypotheses of the theorems above can be met -/

theorem wHdr2_valid : ValidV2 pinnedV2P
    { version := 220, ofxheader := 200, security := "NONE".toList, oldfileuid := "NONE".toList,
      newfileuid := "NONE".toList } := by
  refine ⟨⟨by decide, by decide⟩, by decide, ⟨by decide, by decide⟩, by decide, ⟨by decide, by decide, by decide⟩,
    ⟨⟨by decide, by decide⟩, ?_⟩, ⟨⟨by decide, by decide⟩, ?_⟩⟩
  · intro n hn; cases hn; decide
  · intro n hn; cases hn; decide

/-- body hypotheses of the v1 theorems: a body that starts with `<` and does not contain `OFXHEADER:` -/
example : "<OFX><X>a:b</X></OFX>".toList.head? = some '<' ∧ ¬ ofxMarker <:+: "<OFX><X>a:b</X></OFX>".toList := by
  decide +kernel

/-- values outside the class: a foreign character, lower case, whitespace inside, the empty text -/
example : OutsideV1 pinnedV1P .data "OFX$GML".toList ∧ OutsideV1 pinnedV1P .encoding "usascii".toList ∧
    OutsideV1 pinnedV1P .data "OFX SGML".toList ∧ OutsideV1 pinnedV1P .security [] := by
  refine ⟨Or.inr ⟨by decide +kernel, by decide +kernel, by decide +kernel, ?_⟩,
    Or.inr ⟨by decide +kernel, by decide +kernel, by decide +kernel, ?_⟩,
    Or.inr ⟨by decide +kernel, by decide +kernel, by decide +kernel, ?_⟩,
    Or.inr ⟨by decide, by decide, by decide, ?_⟩⟩
  · simp only [reduceCtorEq, if_false]
    have e : strip "OFX$GML".toList = "OFX$GML".toList := by decide +kernel
    rw [e]; intro h; exact absurd (h.2 '$' (by decide +kernel)) (by decide +kernel)
  · simp only [reduceCtorEq, if_false]
    have e : strip "usascii".toList = "usascii".toList := by decide +kernel
    rw [e]; intro h; exact absurd (h.2 'u' (by decide +kernel)) (by decide +kernel)
  · simp only [reduceCtorEq, if_false]
    have e : strip "OFX SGML".toList = "OFX SGML".toList := by decide +kernel
    rw [e]; intro h; exact absurd (h.2 ' ' (by decide +kernel)) (by decide +kernel)
  · simp only [reduceCtorEq, if_false]
    have e : strip ([] : Str) = [] := by decide +kernel
    rw [e]; intro h; exact h.1 rfl

/-- … and values inside the class but outside the domain: an unknown DATA token, a four-digit VERSION, a UID of 37
    characters -/
example : OutsideV1 pinnedV1P .data "OFXXML".toList ∧ OutsideV1 pinnedV1P .version "1020".toList ∧
    OutsideV1 pinnedV1P .oldfileuid (List.replicate 37 'a') := by
  refine ⟨Or.inl ⟨⟨by decide, by decide +kernel⟩, ?_⟩, Or.inl ⟨⟨by decide, by decide +kernel⟩, ?_⟩,
    Or.inl ⟨⟨by decide, by decide +kernel⟩, ?_⟩⟩
  · show ¬ ("OFXXML".toList ∈ pinnedV1P.data); decide +kernel
  · rintro ⟨i, hi, hk⟩
    have e : intOfStr "1020".toList = some 1020 := by decide +kernel
    rw [e] at hi; cases hi
    exact absurd (hk 3 rfl) (by decide)
  · intro hk
    have := hk 36 rfl
    rw [unescape_no_amp _ (by decide +kernel)] at this
    simp at this

/-- v2: a value with a blank, the empty value, an unlisted VERSION -/
example : OutsideV2 pinnedV2P .security "NO NE".toList ∧ OutsideV2 pinnedV2P .oldfileuid [] ∧
    OutsideV2 pinnedV2P .version "230".toList := by
  refine ⟨Or.inr ⟨by decide +kernel, by decide +kernel, by decide +kernel, ?_⟩,
    Or.inr ⟨by decide, by decide, by decide, fun h => h.1 rfl⟩,
    Or.inl ⟨⟨by decide, by decide +kernel⟩, ?_⟩⟩
  · intro h; exact absurd (h.2 ' ' (by decide +kernel)) (by decide +kernel)
  · rintro ⟨i, hi, hk⟩
    have e : intOfStr "230".toList = some 230 := by decide +kernel
    rw [e] at hi; cases hi
    revert hk; decide +kernel

/-- the concrete texts: `str(h)` with DATA left out, and with DATA and VERSION transposed -/
example : renderLines ((v1NVs wHdr).eraseIdx 1) =
    ("OFXHEADER:100\r\nVERSION:102\r\nSECURITY:NONE\r\nENCODING:USASCII\r\nCHARSET:NONE\r\nCOMPRESSION:NONE\r\n" ++
     "OLDFILEUID:NONE\r\nNEWFILEUID:NONE\r\n\r\n").toList ∧
    renderLines (swapAt 1 (v1NVs wHdr)) =
    ("OFXHEADER:100\r\nVERSION:102\r\nDATA:OFXSGML\r\nSECURITY:NONE\r\nENCODING:USASCII\r\nCHARSET:NONE\r\n" ++
     "COMPRESSION:NONE\r\nOLDFILEUID:NONE\r\nNEWFILEUID:NONE\r\n\r\n").toList := by
  rw [String.toList_append, String.toList_append, String.toList_ofList, String.toList_ofList, String.toList_ofList,
    String.toList_ofList]
  decide +kernel

/-! The same refusals through `parse_header`, on the bytes of a file: v2, then v1 -/

theorem isAscii_AF (avs : List AV) (R : Str) (h : ∀ a ∈ avs, GoodAV a) (hn : ∀ a ∈ avs, isAscii a.1)
    (hR : isAscii R) : isAscii (AF avs R) := by
  induction avs with
  | nil => exact hR
  | cons a rest ih =>
    have g := h a (by simp)
    have ih' := ih (fun x hx => h x (by simp [hx])) (fun x hx => hn x (by simp [hx]))
    have hq : ('"').toNat < 128 := by decide
    have he : ('=').toNat < 128 := by decide
    have hs : (' ').toNat < 128 := by decide
    cases rest with
    | nil =>
      simp only [AF]
      exact isAscii_append.2 ⟨hn a (by simp), isAscii_cons.2 ⟨he, isAscii_cons.2 ⟨hq,
        isAscii_append.2 ⟨g.val_ascii, isAscii_cons.2 ⟨hq, hR⟩⟩⟩⟩⟩
    | cons b l =>
      simp only [AF]
      exact isAscii_append.2 ⟨hn a (by simp), isAscii_cons.2 ⟨he, isAscii_cons.2 ⟨hq,
        isAscii_append.2 ⟨g.val_ascii, isAscii_cons.2 ⟨hq, isAscii_cons.2 ⟨hs, ih'⟩⟩⟩⟩⟩⟩

theorem parseHeader_attrs_of_text (p1 : V1P) (p2 : V2P) (tbl : List (Option Nat)) (avs : List AV) (body : Str)
    (bb : Bytes) (hgood : ∀ a ∈ avs, GoodAV a) (hnames : ∀ a ∈ avs, isAscii a.1)
    (henc : encode tbl .utf8 body = .ok bb)
    (hparse : parseV2 p2 (renderAttrs avs ++ body) = .error .header) :
    parseHeader p1 p2 tbl (asciiBytes (renderAttrs avs) ++ bb) = .error .header := by
  have iZ : isAscii (crlf ++ (ofxDecl avs "?>".toList ++ crlf)) := by
    refine isAscii_append.2 ⟨crlf_ascii, isAscii_append.2 ⟨isAscii_append.2
      ⟨by unfold isAscii; decide, isAscii_cons.2 ⟨by decide, ?_⟩⟩, crlf_ascii⟩⟩
    exact isAscii_AF avs _ hgood hnames (by unfold isAscii; decide)
  have := parseHeader_v2_text p1 p2 tbl strLayV2 _ body bb (by decide) (fun _ h => nomatch h) (by decide) (by decide)
    (by decide) (by decide) (by decide) iZ henc
  rw [← xmlDecl_eq] at this
  rw [show renderAttrs avs = xmlDecl ++ (crlf ++ (ofxDecl avs "?>".toList ++ crlf)) from rfl]
  simp only [strLayV2, Spec.HeaderLayout.leadingText, List.nil_append] at this
  rw [this, ← renderAttrs, hparse]
  rfl

/-- `C12_refuse_attrs_v2` through `parse_header`: the bytes of its text, the body UTF-8 encoded -/
theorem C12_refuse_attrs_v2_file (p1 : V1P) (p2 : V2P) (tbl : List (Option Nat)) (avs : List AV) (body : Str)
    (bb : Bytes) (hgood : ∀ a ∈ avs, GoodAV a) (hnames : ∀ a ∈ avs, isAscii a.1)
    (henc : encode tbl .utf8 body = .ok bb) (hmark : ¬ ofxOpen <:+: body) (hshape : ¬ V2Shape avs) :
    parseHeader p1 p2 tbl (asciiBytes (renderAttrs avs) ++ bb) = .error .header :=
  parseHeader_attrs_of_text p1 p2 tbl avs body bb hgood hnames henc
    (C12_refuse_attrs_v2 p2 avs body hgood hmark hshape)

theorem C12_refuse_omit_field_v2_file (p1 : V1P) (p2 : V2P) (tbl : List (Option Nat)) (h : V2) (hv : ValidV2 p2 h)
    (i : Nat) (hi : i < 5) (body : Str) (bb : Bytes) (henc : encode tbl .utf8 body = .ok bb)
    (hmark : ¬ ofxOpen <:+: body) :
    parseHeader p1 p2 tbl (asciiBytes (renderAttrs ((v2AVs h).eraseIdx i)) ++ bb) = .error .header :=
  parseHeader_attrs_of_text p1 p2 tbl _ body bb
    (fun a ha => v2AVs_good p2 h hv a (List.mem_of_mem_eraseIdx ha))
    (fun a ha => v2AVs_ascii h a (List.mem_of_mem_eraseIdx ha)) henc
    (C12_refuse_omit_field_v2 p2 h hv i hi body hmark)

theorem C12_refuse_swap_fields_v2_file (p1 : V1P) (p2 : V2P) (tbl : List (Option Nat)) (h : V2) (hv : ValidV2 p2 h)
    (i : Nat) (hi : i < 4) (body : Str) (bb : Bytes) (henc : encode tbl .utf8 body = .ok bb)
    (hmark : ¬ ofxOpen <:+: body) :
    parseHeader p1 p2 tbl (asciiBytes (renderAttrs (swapAt i (v2AVs h))) ++ bb) = .error .header :=
  parseHeader_attrs_of_text p1 p2 tbl _ body bb (fun a ha => v2AVs_good p2 h hv a (mem_swapAt _ _ ha))
    (fun a ha => v2AVs_ascii h a (mem_swapAt _ _ ha)) henc (C12_refuse_swap_fields_v2 p2 h hv i hi body hmark)

theorem C12_refuse_corrupt_v2_class_file (p1 : V1P) (p2 : V2P) (tbl : List (Option Nat)) (h : V2) (hv : ValidV2 p2 h)
    (f : V2Field) (w : Str) (hq : '"' ∉ w) (hlt : '<' ∉ w) (hwa : ∀ c ∈ w, c.toNat < 128)
    (hbad : ¬ inClass f.cls w) (body : Str) (bb : Bytes) (henc : encode tbl .utf8 body = .ok bb)
    (hmark : ¬ ofxOpen <:+: body) :
    parseHeader p1 p2 tbl (asciiBytes (renderAttrs (corruptV2 h f w)) ++ bb) = .error .header :=
  parseHeader_attrs_of_text p1 p2 tbl _ body bb (corruptV2_good p2 h hv f w (goodAV_of_text f w hq hlt hwa))
    (corruptV2_ascii h f w) henc (C12_refuse_corrupt_v2_class p2 h hv f w hq hlt hwa hbad body hmark)

theorem C12_refuse_corrupt_v2_domain_file (p1 : V1P) (p2 : V2P) (tbl : List (Option Nat)) (h : V2)
    (hv : ValidV2 p2 h) (f : V2Field) (w : Str) (hc : inClass f.cls w) (hd : ¬ f.dom p2 w) (body : Str) (bb : Bytes)
    (henc : encode tbl .utf8 body = .ok bb) :
    parseHeader p1 p2 tbl (asciiBytes (renderAttrs (corruptV2 h f w)) ++ bb) = .error .header :=
  parseHeader_attrs_of_text p1 p2 tbl _ body bb
    (corruptV2_good p2 h hv f w (goodAV_of_class _ _ f.name_mem (inClass_mono f.cls_wordDash hc)))
    (corruptV2_ascii h f w) henc (C12_refuse_corrupt_v2_domain p2 h hv f w hc hd body)

section v1file
open Ofx.Spec.HeaderLayout
theorem lines_ascii (nvs : List NV) (hgood : ∀ nv ∈ nvs, GoodNV nv) : isAscii (NF (linesOf nvs) []) := by
  refine NF_ascii _ _ (fun f hf => ?_) isAscii_nil
  obtain ⟨nv, hnv, rfl⟩ := List.mem_map.1 hf
  exact ⟨names9_ascii _ (hgood nv hnv).name, (hgood nv hnv).val_ascii, crlf_ascii⟩

theorem firstLines_lines (nvs : List NV) (hgood : ∀ nv ∈ nvs, GoodNV nv) (G : Bytes) :
    ∀ n, nvs.length ≤ n → firstLines n (asciiBytes (NF (linesOf nvs) []) ++ G) =
      asciiBytes (NF (linesOf nvs) []) ++ firstLines (n - nvs.length) G := by
  induction nvs with
  | nil => intro n _; rfl
  | cons nv rest ih =>
    intro n hn
    obtain ⟨m, rfl⟩ : ∃ m, n = m + 1 := ⟨n - 1, by simp at hn; omega⟩
    have g := hgood nv (by simp)
    have e : NF (linesOf (nv :: rest)) [] = (nv.1 ++ ':' :: (nv.2 ++ ['\r'])) ++ ['\n'] ++ NF (linesOf rest) [] := by
      simp [linesOf, NF, crlf]
    have ha : isAscii (nv.1 ++ ':' :: (nv.2 ++ ['\r'])) :=
      isAscii_append.2 ⟨names9_ascii _ g.name, isAscii_cons.2 ⟨by decide, isAscii_append.2 ⟨g.val_ascii, by
        unfold isAscii; decide⟩⟩⟩
    have hl : hasLF (nv.1 ++ ':' :: (nv.2 ++ ['\r'])) = false := hasLF_eq_false.2 (by
      simp only [List.mem_append, List.mem_cons, List.not_mem_nil, or_false, not_or]
      exact ⟨fun hc => absurd ((names9_isName _ g.name).2.2 _ hc) (by decide), by decide, g.val_nolf, by decide⟩)
    rw [e, asciiBytes_append, List.append_assoc, firstLines_succ, splitLine_line _ _ ha hl,
      List.drop_left, ih (fun x hx => hgood x (by simp [hx])) m (by simpa using hn), List.length_cons,
      Nat.add_sub_add_right]
    exact (List.append_assoc _ _ _).symm

theorem raw_lines (nvs : List NV) (bb : Bytes) (hgood : ∀ nv ∈ nvs, GoodNV nv) (hlen : nvs.length ≤ 9) :
    chars (firstLines 9 (asciiBytes (renderLines nvs) ++ bb)) =
      NF (linesOf nvs) [] ++ chars (firstLines (9 - nvs.length) (13 :: 10 :: bb)) := by
  have e : renderLines nvs = NF (linesOf nvs) [] ++ crlf := by rw [renderLines, NF_append]; rfl
  rw [e, asciiBytes_append, List.append_assoc, firstLines_lines nvs hgood _ 9 hlen, chars_append,
    chars_asciiBytes _ (lines_ascii nvs hgood)]
  rfl

/-- what the nine lines read hold after the header lines: nothing, or the blank line and the first lines of the body -/
theorem raw_tail (n : Nat) (bb : Bytes) :
    ∃ g B, allSpace g ∧ B <+: chars bb ∧ chars (firstLines n (13 :: 10 :: bb)) = g ++ B := by
  cases n with
  | zero => exact ⟨[], [], allSpace_nil, List.nil_prefix, rfl⟩
  | succ k =>
    refine ⟨crlf, chars (firstLines k bb), crlf_space, chars_prefix (firstLines_prefix k bb), ?_⟩
    rw [firstLines_cons, if_neg (by decide), firstLines_cons, if_pos rfl, chars_head _ _ (by decide),
      chars_head _ _ (by decide)]
    rfl

theorem parseHeader_of_lines (p1 : V1P) (p2 : V2P) (tbl : List (Option Nat)) (nvs : List NV) (bb : Bytes)
    (hgood : ∀ nv ∈ nvs, GoodNV nv) (hne : nvs ≠ [])
    (hparse : parseV1 p1 (chars (firstLines 9 (asciiBytes (renderLines nvs) ++ bb))) = .error .header) :
    parseHeader p1 p2 tbl (asciiBytes (renderLines nvs) ++ bb) = .error .header := by
  obtain ⟨nv, rest, hnv⟩ := List.exists_cons_of_ne_nil hne
  have g0 := hgood nv (by rw [hnv]; simp)
  have hn0 := names9_isName _ g0.name
  obtain ⟨d, ds, hd⟩ := List.exists_cons_of_ne_nil hn0.1
  have hda : d.toNat < 128 := names9_ascii _ g0.name d (by rw [hd]; simp)
  have hds : isSpace d = false := hn0.2.2 d (by rw [hd]; simp)
  obtain ⟨Y, hY⟩ : ∃ Y, asciiBytes (renderLines nvs) ++ bb = byteOf d.toNat :: Y := by
    rw [hnv]
    simp only [renderLines, linesOf, List.map_cons, NF, hd]
    exact ⟨_, rfl⟩
  refine parseHeader_of_raw p1 p2 tbl _ Y d hY hda hds (xml_nomatch _ ?_) hparse
  rw [hY, chars_splitLine_head d Y hda hds]
  intro c hc e
  simp at hc
  exact names9_nolt _ g0.name (by rw [hd, ← e, hc]; simp)

/-- `C12_refuse_lines_v1` through `parse_header`: the bytes of up to nine header lines, the blank line, and any body
    bytes which, read the way the header scanner reads them (ASCII, errors replaced), start with `<` (or are empty)
    and do not contain `OFXHEADER:` -/
theorem C12_refuse_lines_v1_file (p1 : V1P) (p2 : V2P) (tbl : List (Option Nat)) (nvs : List NV) (bb : Bytes)
    (hgood : ∀ nv ∈ nvs, GoodNV nv) (hne : nvs ≠ []) (hlen : nvs.length ≤ 9)
    (hb : ∀ c ∈ (chars bb).head?, c = '<') (hmark : ¬ ofxMarker <:+: chars bb)
    (hshape : ∀ sfx, sfx <:+ nvs → ¬ V1Shape sfx) :
    parseHeader p1 p2 tbl (asciiBytes (renderLines nvs) ++ bb) = .error .header := by
  apply parseHeader_of_lines p1 p2 tbl nvs bb hgood hne
  obtain ⟨g, B, hg, hBp, hraw⟩ := raw_tail (9 - nvs.length) bb
  have hB : ∀ c ∈ B.head?, c = '<' := by
    intro c hc
    obtain ⟨t, ht⟩ := hBp
    cases B with
    | nil => cases hc
    | cons b bs =>
      simp at hc; subst hc
      exact hb b (by rw [← ht]; simp)
  have hm : ¬ ofxMarker <:+: B := by
    intro hi
    obtain ⟨t, ht⟩ := hBp
    obtain ⟨x, y, hxy⟩ := hi
    exact hmark ⟨x, y ++ t, by rw [← ht, ← hxy]; simp⟩
  apply C12_refuse_text_nomatch_v1
  rw [raw_lines nvs bb hgood hlen, hraw, NF_append]
  exact reSearch_lines_none nvs g B hg hgood hB hm hshape

theorem C12_refuse_names_v1_file (p1 : V1P) (p2 : V2P) (tbl : List (Option Nat)) (nvs : List NV) (bb : Bytes)
    (hgood : ∀ nv ∈ nvs, GoodNV nv) (hne : nvs ≠ []) (hlen : nvs.length ≤ 9)
    (hb : ∀ c ∈ (chars bb).head?, c = '<') (hmark : ¬ ofxMarker <:+: chars bb)
    (hnames : NamesRefused (nvs.map Prod.fst)) :
    parseHeader p1 p2 tbl (asciiBytes (renderLines nvs) ++ bb) = .error .header := by
  apply C12_refuse_lines_v1_file p1 p2 tbl nvs bb hgood hne hlen hb hmark
  intro sfx hs hsh
  exact hnames _ (mem_tailsOf (List.IsSuffix.map Prod.fst hs)) hsh.names

theorem C12_refuse_omit_field_v1_file (p1 : V1P) (p2 : V2P) (tbl : List (Option Nat)) (h : V1) (hv : ValidV1 p1 h)
    (i : Nat) (hi : i < 9) (hi6 : i ≠ 6) (bb : Bytes) (hb : ∀ c ∈ (chars bb).head?, c = '<')
    (hmark : ¬ ofxMarker <:+: chars bb) :
    parseHeader p1 p2 tbl (asciiBytes (renderLines ((v1NVs h).eraseIdx i)) ++ bb) = .error .header := by
  have hl : ((v1NVs h).eraseIdx i).length = 8 := by
    rw [List.length_eraseIdx, v1NVs_length, if_pos hi]
  apply C12_refuse_names_v1_file p1 p2 tbl _ bb
    (fun nv hnv => v1NVs_good p1 h hv nv (List.mem_of_mem_eraseIdx hnv))
    (by intro e; rw [e] at hl; simp at hl) (by omega) hb hmark
  rw [map_eraseIdx, v1NVs_names]
  exact omit_namesRefused i hi hi6

theorem C12_refuse_swap_fields_v1_file (p1 : V1P) (p2 : V2P) (tbl : List (Option Nat)) (h : V1) (hv : ValidV1 p1 h)
    (i : Nat) (hi : i < 8) (bb : Bytes) (hb : ∀ c ∈ (chars bb).head?, c = '<')
    (hmark : ¬ ofxMarker <:+: chars bb) :
    parseHeader p1 p2 tbl (asciiBytes (renderLines (swapAt i (v1NVs h))) ++ bb) = .error .header := by
  have hl : (swapAt i (v1NVs h)).length = 9 := by rw [swapAt_length, v1NVs_length]
  apply C12_refuse_names_v1_file p1 p2 tbl _ bb
    (fun nv hnv => v1NVs_good p1 h hv nv (mem_swapAt _ _ hnv))
    (by intro e; rw [e] at hl; simp at hl) (by omega) hb hmark
  rw [swapAt_map, v1NVs_names]
  exact swap_namesRefused i hi

theorem C12_refuse_corrupt_v1_class_file (p1 : V1P) (p2 : V2P) (tbl : List (Option Nat)) (h : V1)
    (hv : ValidV1 p1 h) (f : V1Field) (w : Str)
    (hwc : ':' ∉ w) (hwl : '\n' ∉ w) (hwa : ∀ c ∈ w, c.toNat < 128)
    (hbad : if f = .newfileuid then (w.dropWhile isSpace).takeWhile isWordDash = []
      else ¬ inClass f.cls (strip w))
    (bb : Bytes) (hb : ∀ c ∈ (chars bb).head?, c = '<') (hmark : ¬ ofxMarker <:+: chars bb) :
    parseHeader p1 p2 tbl (asciiBytes (renderLines (corruptV1 h f w)) ++ bb) = .error .header := by
  have hl := corruptV1_length h f w
  exact C12_refuse_lines_v1_file p1 p2 tbl _ bb (corruptV1_good p1 h hv f w hwc hwl hwa)
    (by intro e; rw [e] at hl; simp at hl) (by omega) hb hmark (corruptV1_noshape h f w hbad)

/-- the nine lines are the whole raw header; the body does not matter at all -/
theorem C12_refuse_corrupt_v1_domain_file (p1 : V1P) (p2 : V2P) (tbl : List (Option Nat)) (h : V1)
    (hv : ValidV1 p1 h) (f : V1Field) (w : Str) (hc : inClass f.cls w) (hd : ¬ f.dom p1 w) (bb : Bytes) :
    parseHeader p1 p2 tbl (asciiBytes (renderLines (corruptV1 h f w)) ++ bb) = .error .header := by
  have hl := corruptV1_length h f w
  have hwd : inClass isWordDash w := inClass_mono f.cls_wordDash hc
  have hgood : ∀ nv ∈ corruptV1 h f w, GoodNV nv :=
    corruptV1_good p1 h hv f w (fun hm => absurd (hwd.2 _ hm) (by decide))
      (fun hm => absurd (hwd.2 _ hm) (by decide)) (fun c hm => wordDash_ascii c (hwd.2 c hm))
  have hne : corruptV1 h f w ≠ [] := by intro e; rw [e] at hl; simp at hl
  apply parseHeader_of_lines p1 p2 tbl _ bb hgood hne
  rw [raw_lines _ bb hgood (Nat.le_of_eq hl), hl]
  show parseV1 p1 (NF (linesOf (corruptV1 h f w)) [] ++ []) = _
  rw [List.append_nil]
  rw [corruptV1_nine, nine_raw]
  exact refuse_nineW p1 _ crlf (corrupt_cls hv hc) (crlf_head []) f (by rwa [if_pos rfl])

end v1file

/-! v1: the nine lines in another order -/

def compName : Str := "COMPRESSION".toList

theorem suffix_len_cases {t ns : List Str} (hs : t <:+ ns) (hl : ns.length = 9) (h8 : 8 ≤ t.length) :
    t = ns ∨ (∃ y, ns = y :: t) := by
  obtain ⟨x, hx⟩ := hs
  have hlen : x.length + t.length = 9 := by rw [← hl, ← hx]; simp
  match x, hx with
  | [], hx => exact Or.inl (by simpa using hx)
  | [y], hx => exact Or.inr ⟨y, by simpa using hx.symm⟩
  | _ :: _ :: _, _ => simp at hlen; omega

theorem perm_namesRefused (ns : List Str) (hp : ns.Perm names9) (h1 : ns ≠ names9)
    (h2 : ns ≠ names8 ++ [compName]) (h3 : ns ≠ compName :: names8) : NamesRefused ns := by
  have hl : ns.length = 9 := by rw [hp.length_eq]; rfl
  have hp9 : names9.Perm (names8 ++ [compName]) := by decide +kernel
  have hp9' : names9.Perm (compName :: names8) := by decide +kernel
  intro t ht hc
  have hs := mem_tailsOf_suffix ht
  rcases hc with hc | hc
  · have h8 : 8 ≤ t.length := by
      have := congrArg List.length hc
      simp [names8] at this; omega
    rcases suffix_len_cases hs hl h8 with e | ⟨y, e⟩
    · subst e
      -- ns = names8 ++ [x]
      have hsplit : t = t.take 8 ++ t.drop 8 := (List.take_append_drop 8 t).symm
      have hd : (t.drop 8).length = 1 := by simp [hl]
      obtain ⟨x, hx⟩ : ∃ x, t.drop 8 = [x] := by
        match t.drop 8, hd with
        | [x], _ => exact ⟨x, rfl⟩
      rw [hc, hx] at hsplit
      have : (names8 ++ [x]).Perm (names8 ++ [compName]) := by rw [← hsplit]; exact hp.trans hp9
      have := (List.perm_append_left_iff names8).1 this
      have hxe : x = compName := by simpa using this.eq_singleton
      exact h2 (by rw [hsplit, hxe])
    · have hlt : t.length = 8 := by
        have := congrArg List.length e
        simp [hl] at this; omega
      have ht8 : t = names8 := by rw [← hc, List.take_of_length_le (by omega)]
      have ens : ns = y :: names8 := by rw [e, ht8]
      have : (y :: names8).Perm (compName :: names8) := by rw [← ens]; exact hp.trans hp9'
      have hy : [y].Perm [compName] := by
        have h' : ([y] ++ names8).Perm ([compName] ++ names8) := by simpa using this
        exact (List.perm_append_right_iff names8).1 h'
      have hye : y = compName := by simpa using hy.eq_singleton
      exact h3 (by rw [ens, hye])
  · have h9 : 9 ≤ t.length := by
      have := congrArg List.length hc
      simp [names9] at this; omega
    rcases suffix_len_cases hs hl (by omega) with e | ⟨y, e⟩
    · subst e
      exact h1 (by rw [← hc, List.take_of_length_le (by omega)])
    · have := congrArg List.length e
      simp [hl] at this; omega

/-- Every reordering of the nine lines of a valid header is refused, except the three orders the pattern accepts:
    the original one, and the optional COMPRESSION line moved to the very end or the very beginning (the unanchored
    search then reads the eight mandatory lines and never sees it) -/
theorem C12_refuse_reorder_v1 (p : V1P) (h : V1) (hv : ValidV1 p h) (nvs : List NV) (hperm : nvs.Perm (v1NVs h))
    (h1 : nvs.map Prod.fst ≠ names9) (h2 : nvs.map Prod.fst ≠ names8 ++ [compName])
    (h3 : nvs.map Prod.fst ≠ compName :: names8)
    (body : Str) (hb : body.head? = some '<') (hmark : ¬ ofxMarker <:+: body) :
    parseV1 p (renderLines nvs ++ body) = .error .header := by
  apply C12_refuse_names_v1 p _ body (fun nv hnv => v1NVs_good p h hv nv (hperm.mem_iff.1 hnv)) hb hmark
  exact perm_namesRefused _ (by rw [← v1NVs_names h]; exact hperm.map _) h1 h2 h3

/-- `str(wHdr)` with the COMPRESSION line moved to the end, resp. to the front, and a body: the two reorderings
    `C12_refuse_reorder_v1` excepts (`Props/C12Findings.lean` runs the model on them) -/
def wCompLast : Str := renderLines ((v1NVs wHdr).eraseIdx 6 ++ [(compName, "NONE".toList)]) ++ "<OFX></OFX>".toList
def wCompFirst : Str := renderLines ((compName, "NONE".toList) :: (v1NVs wHdr).eraseIdx 6) ++ "<OFX></OFX>".toList
end Ofx.Header
