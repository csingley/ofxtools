/-
Definitions only, over the model only: the kernel tables (`Gen/C13ExistT*.lean`) import the model and the `Defs`
modules, and so depend on no lemma file.  Here: what the reader is handed when a written instance is read back, and the
executable tests on element values.  (Three modules and not one: `match` expressions of equal shape share one auxiliary
definition within a module, so the term a definition elaborates to depends on what else its module holds.)
-/
import OfxModel.Ofx.Agg
import OfxModel.Ofx.Types
import OfxModel.Ofx.DateTime
import OfxModel.Py.Dec
import OfxModel.Py.Cal
import OfxModel.Spec.Instant
import OfxModel.Spec.Lex

namespace Ofx.Agg
open Ofx

def Kind.subTarget : Kind → Option Nat
  | .sub t => some t
  | _ => none

mutual
  /-- what `parse ∘ serialize` does to a tree, with `f = _escape_cdata` -/
  def mapText (f : Str → Str) : Tree → Tree
    | .node t x tl cs => .node t (x.map f) tl (mapTextList f cs)
  def mapTextList (f : Str → Str) : List Tree → List Tree
    | [] => []
    | c :: cs => mapText f c :: mapTextList f cs
end

section
variable (S : Schema) (cv : Conv)

/-- what `to_etree` emits for a non-list supported attribute `a` holding `v` -/
def fieldTree (a : Attr) (v : Node) : PyM (Option Tree) :=
  match v with
  | .val .none => .ok none
  | .agg ci f i => (toEtree S cv (.agg ci f i)).map some
  | .val x => do
    let t ← cv.unconvert S.enums a.kind a.required x
    let child ← leafOf a t
    pure (some child)

end

section
variable (S : Schema) (cv : Conv) (esc : Str → Str)

/-- the raw kwarg a field contributes when the written tree is read back -/
def rawField (a : Attr) (v : Node) : Option Node :=
  match v with
  | .val .none => none
  | .agg ci f i => some (.agg ci f i)
  | .val x =>
    match cv.unconvert S.enums a.kind a.required x with
    | .ok (.str s) => some (.val (.str (esc s)))
    | _ => none

/-- the raw positional argument an `ElementList` member contributes when the written tree is read back -/
def rawEl (inner : Kind) (ireq : Bool) (m : Node) : Node :=
  match cv.unconvert S.enums inner ireq (Node.toVal m) with
  | .ok (.str s) => .val (.str (esc s))
  | _ => m

/-- the positional arguments `from_etree` collects from the written tree: the members themselves for a plain
    aggregate, the (escaped) texts of the members for an `ElementList` -/
def rawItemsOf (c : Cls) (items : List Node) : List Node :=
  if c.elementList then
    match c.spec.filter (fun a => a.kind.isListElem) with
    | [a] =>
      match a.kind with
      | .listElem inner ireq => items.map (rawEl S cv esc inner ireq)
      | _ => items
    | _ => items
  else items

end

end Ofx.Agg

namespace Ofx.Types
open Ofx Ofx.Agg

def markupFree (s : Str) : Bool := s.all (fun c => c != '&' && c != '<' && c != '>')

end Ofx.Types

namespace Ofx

/-- coefficients the default context can hold -/
def fitsPrec (c : Nat) : Bool := c == 0 || decide (ndigits c ≤ defaultPrec)

end Ofx

namespace Ofx
open Ofx.Spec

/-- `String.enforce_length` as a decision; anything fits a warn-only string -/
def Types.fits (l : Option Nat) (strict : Bool) (s : Str) : Bool :=
  match l with
  | some n => !strict || decide (s.length ≤ n)
  | none => true

end Ofx

namespace Ofx.DateTime
open Ofx Ofx.Cal Ofx.Spec.Instant

/-- naive ("wall clock") fields of a datetime as microseconds since ordinal 0 -/
def localUs (d : DT) : Int := toUs d.year d.month d.day d.hour d.minute d.second d.us
/-- 1000-01-01T00:00 and 10000-01-01T00:00 on that scale (`date(1000, 1, 1).toordinal()` = 364878,
    `date(9999, 12, 31).toordinal() + 1` = 3652060).  The lower bound is the writer's: glibc's `%Y` does not pad
    (`Cal.strftimeYmdHMS`), so a year below 1000 is written with fewer than four digits, which is no text of the notation. -/
def us1000 : Int := 364878 * 86400000000
def usEnd : Int := 3652060 * 86400000000

end Ofx.DateTime
