/-
Validity of an instance (`Valid`, Lemmas/NodeRT.lean) and the domain of the real converters as tests the kernel can
run, `validB` and `typesDomB`; that each implies the proposition it stands for is proved in Lemmas/C13Valid.lean.
Definitions only (see `Defs/ReadBack.lean`).
-/
import OfxProofs.Defs.ReadBack

namespace Ofx.Types
open Ofx

/-- what `enforce_length` checks: `abs(value) < 10**length` -/
def intFits (l : Option Nat) (i : Int) : Bool :=
  match l with
  | some n => decide (i.natAbs < 10 ^ n)
  | none => true

end Ofx.Types

namespace Ofx.Agg
open Ofx

def fieldOkB (domB : Kind → Bool → Val → Bool) (a : Attr) : Node → Bool
  | .agg ci _ _ => Kind.subTarget a.kind == some ci
  | .val .none => !a.required
  | .val x => Kind.subTarget a.kind == none && domB a.kind a.required x

def fieldsMatchB (p : Attr → Node → Bool) : List Attr → List (Str × Node) → Bool
  | [], fs => fs.isEmpty
  | a :: L, fs =>
    if a.kind.isUnsupported then fieldsMatchB p L fs
    else
      match fs with
      | (n, v) :: fs' => decide (n = a.name) && p a v && fieldsMatchB p L fs'
      | [] => false

def memberOkB (S : Schema) (c : Cls) : Node → Bool
  | .agg cj _ _ =>
    match S.cls? cj with
    | some cjc => (listAggNames c).contains (lower cjc.name) && !cjc.name.contains '.'
    | none => false
  | .val _ => false

def elemOkB (domB : Kind → Bool → Val → Bool) (inner : Kind) (ireq : Bool) : Node → Bool
  | .val .none => false
  | .val x => domB inner ireq x
  | .agg .. => false

section
variable (S : Schema) (cv : Conv) (esc : Str → Str) (domB : Kind → Bool → Val → Bool) (X : List Str)

/-- `rawKwOf` for fields that stand in the order of the attributes (`FieldsMatch`): the field of an attribute is
    the next one, where `rawKwOf` looks every name up from the front -/
def rawKwZip : List Attr → List (Str × Node) → List (Str × Node)
  | [], _ => []
  | a :: rest, fs =>
    if a.kind.isList || a.kind.isUnsupported then rawKwZip rest fs
    else
      match fs with
      | (_, v) :: fs' =>
        (match rawField S cv esc a v with
         | some r => (a.name, r) :: rawKwZip rest fs'
         | none => rawKwZip rest fs')
      | [] => []

def nodeOkB (c : Cls) (fields : List (Str × Node)) (items : List Node) : Bool :=
  !c.abstract && c.exported && !X.contains c.name &&
  fieldsMatchB (fieldOkB domB) (specNoList c) fields &&
  (c.elementList || items.all (memberOkB S c)) &&
  (!c.elementList || c.spec.all fun a =>
    match a.kind with
    | .listElem inner ireq => items.all (elemOkB domB inner ireq)
    | _ => true) &&
  (c.spec.any (·.kind.isList) || items.isEmpty) &&
  match validateArgs S c (rawItemsOf S cv esc c items) (rawKwZip S cv esc c.spec fields) with
  | .ok _ => true
  | .error _ => false

mutual
  def validB : Node → Bool
    | .val _ => false
    | .agg ci fields items =>
      (match S.cls? ci with
       | some c => nodeOkB S cv esc domB X c fields items
       | none => false) && validFieldsB fields && validItemsB items
  def validFieldsB : List (Str × Node) → Bool
    | [] => true
    | (_, v) :: r => (!v.isAgg || validB v) && validFieldsB r
  def validItemsB : List Node → Bool
    | [] => true
    | v :: r => (!v.isAgg || validB v) && validItemsB r
end

end

end Ofx.Agg

namespace Ofx.Types
open Ofx Ofx.Agg Ofx.DateTime Ofx.Spec.Instant

def typesDomB (enums : List (List Str)) : Kind → Bool → Val → Bool
  | .bool, _, .bool _ => true
  | .string l st, _, .str s => !s.isEmpty && fits l st s
  | .oneOf e, _, .str s =>
    (match enums[e]? with
     | some valid => valid.contains s && !s.isEmpty && markupFree s
     | none => false)
  | .integer l, _, .int i => intFits l i
  | .decimal none, _, .dec (.fin _ _ e) => decide (e ≤ 0)
  | .decimal (some q), _, .dec (.fin _ c e) => decide (e = q) && decide (q ≤ 0) && fitsPrec c
  | .datetime, _, .dt d =>
    dtValid d && decide (d.tz = some utc) && decide (d.us % 1000 = 0) && decide (us1000 ≤ localUs d) &&
      decide (localUs d < usEnd)
  | .time, _, .tm t => tmValid t && decide (t.tz = some utc) && decide (t.us % 1000 = 0)
  | .listElem k ir, _, v => typesDomB enums k ir v
  | _, _, _ => false

end Ofx.Types
