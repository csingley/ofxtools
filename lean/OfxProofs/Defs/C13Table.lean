/-
The obligation of the constructibility table per (class, child) pair, per class and per range of class indices
(`rangeOk`, what `Gen/C13ExistT*.lean` evaluate), and the classes the table does not test for validity.  What a closed
entry means is proved in Lemmas/C13Exist.lean (`pairOk_sound`).  Definitions only (see `Defs/ReadBack.lean`).
-/
import OfxModel.Spec.Witness
import OfxProofs.Defs.ValidB

namespace Ofx.Agg
open Ofx Ofx.Spec.Witness

def clsNamed (S : Schema) (t : Nat) (n : Str) : Bool :=
  match S.cls? t with
  | some tc => tc.name == n
  | none => false

/-- what makes `upper a.name` the tag the child `a` of class `c` is written under (before `ungroom`): an aggregate
    goes under its class's name, and list elements are written by an `ElementList` only.  Evaluated, because
    `ClsWF.subOk` gives `lower tc.name = a.name`, not `tc.name = upper a.name`. -/
def tagB (S : Schema) (c : Cls) (a : Attr) : Bool :=
  match a.kind with
  | .sub t => clsNamed S t (upper a.name)
  | .listAgg t => !c.elementList && clsNamed S t (upper a.name)
  | .listElem .. => c.elementList
  | _ => true

section
variable (S : Schema) (cv : Conv) (esc : Str → Str) (domB : Kind → Bool → Val → Bool) (X : List Str)

def writtenRead (c : Cls) (a : Attr) (n : Node) : Bool :=
  match toEtree S cv n with
  | .ok t =>
    t.children.any (fun ch => decide (ch.tag = wireTag c a)) &&
      (match fromEtree S cv (mapText esc t) with
       | .ok n' => nodeBeq n' n
       | .error _ => false)
  | .error _ => false

/-- where this holds, the round-trip theorem and `written_tag` give what `writtenRead` evaluates -/
def validTagged (ci : Nat) (c : Cls) (a : Attr) (n : Node) : Bool :=
  decide (n.cls? = some ci) && tagB S c a && validB S cv esc domB X n

/-- the obligation for one (class, child) pair; writer and reader are run only on an instance the validity test
    does not cover: the kernel evaluates `||` from the left -/
def pairOk (fuel ci : Nat) (c : Cls) (a : Attr) : Bool :=
  match mkWith S fuel ci a with
  | none => false
  | some d =>
    match build S cv d with
    | .ok n => holds a n && (validTagged S cv esc domB X ci c a n || writtenRead S cv esc c a n)
    | .error _ => false

def clsPairsOk (fuel ci : Nat) : Bool :=
  match S.cls? ci with
  | some c => c.abstract || !c.exported || (c.spec.filter supported).all (pairOk S cv esc domB X fuel ci c)
  | none => true

def rangeOk (fuel lo n : Nat) : Bool := (List.range' lo n).all (clsPairsOk S cv esc domB X fuel)

end

end Ofx.Agg

namespace Ofx.Gen

/-- classes for which the round-trip premises fail: the recorded known finding (list block interleaved), and
    the abstract base class `ElementList` itself, which declares no list element (it has no instances) -/
def roundTripExceptions : List Str :=
  [['T','A','X','1','0','9','9','I','N','T','_','V','1','0','0'],
   ['E','l','e','m','e','n','t','L','i','s','t']]

end Ofx.Gen
