/-
Lemmas about the shared-state model (`OfxModel/Ofx/Registry.lean`): the invariant "every handler that `dispatch` can
return is observationally the one the import-time table returns", its preservation by each atomic action and by the
thread machine, and soundness of the decidable check `inertB`.
-/
import OfxModel.Ofx.Registry
import OfxModel.Spec.Purity
import OfxProofs.Lemmas.Assoc
import OfxProofs.Lemmas.PyM

namespace Ofx.Registry
open Ofx Ofx.Cal Ofx.DateTime Ofx.Spec.Purity

theorem Dict.lookup_set_eq (d : Dict) (k : Ty) (v : Handler) : (d.set k v).lookup k = some v := by
  simp [Dict.set]

theorem lookup_filter_ne (d : Dict) (k t : Ty) (h : t ≠ k) :
    (d.filter (fun e => e.1 ≠ k)).lookup t = d.lookup t := by
  induction d with
  | nil => rfl
  | cons e r ih =>
    obtain ⟨a, b⟩ := e
    simp only [List.filter]
    split
    · simp only [List.lookup]
      split
      · rfl
      · exact ih
    · rename_i hd
      have hak : a = k := by simpa using hd
      subst hak
      have hta : (t == a) = false := by simpa using h
      simp only [List.lookup, hta]
      exact ih

theorem Dict.lookup_set_ne (d : Dict) (k t : Ty) (v : Handler) (h : t ≠ k) :
    (d.set k v).lookup t = d.lookup t := by
  have hk : (t == k) = false := by simpa using h
  simp only [Dict.set, List.lookup, hk]
  exact lookup_filter_ne d k t h

theorem Dict.mem_set {d : Dict} {k : Ty} {v : Handler} {e : Ty × Handler} (h : e ∈ d.set k v) :
    e = (k, v) ∨ e ∈ d := by
  simp only [Dict.set, List.mem_cons, List.mem_filter] at h
  rcases h with h | h
  · exact .inl h
  · exact .inr h.1

theorem Dict.mem_pop {d d' : Dict} {e : Ty × Handler} (hp : d.pop = some d') (h : e ∈ d') : e ∈ d := by
  cases d with
  | nil => simp [Dict.pop] at hp
  | cons a r =>
    simp [Dict.pop] at hp; subst hp
    exact List.mem_cons_of_mem _ h

theorem findIn_set_of_notin (reg : Dict) (dflt : Handler) (k : Ty) (v : Handler) (ts : List Ty) (h : k ∉ ts) :
    findIn (reg.set k v) dflt ts = findIn reg dflt ts := by
  induction ts with
  | nil => rfl
  | cons t r ih =>
    have ht : t ≠ k := fun e => h (by simp [e])
    have hr : k ∉ r := fun e => h (by simp [e])
    simp only [findIn, Dict.lookup_set_ne reg k t v ht, ih hr]

theorem init_dt_find (t : Ty) :
    init.dt.findImpl t = (match t with
      | .datetime => ⟨.dtDatetime, none⟩ | .none => ⟨.dtNone, none⟩ | _ => ⟨.dtDefault, none⟩) := by
  cases t <;> rfl

theorem init_tm_find (t : Ty) :
    init.tm.findImpl t = (match t with
      | .time => ⟨.tmTime, none⟩ | .none => ⟨.tmNone, none⟩ | _ => ⟨.tmDefault, none⟩) := by
  cases t <;> rfl

theorem init_dt_call (obj : ConvInst) (v : Val) :
    (init.dt.findImpl (tyOf v)).call obj v = dtUnconvert obj.required v := by
  cases v with
  | other k => by_cases hk : k = "date" <;> simp only [tyOf, hk, ↓reduceIte, init_dt_find, Handler.call, Fn.run, dtUnconvert]
  | _ => simp only [tyOf, init_dt_find, Handler.call, Fn.run, dtUnconvert]

theorem init_tm_call (obj : ConvInst) (v : Val) :
    (init.tm.findImpl (tyOf v)).call obj v = tmUnconvert obj.required v := by
  cases v with
  | other k => by_cases hk : k = "date" <;> simp only [tyOf, hk, ↓reduceIte, init_tm_find, Handler.call, Fn.run, tmUnconvert]
  | _ => simp only [tyOf, init_tm_find, Handler.call, Fn.run, tmUnconvert]

/-- `self._unconvert_datetime`, bound to whichever instance, behaves as the plain function -/
theorem boundHandler_eq (self : ConvInst) : HandlerEq .datetime (boundHandler self) (init.dt.findImpl .datetime) := by
  intro obj v _
  rfl

/-- `h` may stand for class `t` in the generic function whose import-time state is `d₀` -/
def Good (d₀ : Disp) (t : Ty) (h : Handler) : Prop := HandlerEq t h (d₀.findImpl t)

/-- every handler reachable through `d` is good.  The cache gets a field of its own because a thread stores into it a
    handler it read earlier (`Pc.cacheStore`), so it must accept any `Good` handler; `Good` refers to the import-time
    table, not to the current one — that is what makes interleavings harmless. -/
structure DispInv (d₀ d : Disp) : Prop where
  find : ∀ t, Good d₀ t (d.findImpl t)
  cache : ∀ e ∈ d.cache, Good d₀ e.1 e.2

def Inv (R : Registry) : Prop := DispInv init.dt R.dt ∧ DispInv init.tm R.tm

theorem DispInv.refl (d₀ : Disp) (h : d₀.cache = []) : DispInv d₀ d₀ :=
  ⟨fun _ _ _ _ => rfl, by simp [h]⟩

theorem inv_init : Inv init := ⟨DispInv.refl _ rfl, DispInv.refl _ rfl⟩

theorem DispInv.dispatch {d₀ d : Disp} (hd : DispInv d₀ d) (t : Ty) : Good d₀ t (d.dispatch t) := by
  unfold Disp.dispatch
  split
  · rename_i h hl
    exact hd.cache _ (List.mem_of_lookup hl)
  · exact hd.find t

theorem DispInv.cacheSet {d₀ d : Disp} (hd : DispInv d₀ d) (t : Ty) (h : Handler) (hg : Good d₀ t h) :
    DispInv d₀ (d.cacheSet t h) :=
  ⟨hd.find, fun e he => by
    rcases Dict.mem_set he with rfl | he
    · exact hg
    · exact hd.cache e he⟩

theorem DispInv.cachePop {d₀ d d' : Disp} (hd : DispInv d₀ d) (hp : d.cachePop = some d') : DispInv d₀ d' := by
  unfold Disp.cachePop at hp
  cases hc : d.cache.pop with
  | none => simp [hc] at hp
  | some c =>
    simp [hc] at hp; subst hp
    exact ⟨hd.find, fun e he => hd.cache e (Dict.mem_pop hc he)⟩

theorem DispInv.clearCache {d₀ d : Disp} (hd : DispInv d₀ d) : DispInv d₀ d.clearCache :=
  ⟨hd.find, by simp [Disp.clearCache]⟩

/-- the one run-time write to a registry: `registry[datetime.datetime] = self._unconvert_datetime` -/
theorem DispInv.regSet_datetime {d : Disp} (hd : DispInv init.dt d) (self : ConvInst) :
    DispInv init.dt (d.regSet .datetime (boundHandler self)) := by
  refine ⟨fun t => ?_, hd.cache⟩
  by_cases ht : t = .datetime
  · subst ht
    have : (d.regSet .datetime (boundHandler self)).findImpl .datetime = boundHandler self := by
      simp [Disp.findImpl, Disp.regSet, Ty.mro, findIn, Dict.lookup_set_eq]
    rw [this]
    exact boundHandler_eq self
  · have hn : Ty.datetime ∉ t.mro := by cases t <;> simp [Ty.mro] at ht ⊢
    have : (d.regSet .datetime (boundHandler self)).findImpl t = d.findImpl t := by
      simp only [Disp.findImpl, Disp.regSet]
      exact findIn_set_of_notin _ _ _ _ _ hn
    rw [this]
    exact hd.find t

theorem DispInv.dispatchStep {d₀ d : Disp} (hd : DispInv d₀ d) (t : Ty) :
    DispInv d₀ (d.dispatchStep t).1 ∧ Good d₀ t (d.dispatchStep t).2 := by
  unfold Disp.dispatchStep
  split
  · rename_i h hl
    exact ⟨hd, hd.cache _ (List.mem_of_lookup hl)⟩
  · exact ⟨hd.cacheSet t _ (hd.find t), hd.find t⟩

theorem Inv.disp {R : Registry} (hR : Inv R) (obj : ConvInst) : DispInv (init.disp obj) (R.disp obj) := by
  unfold Registry.disp
  split
  · exact hR.2
  · exact hR.1

theorem Inv.setDisp {R : Registry} (hR : Inv R) (obj : ConvInst) {d : Disp} (hd : DispInv (init.disp obj) d) :
    Inv (R.setDisp obj d) := by
  unfold Registry.setDisp
  unfold Registry.disp at hd
  split
  · rename_i h; simp only [h, if_true] at hd; exact ⟨hR.1, hd⟩
  · rename_i h; simp only [h] at hd; exact ⟨hd, hR.2⟩

theorem good_call {obj : ConvInst} {v : Val} {h : Handler} (hg : Good (init.disp obj) (tyOf v) h) :
    h.call obj v = unconvRes obj v := by
  rw [hg obj v rfl]
  unfold Registry.disp unconvRes
  split
  · exact init_tm_call obj v
  · exact init_dt_call obj v

theorem Inv.unconvert {R : Registry} (hR : Inv R) (obj : ConvInst) (v : Val) :
    R.unconvert obj v = unconvRes obj v :=
  good_call ((hR.disp obj).dispatch (tyOf v))

theorem Inv.obsEq {R : Registry} (hR : Inv R) : R ≈ init := fun obj v => by
  rw [hR.unconvert, inv_init.unconvert]

theorem stepOp_inv (tzs : List (Str × Int)) {R : Registry} (hR : Inv R) (op : Op) : Inv (stepOp tzs R op).1 := by
  cases op with
  | convert obj v =>
    simp only [stepOp]
    split
    · exact ⟨(hR.1.regSet_datetime obj).clearCache, hR.2⟩
    · exact hR
  | unconvert obj v => exact hR.setDisp obj ((hR.disp obj).dispatchStep (tyOf v)).1
  | setAttr o n v => exact hR
  | getAttr o n => exact hR

theorem runOps_inv (tzs : List (Str × Int)) {R : Registry} (hR : Inv R) (ops : List Op) : Inv (runOps tzs R ops).1 := by
  induction ops generalizing R with
  | nil => exact hR
  | cons op ops ih => exact ih (stepOp_inv tzs hR op)

theorem stepOp_pure (tzs : List (Str × Int)) {R : Registry} (hR : Inv R) {op : Op} {r : PyM Val}
    (hp : pureOp tzs op = some r) : (stepOp tzs R op).2 = r := by
  cases op with
  | convert obj v =>
    simp only [pureOp, Option.some.injEq] at hp; subst hp
    simp only [stepOp]; split <;> rfl
  | unconvert obj v =>
    simp only [pureOp, Option.some.injEq] at hp; subst hp
    exact good_call ((hR.disp obj).dispatchStep (tyOf v)).2
  | setAttr o n v => simp only [pureOp, Option.some.injEq] at hp; subst hp; rfl
  | getAttr o n => simp [pureOp] at hp

theorem runOps_append (tzs : List (Str × Int)) (R : Registry) (a b : List Op) :
    runOps tzs R (a ++ b) =
      ((runOps tzs (runOps tzs R a).1 b).1, (runOps tzs R a).2 ++ (runOps tzs (runOps tzs R a).1 b).2) := by
  induction a generalizing R with
  | nil => rfl
  | cons op a ih => simp only [List.cons_append, runOps, ih]

theorem runOps_snoc (tzs : List (Str × Int)) (R : Registry) (a : List Op) (op : Op) :
    runOps tzs R (a ++ [op]) =
      ((stepOp tzs (runOps tzs R a).1 op).1, (runOps tzs R a).2 ++ [(stepOp tzs (runOps tzs R a).1 op).2]) := by
  rw [runOps_append]; rfl

theorem Registry.setDisp_heap (R : Registry) (obj : ConvInst) (d : Disp) : (R.setDisp obj d).heap = R.heap := by
  unfold Registry.setDisp; split <;> rfl

theorem stepOp_heap (tzs : List (Str × Int)) (R : Registry) (op : Op) :
    (stepOp tzs R op).1.heap = (match op with | .setAttr o n v => R.heap.put o n v | _ => R.heap) := by
  cases op with
  | convert obj v => simp only [stepOp]; split <;> rfl
  | unconvert obj v => exact R.setDisp_heap obj _
  | setAttr o n v => rfl
  | getAttr o n => rfl

theorem Heap.get_put (h : Heap) (o o' : Nat) (n n' : Str) (v : Val) :
    (h.put o n v).get o' n' = if (o', n') = (o, n) then some v else h.get o' n' := by
  by_cases e : (o', n') = (o, n)
  · simp [Heap.put, Heap.get, e]
  · have : ((o', n') == (o, n)) = false := by simpa using e
    simp [Heap.put, Heap.get, List.lookup, this, e]

theorem Heap.get_put_other (h : Heap) (o o' : Nat) (n n' : Str) (v : Val) (hne : (o', n') ≠ (o, n)) :
    (h.put o n v).get o' n' = h.get o' n' := by
  rw [Heap.get_put, if_neg hne]

theorem runOps_congr (tzs : List (Str × Int)) {R₁ R₂ : Registry} (h₁ : Inv R₁) (h₂ : Inv R₂) (p : List Op)
    (hh : ∀ o n, touches p o → R₁.heap.get o n = R₂.heap.get o n) :
    (runOps tzs R₁ p).2 = (runOps tzs R₂ p).2 := by
  induction p generalizing R₁ R₂ with
  | nil => rfl
  | cons op p ih =>
    simp only [runOps]
    have hout : (stepOp tzs R₁ op).2 = (stepOp tzs R₂ op).2 := by
      cases hp : pureOp tzs op with
      | some r => rw [stepOp_pure tzs h₁ hp, stepOp_pure tzs h₂ hp]
      | none =>
        cases op with
        | getAttr o n =>
          have : touches (.getAttr o n :: p) o := ⟨.getAttr o n, by simp, rfl⟩
          simp only [stepOp, Heap.read, hh o n this]
        | _ => simp [pureOp] at hp
    have hheap : ∀ o n, touches p o → (stepOp tzs R₁ op).1.heap.get o n = (stepOp tzs R₂ op).1.heap.get o n := by
      intro o n ht
      have ht' : touches (op :: p) o := by
        obtain ⟨op', hm, ho⟩ := ht
        exact ⟨op', List.mem_cons_of_mem _ hm, ho⟩
      rw [stepOp_heap, stepOp_heap]
      cases op with
      | setAttr o' n' v =>
        simp only [Heap.get_put, hh o n ht']
      | _ => exact hh o n ht'
    rw [hout, ih (stepOp_inv tzs h₁ op) (stepOp_inv tzs h₂ op) hheap]

/-! `inertB`: the harness evaluates a Python counterpart of it (`inert_problems` in harness/corr/C17.py) on the real
tables -/

theorem Fn.selfFree_run {f : Fn} (h : Fn.selfFree f = true) (s₁ s₂ : ConvInst) (v : Val) :
    f.run s₁ v = f.run s₂ v := by
  cases f <;> first | rfl | simp [Fn.selfFree] at h

theorem handlerEq_of_fn {t : Ty} {h h₀ : Handler} (hf : h.fn = h₀.fn) (hb₀ : h₀.bound = none)
    (hb : h.bound = none ∨ Fn.selfFree h.fn = true) : HandlerEq t h h₀ := by
  intro obj v _
  obtain ⟨f, b⟩ := h
  obtain ⟨f₀, b₀⟩ := h₀
  simp only at hf hb₀ hb; subst hf; subst hb₀
  cases b with
  | none => rfl
  | some s =>
    rcases hb with hb | hb
    · cases hb
    · exact Fn.selfFree_run hb s obj v

theorem sameKeys_lookup {d₀ d : Dict} (h : sameKeys d₀ d = true) (k : Ty) :
    (d.lookup k).isSome = (d₀.lookup k).isSome := by
  simp only [sameKeys, Bool.and_eq_true, List.all_eq_true, List.lookup_isSome_iff, beq_iff_eq] at h
  rw [Bool.eq_iff_iff]
  simp only [List.lookup_isSome_iff, beq_iff_eq]
  exact ⟨fun ⟨e, he, hk⟩ => hk ▸ h.2 e he, fun ⟨e, he, hk⟩ => hk ▸ h.1 e he⟩

theorem Ty.mro_head (c : Ty) : ∃ r, c.mro = c :: r := by cases c <;> exact ⟨_, rfl⟩

theorem findIn_eq (reg : Dict) (dflt : Handler) (ts : List Ty) :
    findIn reg dflt ts = match ts.find? (fun t => (reg.lookup t).isSome) with
      | some c => (reg.lookup c).getD dflt
      | none => dflt := by
  induction ts with
  | nil => rfl
  | cons t r ih => cases h : reg.lookup t <;> simp [findIn, h, ih]

theorem findImpl_self (d : Disp) (c : Ty) (h : Handler) (hl : d.registry.lookup c = some h) : d.findImpl c = h := by
  obtain ⟨r, hr⟩ := Ty.mro_head c
  simp [Disp.findImpl, hr, findIn, hl]

theorem dispOk_inv {d₀ d : Disp} (h0 : ∀ t, (d₀.findImpl t).bound = none) (h : dispOk d₀ d = true) : DispInv d₀ d := by
  simp only [dispOk, Bool.and_eq_true, beq_iff_eq] at h
  obtain ⟨⟨⟨hdf, hkeys⟩, hreg⟩, hcache⟩ := h
  have ok_good : ∀ t c hd, handlerOk d₀ c hd = true → d₀.findImpl t = d₀.findImpl c → Good d₀ t hd := by
    intro t c hd hok ht
    simp only [handlerOk, Bool.and_eq_true, beq_iff_eq, Bool.or_eq_true, Option.isNone_iff_eq_none] at hok
    unfold Good; rw [ht]
    exact handlerEq_of_fn hok.1 (h0 c) hok.2
  refine ⟨fun t => ?_, fun e he => ok_good _ _ _ (List.all_eq_true.mp hcache e he) rfl⟩
  -- same keys: the walks along the MRO in `d` and in `d₀` stop at the same class `c`
  have hk : (fun t => (d.registry.lookup t).isSome) = fun t => (d₀.registry.lookup t).isSome :=
    funext (sameKeys_lookup hkeys)
  have e₀ : d₀.findImpl t = _ := findIn_eq d₀.registry d₀.dflt t.mro
  have e : d.findImpl t = _ := findIn_eq d.registry d.dflt t.mro
  rw [hk, hdf] at e
  cases hc : t.mro.find? (fun t => (d₀.registry.lookup t).isSome) with
  | none =>
    rw [hc] at e e₀
    exact e ▸ e₀ ▸ fun _ _ _ => rfl
  | some c =>
    have hs : (d₀.registry.lookup c).isSome = true := List.find?_some (p := fun t => (d₀.registry.lookup t).isSome) hc
    obtain ⟨h₀, hl₀⟩ := Option.isSome_iff_exists.mp hs
    obtain ⟨hd, hl⟩ := Option.isSome_iff_exists.mp ((congrFun hk c).trans hs)
    simp only [hc, hl, hl₀, Option.getD_some] at e e₀
    exact e ▸ ok_good t c hd (List.all_eq_true.mp hreg (c, hd) (List.mem_of_lookup hl)) (e₀.trans (findImpl_self d₀ c h₀ hl₀).symm)

theorem inertB_inv {R : Registry} (h : inertB R = true) : Inv R := by
  simp only [inertB, Bool.and_eq_true] at h
  exact ⟨dispOk_inv (fun t => by rw [init_dt_find]; cases t <;> rfl) h.1,
         dispOk_inv (fun t => by rw [init_tm_find]; cases t <;> rfl) h.2⟩

/-- every text that `DateTime._convert_str` accepts has passed through `normalize_to_gmt`, i.e. has re-registered the
    handler (the converse fails only for texts that overflow the calendar after registering) -/
theorem dtRegisters_of_ok (tzs : List (Str × Int)) (s : Str) (v : Val) (h : dtConvertStr tzs s = .ok v) :
    dtRegisters tzs s = true := by
  unfold dtConvertStr at h
  unfold dtRegisters
  cases hg : dtRegex s with
  | none => simp [hg] at h
  | some g =>
    simp only [hg, PyM.ok_bind, PyM.pure_eq] at h ⊢
    obtain ⟨_, h1, h⟩ := PyM.bind_ok h
    obtain ⟨y, h2, h⟩ := PyM.bind_ok h
    obtain ⟨mo, h3, h⟩ := PyM.bind_ok h
    obtain ⟨d, h4, h⟩ := PyM.bind_ok h
    obtain ⟨hh, h5, h⟩ := PyM.bind_ok h
    obtain ⟨mi, h6, h⟩ := PyM.bind_ok h
    obtain ⟨sec, h7, h⟩ := PyM.bind_ok h
    obtain ⟨ms, h8, h⟩ := PyM.bind_ok h
    simp only [h1, h2, h3, h4, h5, h6, h7, h8]
    split at h
    · simp at h
    · rename_i hv
      simpa using hv

/-- the operation in flight that a program counter stands for, and what it has established so far -/
def PcMatch (tzs : List (Str × Int)) : Pc → List Op → Prop
  | .idle, cur => cur = []
  | .regWrite obj res, cur => ∃ v, cur = [.convert obj v] ∧ res = convRes tzs obj v
  | .clearing res, cur => ∃ obj v, cur = [.convert obj v] ∧ res = convRes tzs obj v
  | .cacheLookup obj v, cur => cur = [.unconvert obj v]
  | .regLookup obj v, cur => cur = [.unconvert obj v]
  | .cacheStore obj v h, cur => cur = [.unconvert obj v] ∧ Good (init.disp obj) (tyOf v) h

theorem pcMatch_length {tzs : List (Str × Int)} {pc : Pc} {cur : List Op} (h : PcMatch tzs pc cur) : cur.length ≤ 1 := by
  cases pc with
  | idle => simp only [PcMatch] at h; simp [h]
  | regWrite obj res => obtain ⟨v, hc, _⟩ := h; simp [hc]
  | clearing res => obtain ⟨obj, v, hc, _⟩ := h; simp [hc]
  | cacheLookup obj v => simp only [PcMatch] at h; simp [h]
  | regLookup obj v => simp only [PcMatch] at h; simp [h]
  | cacheStore obj v hd => obtain ⟨hc, _⟩ := h; simp [hc]

/-- thread invariant w.r.t. its initial program `p0` and the current shared heap `H`: the results returned so
    far are those of running the completed prefix alone from the import state, and the instances this thread
    touches look as they would after that run -/
def TInv (tzs : List (Str × Int)) (H : Heap) (p0 : List Op) (T : Thread) : Prop :=
  ∃ done cur, p0 = done ++ cur ++ T.prog ∧ PcMatch tzs T.pc cur ∧ T.out = (runOps tzs init done).2 ∧
    ∀ o n, touches p0 o → H.get o n = (runOps tzs init done).1.heap.get o n

theorem TInv.heap_frame {tzs : List (Str × Int)} {H H' : Heap} {p0 : List Op} {T : Thread}
    (hT : TInv tzs H p0 T) (h : ∀ o n, touches p0 o → H'.get o n = H.get o n) : TInv tzs H' p0 T := by
  obtain ⟨done, cur, h1, h2, h3, h4⟩ := hT
  exact ⟨done, cur, h1, h2, h3, fun o n ht => (h o n ht).trans (h4 o n ht)⟩

theorem tinv_complete {tzs : List (Str × Int)} {H H' : Heap} {p0 done rest : List Op} {op : Op} {out : List (PyM Val)}
    {r : PyM Val} (hp : p0 = done ++ [op] ++ rest) (hout : out = (runOps tzs init done).2)
    (hr : (stepOp tzs (runOps tzs init done).1 op).2 = r)
    (hheap : ∀ o n, touches p0 o → H.get o n = (runOps tzs init done).1.heap.get o n)
    (hH : H' = match op with | .setAttr o n v => H.put o n v | _ => H) :
    TInv tzs H' p0 { prog := rest, pc := .idle, out := out ++ [r] } := by
  refine ⟨done ++ [op], [], by simp [hp], rfl, ?_, ?_⟩
  · simp only [runOps_snoc, hout, hr]
  · intro o n ht
    rw [runOps_snoc, stepOp_heap, hH]
    cases op <;> simp only [Heap.get_put, hheap o n ht]

theorem Thread.step_inv (tzs : List (Str × Int)) {R : Registry} (hR : Inv R) {p0 : List Op} {T : Thread}
    (hT : TInv tzs R.heap p0 T) :
    Inv (T.step tzs R).1 ∧ TInv tzs (T.step tzs R).1.heap p0 (T.step tzs R).2 ∧
    ((T.step tzs R).1.heap = R.heap ∨ ∃ o n v, writes p0 o ∧ (T.step tzs R).1.heap = R.heap.put o n v) := by
  obtain ⟨prog, pc, out⟩ := T
  obtain ⟨done, cur, hp, hpc, hout, hheap⟩ := hT
  simp only at hp hpc hout
  have hRd : Inv (runOps tzs init done).1 := runOps_inv tzs inv_init done
  cases pc with
  | idle =>
    simp only [PcMatch] at hpc; subst hpc
    simp only [List.append_nil] at hp
    cases prog with
    | nil =>
      simp only [Thread.step]
      exact ⟨hR, ⟨done, [], by simp [hp], rfl, hout, hheap⟩, .inl trivial⟩
    | cons op rest =>
      have hp' : p0 = done ++ [op] ++ rest := by simp [hp]
      cases op with
      | convert obj v =>
        simp only [Thread.step]
        split
        · exact ⟨hR, ⟨done, [.convert obj v], hp', ⟨v, rfl, rfl⟩, hout, hheap⟩, .inl rfl⟩
        · exact ⟨hR, tinv_complete hp' hout (stepOp_pure tzs hRd rfl) hheap rfl, .inl rfl⟩
      | unconvert obj v =>
        exact ⟨hR, ⟨done, [.unconvert obj v], hp', rfl, hout, hheap⟩, .inl rfl⟩
      | setAttr o n v =>
        simp only [Thread.step]
        exact ⟨hR, tinv_complete hp' hout rfl hheap rfl, .inr ⟨o, n, v, ⟨.setAttr o n v, by simp [hp], rfl⟩, rfl⟩⟩
      | getAttr o n =>
        simp only [Thread.step]
        refine ⟨hR, tinv_complete hp' hout ?_ hheap rfl, .inl trivial⟩
        have : touches p0 o := ⟨.getAttr o n, by simp [hp], rfl⟩
        simp only [stepOp, Heap.read, hheap o n this]
  | regWrite obj res =>
    obtain ⟨v, hc, hres⟩ := hpc
    exact ⟨⟨hR.1.regSet_datetime obj, hR.2⟩, ⟨done, cur, hp, ⟨obj, v, hc, hres⟩, hout, hheap⟩, .inl rfl⟩
  | clearing res =>
    obtain ⟨obj, v, hc, hres⟩ := hpc
    subst hc
    simp only [Thread.step]
    split
    · rename_i d hd
      exact ⟨⟨hR.1.cachePop hd, hR.2⟩, ⟨done, _, hp, ⟨obj, v, rfl, hres⟩, hout, hheap⟩, .inl rfl⟩
    · exact ⟨hR, tinv_complete hp hout (hres ▸ stepOp_pure tzs hRd rfl) hheap rfl, .inl rfl⟩
  | cacheLookup obj v =>
    simp only [PcMatch] at hpc; subst hpc
    simp only [Thread.step]
    split
    · rename_i h hl
      have hg : Good (init.disp obj) (tyOf v) h := (hR.disp obj).cache _ (List.mem_of_lookup hl)
      exact ⟨hR, tinv_complete hp hout ((stepOp_pure tzs hRd rfl).trans (good_call hg).symm) hheap rfl, .inl rfl⟩
    · exact ⟨hR, ⟨done, _, hp, rfl, hout, hheap⟩, .inl rfl⟩
  | regLookup obj v =>
    simp only [PcMatch] at hpc; subst hpc
    exact ⟨hR, ⟨done, _, hp, ⟨rfl, (hR.disp obj).find _⟩, hout, hheap⟩, .inl rfl⟩
  | cacheStore obj v h =>
    obtain ⟨hc, hg⟩ := hpc
    subst hc
    simp only [Thread.step]
    exact ⟨hR.setDisp obj ((hR.disp obj).cacheSet _ _ hg),
      tinv_complete hp hout ((stepOp_pure tzs hRd rfl).trans (good_call hg).symm) hheap (R.setDisp_heap obj _),
      .inl (R.setDisp_heap obj _)⟩

structure SysInv (tzs : List (Str × Int)) (progs : List (List Op)) (S : Sys) : Prop where
  reg : Inv S.reg
  len : S.threads.length = progs.length
  thr : ∀ (i : Nat) (T : Thread) (p : List Op), S.threads[i]? = some T → progs[i]? = some p → TInv tzs S.reg.heap p T

theorem SysInv.start (tzs : List (Str × Int)) (progs : List (List Op)) : SysInv tzs progs (Sys.start init progs) := by
  refine ⟨inv_init, by simp [Sys.start], ?_⟩
  intro i T p hT hp
  simp only [Sys.start, List.getElem?_map, hp, Option.map_some, Option.some.injEq] at hT
  subst hT
  exact ⟨[], [], by simp, rfl, rfl, fun _ _ _ => rfl⟩

theorem SysInv.step {tzs : List (Str × Int)} {progs : List (List Op)} (hd : DisjointInstances progs) {S : Sys}
    (hS : SysInv tzs progs S) (i : Nat) : SysInv tzs progs (S.step tzs i) := by
  unfold Sys.step
  cases hTi : S.threads[i]? with
  | none => exact hS
  | some T =>
    have hi : i < S.threads.length := by
      rcases Nat.lt_or_ge i S.threads.length with h | h
      · exact h
      · simp [List.getElem?_eq_none h] at hTi
    have hip : i < progs.length := hS.len ▸ hi
    have hpi : progs[i]? = some progs[i] := List.getElem?_eq_getElem hip
    obtain ⟨hR', hT', hheap⟩ := Thread.step_inv tzs hS.reg (hS.thr i T _ hTi hpi)
    refine ⟨hR', by simp [hS.len], ?_⟩
    intro j Tj p hj hpj
    by_cases hij : i = j
    · subst hij
      simp only [List.getElem?_set_self hi, Option.some.injEq] at hj
      subst hj
      rw [hpi] at hpj; cases hpj
      exact hT'
    · simp only [List.getElem?_set_ne hij] at hj
      refine (hS.thr j Tj p hj hpj).heap_frame ?_
      intro o n ht
      rcases hheap with h | ⟨o', n', v, hw, h⟩
      · simp only [h]
      · simp only [h]
        have hne : o ≠ o' := fun e => hd i j _ p hij hpi hpj o' hw (e ▸ ht)
        exact Heap.get_put_other _ _ _ _ _ _ (fun e => hne (Prod.mk.inj e).1)

theorem SysInv.run {tzs : List (Str × Int)} {progs : List (List Op)} (hd : DisjointInstances progs) {S : Sys}
    (hS : SysInv tzs progs S) (sched : List Nat) : SysInv tzs progs (S.run tzs sched) := by
  induction sched generalizing S with
  | nil => exact hS
  | cons i sched ih => exact ih (hS.step hd i)

end Ofx.Registry
