/-
What a public call puts on the wire, by the path taken through `step` (`step_cases`; the C14 theorems read it as
`step_origin`), and the cookie invariant of a system of client instances: `JC` explains each jar by the trace so far,
`EvOK` is what C14 asks of one request, and one POST keeps the first and establishes the second (`post_step`).
-/
import OfxProofs.Lemmas.Cache
import OfxProofs.Lemmas.List
import OfxModel.Ofx.ClientSM

namespace Ofx.ClientSM
open Ofx Ofx.Cache

theorem mem_jarFor {jar : List Cookie} {h n v : Nat} : (n, v) ∈ jarFor jar h ↔ ⟨h, n, v⟩ ∈ jar := by
  simp only [jarFor, List.mem_map, List.mem_filter, decide_eq_true_eq]
  constructor
  · rintro ⟨c, ⟨hc, hh⟩, he⟩
    cases c; simp at he hh; obtain ⟨rfl, rfl⟩ := he; subst hh; exact hc
  · intro hc; exact ⟨⟨h, n, v⟩, ⟨hc, rfl⟩, rfl⟩

theorem mem_jarSet {jar : List Cookie} {c x : Cookie} :
    x ∈ jarSet jar c ↔ (x ∈ jar ∧ ¬ (x.host = c.host ∧ x.name = c.name)) ∨ x = c := by
  simp only [jarSet, List.mem_append, List.mem_filter, List.mem_singleton, decide_eq_true_eq]

theorem jarSet_keeps {jar : List Cookie} {c : Cookie} {h n : Nat} (hx : ∃ v, ⟨h, n, v⟩ ∈ jar) :
    ∃ v, ⟨h, n, v⟩ ∈ jarSet jar c := by
  obtain ⟨v, hv⟩ := hx
  by_cases hs : h = c.host ∧ n = c.name
  · obtain ⟨rfl, rfl⟩ := hs
    exact ⟨c.value, mem_jarSet.mpr (.inr rfl)⟩
  · exact ⟨v, mem_jarSet.mpr (.inl ⟨hv, hs⟩)⟩

theorem mem_jarExtract {jar : List Cookie} {h : Nat} {set : List (Nat × Nat)} {x : Cookie}
    (hx : x ∈ jarExtract jar h set) : x ∈ jar ∨ ∃ nv ∈ set, x = ⟨h, nv.1, nv.2⟩ := by
  induction set generalizing jar with
  | nil => exact .inl hx
  | cons nv rest ih =>
    simp only [jarExtract, List.foldl_cons] at hx
    rcases ih hx with h1 | ⟨nv', hin, e⟩
    · rcases mem_jarSet.mp h1 with ⟨h2, _⟩ | e
      · exact .inl h2
      · exact .inr ⟨nv, List.mem_cons_self, e⟩
    · exact .inr ⟨nv', List.mem_cons_of_mem _ hin, e⟩

theorem jarExtract_keeps {jar : List Cookie} {h : Nat} {set : List (Nat × Nat)} {h0 n : Nat}
    (hx : ∃ v, ⟨h0, n, v⟩ ∈ jar) : ∃ v, ⟨h0, n, v⟩ ∈ jarExtract jar h set := by
  induction set generalizing jar with
  | nil => exact hx
  | cons nv rest ih =>
    simp only [jarExtract, List.foldl_cons]
    exact ih (jarSet_keeps hx)

theorem jarExtract_has {jar : List Cookie} {h : Nat} {set : List (Nat × Nat)} {nv : Nat × Nat}
    (hin : nv ∈ set) : ∃ v, ⟨h, nv.1, v⟩ ∈ jarExtract jar h set := by
  induction set generalizing jar with
  | nil => cases hin
  | cons nv0 rest ih =>
    simp only [jarExtract, List.foldl_cons]
    rcases List.mem_cons.mp hin with rfl | hr
    · exact jarExtract_keeps (jar := jarSet jar ⟨h, nv.1, nv.2⟩) ⟨nv.2, mem_jarSet.mpr (.inr rfl)⟩
    · exact ih hr

section mkReq
variable (st : ClientSt) (url : Url) (body : Body)

@[simp] theorem mkReq_method : (mkReq st url body).method = .POST := rfl
@[simp] theorem mkReq_url : (mkReq st url body).url = url := rfl
@[simp] theorem mkReq_headers : (mkReq st url body).headers = httpHeaders st.cfg := rfl
@[simp] theorem mkReq_body : (mkReq st url body).body = body := rfl
theorem mkReq_cookies :
    (mkReq st url body).cookies = if st.cfg.persistCookies then jarFor st.jar url.host else [] := rfl

@[simp] theorem mainBody_kind (op : Op) : (mainBody st op).kind = op.kind := rfl

end mkReq

theorem post_req (w : World) (clock who : Nat) (st : ClientSt) (url : Url) (body : Body) :
    (post w clock who st url body).ev.req = mkReq st url body := by
  by_cases hb : (w.net clock (mkReq st url body)).beh = .transportError <;> simp [post, hb]

theorem post_who (w : World) (clock who : Nat) (st : ClientSt) (url : Url) (body : Body) :
    (post w clock who st url body).ev.who = who := by
  by_cases hb : (w.net clock (mkReq st url body)).beh = .transportError <;> simp [post, hb]

theorem post_cfg (w : World) (clock who : Nat) (st : ClientSt) (url : Url) (body : Body) :
    (post w clock who st url body).st.cfg = st.cfg := by
  by_cases hb : (w.net clock (mkReq st url body)).beh = .transportError <;> simp [post, hb]

theorem jarAfter_nil (st : ClientSt) (host : Nat) : jarAfter st host [] = st.jar := by
  unfold jarAfter; split <;> rfl

/-- no response sets nothing, and a response that sets nothing leaves the jar as it is -/
theorem post_jar (w : World) (clock who : Nat) (st : ClientSt) (url : Url) (body : Body) :
    (post w clock who st url body).st.jar = jarAfter st url.host (post w clock who st url body).ev.set := by
  by_cases hb : (w.net clock (mkReq st url body)).beh = .transportError <;> simp [post, hb, jarAfter_nil]

/-- the PROFRQ `post` of `requestProfile` (its event, and the state after it), given what the cache holds -/
def profilePost (w : World) (clock who : Nat) (st : ClientSt) (h : Option Profile) : PostOut :=
  post w clock who st st.cfg.url (profileBody (h.map Profile.date))

theorem requestProfile_cases (w : World) (clock who : Nat) (fs : FS) (st : ClientSt) (dry : Bool) :
    let r := requestProfile w clock who fs st dry
    (r.evs = [] ∧ r.st = st ∧ ∀ p, r.res ≠ .ok (.prof p)) ∨
    (dry = false ∧ ∃ h, Cache.held (fs (cacheKey st.cfg.org st.cfg.fid)) = .ok h ∧
      r.evs = [(profilePost w clock who st h).ev] ∧ r.st = (profilePost w clock who st h).st) := by
  cases hh : Cache.held (fs (cacheKey st.cfg.org st.cfg.fid)) with
  | error e => left; simp [requestProfile, hh]
  | ok h =>
    cases dry with
    | true => left; simp [requestProfile, hh]
    | false =>
      right
      exact ⟨rfl, h, rfl, by simp [requestProfile, hh, profilePost], by simp [requestProfile, hh, profilePost]⟩

theorem requestProfile_cfg (w : World) (clock who : Nat) (fs : FS) (st : ClientSt) (dry : Bool) :
    (requestProfile w clock who fs st dry).st.cfg = st.cfg := by
  rcases requestProfile_cases w clock who fs st dry with ⟨_, h, _⟩ | ⟨_, h, _, _, hs⟩
  · rw [h]
  · rw [hs]; exact post_cfg ..

/-- What one public call does, by the path taken through `step`: nothing on the wire; the PROFRQ alone (a profile
    call, or a normal call that stops after `request_profile`); the main POST alone (`skip_profile`); or the PROFRQ
    followed by the main POST to the URL the obtained profile advertises. -/
theorem step_cases (w : World) (clock who : Nat) (fs : FS) (st : ClientSt) (op : Op) :
    let r := step w clock who fs st op
    (r.evs = [] ∧ r.st = st) ∨
    (∃ h, op.mode ≠ .dryrun ∧ Cache.held (fs (cacheKey st.cfg.org st.cfg.fid)) = .ok h ∧
      r.evs = [(profilePost w clock who st h).ev] ∧ r.st = (profilePost w clock who st h).st) ∨
    (op.kind ≠ .profile ∧ op.mode = .skipProfile ∧
      r.evs = [(post w clock who st st.cfg.url (mainBody st op)).ev] ∧
      r.st = (post w clock who st st.cfg.url (mainBody st op)).st) ∨
    (op.kind ≠ .profile ∧ op.mode = .normal ∧ ∃ h p url,
      Cache.held (fs (cacheKey st.cfg.org st.cfg.fid)) = .ok h ∧
      (requestProfile w clock who fs st false).res = .ok (.prof p) ∧ serviceUrl w p = .ok url ∧
      r.evs = [(profilePost w clock who st h).ev,
        (post w (clock + 1) who (profilePost w clock who st h).st url (mainBody (profilePost w clock who st h).st op)).ev] ∧
      r.st = (post w (clock + 1) who (profilePost w clock who st h).st url
        (mainBody (profilePost w clock who st h).st op)).st) := by
  unfold step
  split
  · rcases requestProfile_cases w clock who fs st (decide (op.mode = .dryrun)) with ⟨h0, hs, _⟩ | ⟨hd, h, hh, hevs, hs⟩
    · exact .inl ⟨h0, hs⟩
    · exact .inr (.inl ⟨h, of_decide_eq_false hd, hh, hevs, hs⟩)
  · rename_i hk
    split
    · exact .inl ⟨rfl, rfl⟩
    · rename_i hm
      exact .inr (.inr (.inl ⟨hk, hm, rfl, rfl⟩))
    · rename_i hm
      have hm' : op.mode ≠ .dryrun := by rw [hm]; decide
      simp only
      rcases requestProfile_cases w clock who fs st false with ⟨h0, hs, hnp⟩ | ⟨_, h, hh, hevs, hs⟩
      · -- no PROFRQ went out: `request_profile` failed before the POST, so there is no profile to go on with
        split
        · exact .inl ⟨h0, hs⟩
        · rename_i p hr
          exact absurd hr (hnp p)
        · exact .inl ⟨h0, hs⟩
      · split
        · exact .inr (.inl ⟨h, hm', hh, hevs, hs⟩)
        · rename_i p hr
          split
          · exact .inr (.inl ⟨h, hm', hh, hevs, hs⟩)
          · rename_i url hu
            refine .inr (.inr (.inr ⟨hk, hm, h, p, url, hh, hr, hu, ?_, ?_⟩))
            · simp only [postMain, hevs, hs, List.length_singleton, List.cons_append, List.nil_append]
            · simp only [postMain, hevs, hs, List.length_singleton]
        · exact .inr (.inl ⟨h, hm', hh, hevs, hs⟩)

/-- Where an event of one public call comes from: it is the PROFRQ of this call, or the one main POST of a non-profile
    request — to the configured URL under `skip_profile`, to the URL the obtained profile advertises otherwise. -/
inductive EvOrigin (w : World) (clock who : Nat) (fs : FS) (st : ClientSt) (op : Op) (e : Ev) : Prop
  | profile (h : Option Profile) (hmode : op.mode ≠ .dryrun)
      (he : e = (profilePost w clock who st h).ev)
      (hheld : Cache.held (fs (cacheKey st.cfg.org st.cfg.fid)) = .ok h)
  | skip (hk : op.kind ≠ .profile) (hmode : op.mode = .skipProfile)
      (he : e = (post w clock who st st.cfg.url (mainBody st op)).ev)
  | normal (hk : op.kind ≠ .profile) (hmode : op.mode = .normal) (p : Profile) (url : Url) (st' : ClientSt) (clock' : Nat)
      (hp : (requestProfile w clock who fs st false).res = .ok (.prof p))
      (hcfg : st'.cfg = st.cfg)
      (hu : serviceUrl w p = .ok url)
      (he : e = (post w clock' who st' url (mainBody st' op)).ev)

theorem step_origin (w : World) (clock who : Nat) (fs : FS) (st : ClientSt) (op : Op) (e : Ev)
    (he : e ∈ (step w clock who fs st op).evs) : EvOrigin w clock who fs st op e := by
  rcases step_cases w clock who fs st op with
    ⟨h0, _⟩ | ⟨h, hm, hh, hevs, _⟩ | ⟨hk, hm, hevs, _⟩ | ⟨hk, hm, h, p, url, hh, hp, hu, hevs, _⟩
  · rw [h0] at he; cases he
  · rw [hevs] at he
    exact .profile h hm (List.mem_singleton.mp he) hh
  · rw [hevs] at he
    exact .skip hk hm (List.mem_singleton.mp he)
  · rw [hevs, List.mem_cons, List.mem_singleton] at he
    rcases he with he | he
    · exact .profile h (by rw [hm]; decide) he hh
    · exact .normal hk hm p url _ _ hp (post_cfg ..) hu he

theorem serviceUrl_ok {w : World} {p : Profile} {u : Url} (h : serviceUrl w p = .ok u) :
    u ∈ w.adv p.body ∧ ∀ x ∈ w.adv p.body, x = u := by
  unfold serviceUrl at h
  split at h
  · cases h
  · rename_i u0 rest heq
    split at h
    · rename_i hall
      cases h
      rw [heq]
      refine ⟨List.mem_cons_self, ?_⟩
      intro x hx
      rcases List.mem_cons.mp hx with rfl | hr
      · rfl
      · simpa using List.all_eq_true.mp hall x hr
    · cases h

/-- The jar of client `who` is explained by the trace so far: (1) every cookie in it was set by a response to an
    earlier request of `who` at the cookie's host; (2) if the client keeps cookies, every cookie name a response
    to `who` set at some host is still in the jar for that host. -/
def JC (who : Nat) (st : ClientSt) (tr : List Ev) : Prop :=
  (∀ c ∈ st.jar, ∃ e0 ∈ tr, e0.who = who ∧ e0.req.url.host = c.host ∧ (c.name, c.value) ∈ e0.set) ∧
  (st.cfg.persistCookies = true → ∀ e0 ∈ tr, e0.who = who → ∀ nv ∈ e0.set,
      ∃ v', (⟨e0.req.url.host, nv.1, v'⟩ : Cookie) ∈ st.jar)

/-- What C14 demands of one request `e` given the requests `pre` before it: origin, which is `Spec.Client.originOk` as a
    proposition (`originOk_iff`, `mem_setBy`), and replay, which is `replayOk` (no such lemma). -/
def EvOK (persist : Nat → Bool) (pre : List Ev) (e : Ev) : Prop :=
  (∀ nv ∈ e.req.cookies, ∃ e0 ∈ pre, e0.who = e.who ∧ e0.req.url.host = e.req.url.host ∧ nv ∈ e0.set) ∧
  (persist e.who = true → ∀ e0 ∈ pre, e0.who = e.who → e0.req.url.host = e.req.url.host →
      ∀ nv ∈ e0.set, ∃ v', (nv.1, v') ∈ e.req.cookies)

def TraceOK (persist : Nat → Bool) (tr : List Ev) : Prop :=
  ∀ pre e post, tr = pre ++ e :: post → EvOK persist pre e

theorem traceOK_nil (persist : Nat → Bool) : TraceOK persist [] := by
  intro pre e post h; simp at h

theorem traceOK_snoc {persist : Nat → Bool} {tr : List Ev} {e : Ev}
    (ht : TraceOK persist tr) (he : EvOK persist tr e) : TraceOK persist (tr ++ [e]) := by
  intro pre x post h
  rcases List.snoc_split h with ⟨_, rfl, rfl⟩ | ⟨post', _, h2⟩
  · exact he
  · exact ht pre x post' h2

theorem JC_other {who : Nat} {st : ClientSt} {tr : List Ev} {e : Ev} (h : JC who st tr) (hw : e.who ≠ who) :
    JC who st (tr ++ [e]) := by
  obtain ⟨h1, h2⟩ := h
  refine ⟨?_, ?_⟩
  · intro c hc
    obtain ⟨e0, he0, r⟩ := h1 c hc
    exact ⟨e0, List.mem_append_left _ he0, r⟩
  · intro hp e0 he0 hw0 nv hnv
    rcases List.mem_append.mp he0 with hin | hin
    · exact h2 hp e0 hin hw0 nv hnv
    · simp at hin; subst hin; exact absurd hw0 hw

theorem post_step (w : World) (clock who : Nat) (st : ClientSt) (url : Url) (body : Body)
    (persist : Nat → Bool) (hp : persist who = st.cfg.persistCookies) (tr : List Ev) (h : JC who st tr) :
    JC who (post w clock who st url body).st (tr ++ [(post w clock who st url body).ev]) ∧
      EvOK persist tr (post w clock who st url body).ev := by
  obtain ⟨h1, h2⟩ := h
  have hreq := post_req w clock who st url body
  have hwho := post_who w clock who st url body
  have hcfg := post_cfg w clock who st url body
  have hjar := post_jar w clock who st url body
  generalize post w clock who st url body = o at *
  have hhost : o.ev.req.url.host = url.host := by rw [hreq, mkReq_url]
  refine ⟨⟨?_, ?_⟩, ⟨?_, ?_⟩⟩
  · intro c hc
    have hold : c ∈ st.jar → ∃ e0 ∈ tr ++ [o.ev], e0.who = who ∧ e0.req.url.host = c.host ∧ (c.name, c.value) ∈ e0.set := by
      intro hc'
      obtain ⟨e0, he0, r⟩ := h1 c hc'
      exact ⟨e0, List.mem_append_left _ he0, r⟩
    rw [hjar] at hc
    unfold jarAfter at hc
    split at hc
    · rcases mem_jarExtract hc with hc' | ⟨nv, hnv, rfl⟩
      · exact hold hc'
      · exact ⟨o.ev, by simp, hwho, hhost, hnv⟩
    · exact hold hc
  · intro hpc e0 he0 hw0 nv hnv
    rw [hcfg] at hpc
    rw [hjar, jarAfter, if_pos hpc]
    rcases List.mem_append.mp he0 with hin | hin
    · exact jarExtract_keeps (h2 hpc e0 hin hw0 nv hnv)
    · simp at hin; subst hin
      rw [hhost]; exact jarExtract_has hnv
  · intro nv hnv
    rw [hreq, mkReq_cookies] at hnv
    split at hnv
    · have hc : (⟨url.host, nv.1, nv.2⟩ : Cookie) ∈ st.jar := mem_jarFor.mp hnv
      obtain ⟨e0, he0, hw0, hh0, hs0⟩ := h1 _ hc
      exact ⟨e0, he0, by rw [hwho]; exact hw0, by rw [hhost]; exact hh0, hs0⟩
    · cases hnv
  · intro hpw e0 he0 hw0 hh0 nv hnv
    rw [hwho] at hpw hw0
    rw [hp] at hpw
    obtain ⟨v', hv'⟩ := h2 hpw e0 he0 hw0 nv hnv
    refine ⟨v', ?_⟩
    rw [hreq, mkReq_cookies, if_pos hpw]
    rw [hhost] at hh0
    rw [hh0] at hv'
    exact mem_jarFor.mpr hv'

theorem step_shape (w : World) (clock who : Nat) (fs : FS) (st : ClientSt) (op : Op) :
    let r := step w clock who fs st op
    (r.evs = [] ∧ r.st = st) ∨
    (∃ c u b, r.evs = [(post w c who st u b).ev] ∧ r.st = (post w c who st u b).st) ∨
    (∃ c1 u1 b1 c2 u2 b2, r.evs = [(post w c1 who st u1 b1).ev, (post w c2 who (post w c1 who st u1 b1).st u2 b2).ev] ∧
      r.st = (post w c2 who (post w c1 who st u1 b1).st u2 b2).st) := by
  rcases step_cases w clock who fs st op with h | ⟨_, _, _, h⟩ | ⟨_, _, h⟩ | ⟨_, _, _, _, _, _, _, _, h⟩
  · exact .inl h
  · exact .inr (.inl ⟨_, _, _, h⟩)
  · exact .inr (.inl ⟨_, _, _, h⟩)
  · exact .inr (.inr ⟨_, _, _, _, _, _, h⟩)

theorem step_inv (w : World) (clock who : Nat) (fs : FS) (st : ClientSt) (op : Op) (persist : Nat → Bool)
    (hp : persist who = st.cfg.persistCookies) (tr : List Ev) (h : JC who st tr) (ht : TraceOK persist tr) :
    let r := step w clock who fs st op
    JC who r.st (tr ++ r.evs) ∧ TraceOK persist (tr ++ r.evs) ∧ r.st.cfg = st.cfg ∧
      (∀ who' st', who' ≠ who → JC who' st' tr → JC who' st' (tr ++ r.evs)) := by
  intro r
  rcases step_shape w clock who fs st op with ⟨he, hs⟩ | ⟨c, u, b, he, hs⟩ | ⟨c1, u1, b1, c2, u2, b2, he, hs⟩
  · simp only [r, he, hs, List.append_nil]
    exact ⟨h, ht, trivial, fun _ _ _ h' => h'⟩
  · simp only [r, he, hs]
    obtain ⟨hj, hev⟩ := post_step w c who st u b persist hp tr h
    refine ⟨hj, traceOK_snoc ht hev, post_cfg .., ?_⟩
    intro who' st' hne h'
    exact JC_other h' (by rw [post_who]; exact fun e => hne e.symm)
  · simp only [r, he, hs]
    obtain ⟨hj1, hev1⟩ := post_step w c1 who st u1 b1 persist hp tr h
    have hp1 : persist who = (post w c1 who st u1 b1).st.cfg.persistCookies := by rw [post_cfg]; exact hp
    obtain ⟨hj2, hev2⟩ := post_step w c2 who (post w c1 who st u1 b1).st u2 b2 persist hp1 _ hj1
    have hl : ∀ (a b : Ev), tr ++ [a, b] = tr ++ [a] ++ [b] := by intro a b; simp
    rw [hl]
    refine ⟨hj2, traceOK_snoc (traceOK_snoc ht hev1) hev2, by rw [post_cfg, post_cfg], ?_⟩
    intro who' st' hne h'
    exact JC_other (JC_other h' (by rw [post_who]; exact fun e => hne e.symm))
      (by rw [post_who]; exact fun e => hne e.symm)

def SysInv (persist : Nat → Bool) (s : Sys) (tr : List Ev) : Prop :=
  (∀ who, JC who (s.clients who) tr) ∧ (∀ who, persist who = (s.clients who).cfg.persistCookies) ∧
    TraceOK persist tr

theorem sys_step_inv (w : World) (persist : Nat → Bool) (s : Sys) (tr : List Ev) (who : Nat) (op : Op)
    (h : SysInv persist s tr) : SysInv persist (s.step w who op).1 (tr ++ (s.step w who op).2.evs) := by
  obtain ⟨hj, hp, ht⟩ := h
  obtain ⟨h1, h2, h3, h4⟩ := step_inv w s.clock who s.fs (s.clients who) op persist (hp who) tr (hj who) ht
  refine ⟨?_, ?_, h2⟩
  · intro who'
    by_cases hw : who' = who
    · subst hw; simpa [Sys.step, Sys.setClient] using h1
    · simpa [Sys.step, Sys.setClient, hw] using h4 who' (s.clients who') hw (hj who')
  · intro who'
    by_cases hw : who' = who
    · subst hw; simpa [Sys.step, Sys.setClient, h3] using hp who'
    · simpa [Sys.step, Sys.setClient, hw] using hp who'

theorem sys_run_inv (w : World) (persist : Nat → Bool) (hist : List (Nat × Op)) (s : Sys) (tr : List Ev)
    (h : SysInv persist s tr) : TraceOK persist (tr ++ Sys.trace w s hist) := by
  induction hist generalizing s tr with
  | nil => simpa [Sys.trace, Sys.run] using h.2.2
  | cons x rest ih =>
    obtain ⟨who, op⟩ := x
    have := ih (s.step w who op).1 _ (sys_step_inv w persist s tr who op h)
    simpa [Sys.trace, Sys.run, List.append_assoc] using this

section oracle
open Ofx.Spec.Client

theorem mem_setBy {who : Nat} {pre : List Ev} {c : Cookie} :
    c ∈ setBy who pre ↔ ∃ e0 ∈ pre, e0.who = who ∧ e0.req.url.host = c.host ∧ (c.name, c.value) ∈ e0.set := by
  induction pre with
  | nil => simp [setBy]
  | cons e es ih =>
    simp only [setBy, List.mem_append, ih, List.mem_cons, exists_eq_or_imp]
    constructor
    · rintro (h | h)
      · left
        split at h
        · rename_i hw
          simp only [List.mem_map] at h
          obtain ⟨nv, hnv, rfl⟩ := h
          exact ⟨hw, rfl, hnv⟩
        · cases h
      · exact .inr h
    · rintro (⟨hw, hh, hs⟩ | h)
      · left
        rw [if_pos hw]
        simp only [List.mem_map]
        exact ⟨(c.name, c.value), hs, by cases c; simp_all⟩
      · exact .inr h

theorem originOk_iff (pre tr : List Ev) :
    originOk pre tr = true ↔
      ∀ a e post, tr = a ++ e :: post → ∀ nv ∈ e.req.cookies,
        (⟨e.req.url.host, nv.1, nv.2⟩ : Cookie) ∈ setBy e.who (pre ++ a) := by
  induction tr generalizing pre with
  | nil => simp [originOk]
  | cons x xs ih =>
    simp only [originOk, Bool.and_eq_true, List.all_eq_true, List.contains_iff_mem, ih]
    constructor
    · rintro ⟨h1, h2⟩ a e post heq nv hnv
      cases a with
      | nil =>
        simp at heq; obtain ⟨rfl, rfl⟩ := heq
        simpa using h1 nv hnv
      | cons y ys =>
        simp at heq; obtain ⟨rfl, rfl⟩ := heq
        simpa using h2 ys e post rfl nv hnv
    · intro h
      refine ⟨fun nv hnv => by simpa using h [] x xs rfl nv hnv, ?_⟩
      intro a e post heq nv hnv
      subst heq
      simpa using h (x :: a) e post rfl nv hnv

end oracle

end Ofx.ClientSM
