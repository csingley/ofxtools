/-
Lemmas for C20: the code sums the digits of the *text* `str(n)` of each (possibly doubled) character value, the
specification sums `n / 10 + n % 10` (`ds`); `sum_pyStrNat` is where the two meet.  It needs `n < 100` only: the
largest number ever written out is `2 * 38 = 76` (CUSIP `#`, doubled).
-/
import OfxModel.Ofx.SecId
import OfxModel.Spec.SecId
import OfxProofs.Lemmas.Digits
import OfxProofs.Lemmas.PyM

namespace Ofx.SecId
open Ofx Ofx.Spec.SecId

theorem natDigits_lt100 : ∀ n, n < 100 → natDigits n = if n < 10 then [n] else [n / 10, n % 10] := by
  decide

theorem sumDigitChars_append_digits (ds : List Nat) (h : ∀ d ∈ ds, d < 10) (rest : Str) (r : Nat)
    (hr : sumDigitChars rest = .ok r) :
    sumDigitChars (ds.map digitChar ++ rest) = .ok (ds.sum + r) := by
  induction ds with
  | nil => simpa using hr
  | cons d ds ih =>
    have hd : d < 10 := h d (by simp)
    have := ih (fun x hx => h x (by simp [hx]))
    simp only [List.map_cons, List.cons_append, sumDigitChars, digitVal_digitChar d hd, this]
    simp
    omega

theorem sum_pyStrNat (n : Nat) (hn : n < 100) (rest : Str) (r : Nat) (hr : sumDigitChars rest = .ok r) :
    sumDigitChars (pyStrNat n ++ rest) = .ok (ds n + r) := by
  unfold pyStrNat
  rw [natDigits_lt100 n hn]
  split
  · rename_i h
    have := sumDigitChars_append_digits [n] (by simp; omega) rest r hr
    simp only [ds] at *
    rw [this]; simp; omega
  · have := sumDigitChars_append_digits [n / 10, n % 10] (by simp; omega) rest r hr
    rw [this]; simp [ds]

theorem b36_le (c : Char) (v : Nat) (h : b36 c = some v) : v ≤ 35 := by
  unfold b36 at h
  split at h
  · rename_i h1; simp at h
    have : c.toNat ≤ 57 := h1.2
    omega
  · split at h
    · rename_i h1; simp at h
      have : c.toNat ≤ 90 := h1.2
      omega
    · split at h
      · rename_i h1; simp at h
        have : c.toNat ≤ 122 := h1.2
        omega
      · simp at h

theorem cusipCharVal_le (c : Char) (v : Nat) (h : cusipCharVal c = some v) : v ≤ 38 := by
  unfold cusipCharVal at h
  split at h
  · simp at h; omega
  · split at h
    · simp at h; omega
    · split at h
      · simp at h; omega
      · exact Nat.le_trans (b36_le c v h) (by omega)

theorem valsOf_nil {f : Char → Option Nat} {vals : List Nat} (h : valsOf f [] = some vals) : vals = [] :=
  (Option.some.inj h).symm

theorem valsOf_cons {f : Char → Option Nat} {c : Char} {cs : Str} {vals : List Nat}
    (h : valsOf f (c :: cs) = some vals) :
    ∃ v vs, f c = some v ∧ valsOf f cs = some vs ∧ vals = v :: vs := by
  simp only [valsOf] at h
  split at h
  · rename_i v vs hv hvs; exact ⟨v, vs, hv, hvs, by simpa using h.symm⟩
  · simp at h

theorem valsOf_length {f : Char → Option Nat} : ∀ {s : Str} {vals : List Nat},
    valsOf f s = some vals → vals.length = s.length
  | [], vals, h => by obtain rfl := valsOf_nil h; rfl
  | c :: cs, vals, h => by
    obtain ⟨v, vs, _, hvs, rfl⟩ := valsOf_cons h
    simp [valsOf_length hvs]

theorem valsOf_append {f : Char → Option Nat} : ∀ {s t : Str} {vs ws : List Nat},
    valsOf f s = some vs → valsOf f t = some ws → ∃ us, valsOf f (s ++ t) = some us
  | [], _, _, ws, _, ht => ⟨ws, ht⟩
  | c :: cs, t, _, ws, hs, ht => by
    obtain ⟨v, vs, hc, hcs, rfl⟩ := valsOf_cons hs
    obtain ⟨us, hus⟩ := valsOf_append hcs ht
    exact ⟨v :: us, by simp [valsOf, hc, hus]⟩

theorem cusipParts_sum : ∀ (base : Str) (i : Nat) (vals : List Nat),
    valsOf cusipCharVal base = some vals →
    ∃ parts, cusipParts i base = .ok parts ∧ sumDigitChars parts.flatten = .ok (cusipSum i vals)
  | [], i, vals, h => by
    obtain rfl := valsOf_nil h
    exact ⟨[], rfl, rfl⟩
  | c :: cs, i, vals, h => by
    obtain ⟨v, vs, hv, hvs, rfl⟩ := valsOf_cons h
    obtain ⟨ps, hps, hsum⟩ := cusipParts_sum cs (i + 1) vs hvs
    have hle := cusipCharVal_le c v hv
    refine ⟨(if i % 2 = 1 then pyStrNat (v * 2) else pyStrNat v) :: ps, ?_, ?_⟩
    · simp [cusipParts, cusipEncode, hv, hps]
    · simp only [List.flatten_cons, cusipSum]
      split
      · rename_i hi
        rw [sum_pyStrNat (v * 2) (by omega) _ _ hsum]
        simp [hi]
      · rename_i hi
        have : i % 2 = 0 := by omega
        rw [sum_pyStrNat v (by omega) _ _ hsum]
        simp [this]

theorem sedolSum_eq : ∀ (base : Str) (ws : List Nat) (vals : List Nat),
    valsOf b36 base = some vals → base.length ≤ ws.length →
    sedolSum base ws = .ok ((List.zipWith (· * ·) vals ws).sum)
  | [], ws, vals, h, _ => by
    obtain rfl := valsOf_nil h; simp [sedolSum]
  | c :: cs, [], vals, h, hl => by simp at hl
  | c :: cs, w :: ws, vals, h, hl => by
    obtain ⟨v, vs, hv, hvs, rfl⟩ := valsOf_cons h
    have := sedolSum_eq cs ws vs hvs (by simpa using hl)
    simp [sedolSum, hv, this]

theorem pyStrNat_lt36 (v : Nat) (h : v ≤ 35) :
    pyStrNat v = (if v < 10 then [v] else [v / 10, v % 10]).map digitChar := by
  unfold pyStrNat; rw [natDigits_lt100 v (by omega)]

theorem isinExpand_eq : ∀ (base : Str) (vals : List Nat), valsOf b36 base = some vals →
    isinExpand base = .ok ((expand vals).map digitChar)
  | [], vals, h => by obtain rfl := valsOf_nil h; rfl
  | c :: cs, vals, h => by
    obtain ⟨v, vs, hv, hvs, rfl⟩ := valsOf_cons h
    have := isinExpand_eq cs vs hvs
    have hle := b36_le c v hv
    simp [isinExpand, hv, this, expand, pyStrNat_lt36 v hle]

theorem expand_lt10 : ∀ (vals : List Nat), (∀ v ∈ vals, v ≤ 35) → ∀ d ∈ expand vals, d < 10
  | [], _, d, hd => by simp [expand] at hd
  | v :: vs, h, d, hd => by
    have hv : v ≤ 35 := h v (by simp)
    simp only [expand, List.mem_append] at hd
    rcases hd with hd | hd
    · split at hd
      · simp at hd; omega
      · simp at hd; omega
    · exact expand_lt10 vs (fun x hx => h x (by simp [hx])) d hd

theorem valsOf_b36_le : ∀ (s : Str) (vals : List Nat), valsOf b36 s = some vals → ∀ v ∈ vals, v ≤ 35
  | [], vals, h, v, hv => by obtain rfl := valsOf_nil h; cases hv
  | c :: cs, vals, h, x, hx => by
    obtain ⟨v, vs, hv, hvs, rfl⟩ := valsOf_cons h
    simp at hx
    rcases hx with rfl | hx
    · exact b36_le c _ hv
    · exact valsOf_b36_le cs vs hvs x hx

theorem isinDouble_sum : ∀ (dsr : List Nat) (n : Nat), (∀ d ∈ dsr, d < 10) →
    ∃ out, isinDouble n (dsr.map digitChar) = .ok out ∧ sumDigitChars out = .ok (luhnSumRev n dsr)
  | [], n, _ => ⟨[], rfl, rfl⟩
  | d :: dsr, n, h => by
    have hd : d < 10 := h d (by simp)
    obtain ⟨out, ho, hs⟩ := isinDouble_sum dsr (n + 1) (fun x hx => h x (by simp [hx]))
    by_cases hn : n % 2 = 1
    · refine ⟨digitChar d :: out, ?_, ?_⟩
      · simp [isinDouble, hn, ho]
      · have hn0 : ¬ n % 2 = 0 := by omega
        simp [sumDigitChars, digitVal_digitChar d hd, hs, luhnSumRev, hn0]
    · refine ⟨pyStrNat (d * 2) ++ out, ?_, ?_⟩
      · simp [isinDouble, hn, ho, digitVal_digitChar d hd]
      · have hn0 : n % 2 = 0 := by omega
        rw [sum_pyStrNat (d * 2) (by omega) _ _ hs]
        simp [luhnSumRev, hn0, Nat.mul_comm]

theorem checkChar_eq (s : Nat) : checkChar s = digitChar (check s) := rfl

theorem isinChecksum_ok {ag : List Str} {base : Str} {k : Char} (hk : isinChecksum ag base = .ok k) :
    base.length = 11 ∧ base.take 2 ∈ ag := by
  unfold isinChecksum at hk
  split at hk
  · simp at hk
  · rename_i h11
    split at hk
    · simp at hk
    · rename_i h2
      exact ⟨by simpa using h11, by simpa using h2⟩

theorem validateCusip_snoc (base : Str) (c : Char) (hl : base.length = 8) :
    validateCusip (base ++ [c]) = (cusipChecksum base).map (fun k => k == c) := by
  simp [validateCusip, hl, List.take_left' hl, List.drop_left' hl]
  cases cusipChecksum base <;> rfl

theorem validateIsin_snoc (ag : List Str) (base : Str) (c : Char) (hl : base.length = 11) (hp : base.take 2 ∈ ag) :
    validateIsin ag (base ++ [c]) = (isinChecksum ag base).map (fun k => k == c) := by
  have h2 : (base ++ [c]).take 2 = base.take 2 := by
    rw [List.take_append_of_le_length (by omega)]
  simp [validateIsin, hl, h2, hp, List.take_left' hl, List.drop_left' hl]
  cases isinChecksum ag base <;> rfl

theorem validateIsin_append {ag : List Str} {base : Str} {k : Char} (hk : isinChecksum ag base = .ok k) :
    validateIsin ag (base ++ [k]) = .ok true := by
  obtain ⟨hlen, hpre⟩ := isinChecksum_ok hk
  simp [validateIsin_snoc ag base k hlen hpre, hk, Except.map]

end Ofx.SecId
