/-
Bridge from the serializer layer's `Rendering` (OfxModel/Spec/Wire.lean) to the parser layer's wire grammar
`Ofx.Spec.Renders false` (OfxModel/Spec/Renders.lean): constructor for constructor the same relation, minus CDATA.
-/
import OfxProofs.Lemmas.Serialize
import OfxProofs.Props.C02

namespace Ofx.Serialize
open Ofx Ofx.Spec.Wire

theorem isTagChar_eq_isNameChar : isTagChar = Ofx.Lexer.isNameChar := rfl

theorem tagOk_eq (t : Str) : Spec.Wire.tagOk t = Spec.tagOk t := by
  simp [Spec.Wire.tagOk, Spec.tagOk, isTagChar_eq_isNameChar]

theorem ws_bridge {w : Str} (h : Ws w) : Spec.ws w = true := by
  simp only [Spec.ws, List.all_eq_true]
  exact h

theorem startTag_bridge (t : Str) : Spec.Wire.startTag t = Spec.startTag t := rfl
theorem endTag_bridge (t : Str) : Spec.Wire.endTag t = Spec.endTag t := rfl

theorem dataOk_bridge {d : Str} (h : DataWF d) : Spec.dataOk d = true := by
  obtain ⟨h1, h2, h3⟩ := h
  have ht : Spec.trimmed d = true := trimmedB_iff.2 h2
  simp only [Spec.dataOk, Bool.and_eq_true, List.all_eq_true, ht, and_true]
  refine ⟨?_, ?_⟩
  · cases d with
    | nil => exact absurd rfl h1
    | cons _ _ => rfl
  · intro c hc
    simp only [Ofx.Lexer.notLt, bne_iff_ne, ne_eq]
    rintro rfl
    exact h3 hc

mutual
  /-- guard G3 of the strict grammar as a predicate of the tree: the last child of an aggregate is not a data
      element bearing the aggregate's own tag -/
  def g3Ok : Tree → Bool
    | .node t _ _ cs =>
      (match cs.getLast? with | some c => Spec.leafTag c != some t | none => true) && g3OkList cs
  def g3OkList : List Tree → Bool
    | [] => true
    | c :: cs => g3Ok c && g3OkList cs
end

mutual
  theorem rendering_renders : ∀ {t : Tree} {s : Str}, Rendering t s → Spec.Renders false t s
    | _, _, .leafOpen t d w₁ h1 h2 h3 =>
      .leafOpen t d w₁ ((tagOk_eq t).symm.trans h1) (dataOk_bridge h2) (ws_bridge h3)
    | _, _, .leafClosed t d w₁ w₂ h1 h2 h3 h4 =>
      .leafClosed t d w₁ w₂ ((tagOk_eq t).symm.trans h1) (dataOk_bridge h2) (ws_bridge h3) (ws_bridge h4)
    | _, _, .agg t cs w s h1 h2 h3 =>
      .agg t w cs s ((tagOk_eq t).symm.trans h1) (ws_bridge h2) (renderingList_renders h3) (fun hs => nomatch hs)
  theorem renderingList_renders : ∀ {cs : List Tree} {s : Str}, RenderingList cs s → Spec.RendersList false cs s
    | _, _, .nil => .nil
    | _, _, .cons c cs s w ss h1 h2 h3 => .cons c cs s w ss (rendering_renders h1) (ws_bridge h2) (renderingList_renders h3)
end

theorem g3Ok_eq_both : (∀ t, g3Ok t = C02.g3Tree t) ∧ (∀ cs, g3OkList cs = C02.g3List cs) := by
  apply tree_induction
  · intro t x tl cs ih; rw [g3Ok, C02.g3Tree, ih]; rfl
  · rfl
  · intro c cs hc hcs; simp only [g3OkList, C02.g3List, hc, hcs]

theorem rendering_renders_strict {t : Tree} {s : Str} (h : Rendering t s) (hg : g3Ok t = true) : Spec.Renders true t s :=
  C02.renders_strict_of_g3 (rendering_renders h) ((g3Ok_eq_both.1 t).symm.trans hg)

theorem renderingList_renders_strict :
      ∀ {cs : List Tree} {s : Str}, RenderingList cs s → g3OkList cs = true → Spec.RendersList true cs s :=
  fun h hg => C02.rendersList_strict_of_g3 (renderingList_renders h) ((g3Ok_eq_both.2 _).symm.trans hg)

theorem renderingDoc_rendersDoc_strict {t : Tree} {s : Str} (h : RenderingDoc t s) (hg : g3Ok t = true) :
    Spec.RendersDoc true t s := by
  obtain ⟨r, w, hr, hw, e⟩ := h
  exact ⟨[], r, w, rfl, ws_bridge hw, rendering_renders_strict hr hg, by simpa using e⟩

theorem renderingDoc_rendersDoc {t : Tree} {s : Str} (h : RenderingDoc t s) : Spec.RendersDoc false t s := by
  obtain ⟨r, w, hr, hw, e⟩ := h
  exact ⟨[], r, w, rfl, ws_bridge hw, rendering_renders hr, by simpa using e⟩

theorem escapeTreeList_eq_map (cs : List Tree) : escapeTreeList cs = cs.map escapeTree := by
  induction cs with
  | nil => rfl
  | cons c cs ih => simp [escapeTreeList, ih]

theorem leafTag_escapeTree (c : Tree) : Spec.leafTag (escapeTree c) = Spec.leafTag c := by
  cases c with
  | node t x tl cs =>
    cases x with
    | none => simp [escapeTree, Spec.leafTag]
    | some d =>
      cases cs with
      | nil => simp [escapeTree, escapeTreeList, Spec.leafTag]
      | cons c' cs' => simp [escapeTree, escapeTreeList, Spec.leafTag]

theorem g3Ok_escapeTree_both :
    (∀ t, g3Ok (escapeTree t) = g3Ok t) ∧ (∀ cs, g3OkList (escapeTreeList cs) = g3OkList cs) := by
  apply tree_induction
  · intro t x tl cs ih
    simp only [escapeTree, g3Ok, ih]
    congr 1
    rw [escapeTreeList_eq_map, List.getLast?_map]
    cases cs.getLast? with
    | none => rfl
    | some c => simp [leafTag_escapeTree]
  · rfl
  · intro c cs hc hcs
    simp only [escapeTreeList, g3OkList, hc, hcs]

end Ofx.Serialize
