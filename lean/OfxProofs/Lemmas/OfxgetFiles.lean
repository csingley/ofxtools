/-
Lemmas for C18: how `USERCFG.read([fi.cfg, ofxget.cfg])` layers the two files (per section, per option, the later
file wins; the server's section over DEFAULT), and what `read_config` makes of the layered content.
-/
import OfxProofs.Lemmas.Ofxget

namespace Ofx.Ofxget
open Ofx Ofx.Spec.Ofxget

/-- one section body: the last assignment of an option wins; option names are case-insensitive, values stripped -/
def kvsLookup : List (Str × Str) → Name → Option Str
  | [], _ => none
  | kv :: rest, k => (kvsLookup rest k).or (if lower kv.1 = k then some (strip kv.2) else none)

def fileLookup : FileC → Str → Name → Option Str
  | [], _, _ => none
  | sec :: rest, s, k => (fileLookup rest s k).or (if sec.1 = s then kvsLookup sec.2 k else none)

def fileHasSection (f : FileC) (s : Str) : Bool := f.any (fun sec => sec.1 == s)

theorem sectUpdate_lookup (s : Sect) (kvs : List (Str × Str)) (k : Name) :
    (sectUpdate s kvs).lookup k = (kvsLookup kvs k).or (s.lookup k) := by
  unfold sectUpdate
  induction kvs generalizing s with
  | nil => simp [kvsLookup]
  | cons kv kvs ih =>
    simp only [List.foldl_cons, kvsLookup]
    rw [ih, lookup_mapSet]
    cases kvsLookup kvs k with
    | some v => simp
    | none =>
      by_cases hk : k = lower kv.1
      · simp [hk]
      · have hk' : ¬ lower kv.1 = k := fun e => hk e.symm
        simp [hk, hk']

/-- lookup inside one section of a parser (no DEFAULT fall-through) -/
def Ini.look (c : Ini) (s : Str) (k : Name) : Option Str :=
  if s = defaultSect then c.defaults.lookup k else (c.sect s).lookup k

theorem sect_mapSet (sections : List (Str × Sect)) (n s : Str) (x : Sect) :
    ((mapSet n x sections).lookup s).getD [] = if s = n then x else (sections.lookup s).getD [] := by
  rw [lookup_mapSet]
  by_cases h : s = n <;> simp [h]

theorem loadFile_look (c : Ini) (f : FileC) (s : Str) (k : Name) :
    (c.loadFile f).look s k = (fileLookup f s k).or (c.look s k) := by
  unfold Ini.loadFile
  induction f generalizing c with
  | nil => simp [fileLookup]
  | cons sec f ih =>
    simp only [List.foldl_cons, fileLookup]
    rw [ih, Option.or_assoc]
    congr 1
    by_cases hd : (sec.1 == defaultSect) = true
    · have hd' : sec.1 = defaultSect := by simpa using hd
      simp only [hd, if_true]
      by_cases hs : s = defaultSect
      · simp only [Ini.look, hs, if_true, hd', sectUpdate_lookup]
      · have : ¬ sec.1 = s := fun e => hs (by rw [← e, hd'])
        simp only [Ini.look, hs, if_false, this, Option.none_or, Ini.sect]
    · have hd' : ¬ sec.1 = defaultSect := by simpa using hd
      have hdf : (sec.1 == defaultSect) = false := beq_false_of_ne hd'
      simp only [hdf, Bool.false_eq_true, if_false]
      by_cases hs : s = defaultSect
      · subst hs
        simp only [Ini.look, if_true, hd', if_false, Option.none_or]
      · simp only [Ini.look, hs, if_false, Ini.sect, sect_mapSet]
        by_cases hsn : s = sec.1
        · subst hsn
          simp only [if_true, sectUpdate_lookup, Ini.sect]
        · have : ¬ sec.1 = s := fun e => hsn e.symm
          simp only [hsn, if_false, this, Option.none_or]

theorem raw_eq_look (c : Ini) (s : Str) (k : Name) (hs : s ≠ defaultSect) :
    c.raw s k = (c.look s k).or (c.look defaultSect k) := by
  simp only [Ini.raw, Ini.look, hs, if_false, if_true]
  cases List.lookup k (c.sect s) <;> rfl

theorem empty_look (s : Str) (k : Name) : Ini.empty.look s k = none := by
  simp only [Ini.look, Ini.empty, Ini.sect]
  split <;> rfl

/-- layering of `USERCFG.read([fi.cfg, ofxget.cfg])`: for the server's section, the user's file over the FI
    database; then the DEFAULT sections, again the user's file first -/
theorem raw_layering (fidb user : FileC) (s : Str) (k : Name) (hs : s ≠ defaultSect) :
    (loadUser fidb user).raw s k =
      ((fileLookup user s k).or (fileLookup fidb s k)).or
        ((fileLookup user defaultSect k).or (fileLookup fidb defaultSect k)) := by
  rw [raw_eq_look _ _ _ hs]
  unfold loadUser
  simp only [loadFile_look, empty_look, Option.or_none]

theorem loadFile_hasSection (c : Ini) (f : FileC) (s : Str) (hs : s ≠ defaultSect) :
    (c.loadFile f).hasSection s = (c.hasSection s || fileHasSection f s) := by
  unfold Ini.loadFile fileHasSection
  induction f generalizing c with
  | nil => simp
  | cons sec f ih =>
    simp only [List.foldl_cons, List.any_cons]
    rw [ih]
    by_cases hd : (sec.1 == defaultSect) = true
    · have hd' : sec.1 = defaultSect := by simpa using hd
      have : (sec.1 == s) = false := by simpa using fun e : sec.1 = s => hs (by rw [← e, hd'])
      simp [hd, Ini.hasSection, this]
    · have hdf : (sec.1 == defaultSect) = false := eq_false_of_ne_true hd
      simp only [hdf, Bool.false_eq_true, if_false, Ini.hasSection, lookup_mapSet]
      by_cases hsn : s = sec.1
      · subst hsn; simp
      · have : (sec.1 == s) = false := by simpa using fun e : sec.1 = s => hsn e.symm
        simp [hsn, this, Bool.or_assoc]

theorem loadUser_contains (fidb user : FileC) (s : Str) (hs : s ≠ defaultSect) :
    (loadUser fidb user).contains s = (fileHasSection fidb s || fileHasSection user s) := by
  have hsf : (s == defaultSect) = false := beq_false_of_ne hs
  unfold loadUser Ini.contains
  rw [loadFile_hasSection _ _ _ hs, loadFile_hasSection _ _ _ hs]
  simp [Ini.hasSection, Ini.empty, hsf]

theorem options_mem (c : Ini) (s : Str) (k : Name) (hs : s ≠ defaultSect) :
    k ∈ c.options s ↔ (c.raw s k).isSome = true := by
  have hsf : (s == defaultSect) = false := beq_false_of_ne hs
  simp only [Ini.options, hsf, Bool.false_eq_true, if_false, List.mem_append, List.mem_filter, Ini.raw]
  rw [List.mem_keys_iff_lookup, List.mem_keys_iff_lookup]
  cases h1 : List.lookup k (c.sect s) with
  | some v => simp
  | none =>
    have : ¬ k ∈ (c.sect s).map (·.1) := by rw [List.mem_keys_iff_lookup, h1]; simp
    simp [this]

/-- a comprehension `{key a: val a for a in l}` evaluated in the error monad -/
theorem mapM_keyed_lookup {α β : Type} (f : α → PyM (Name × β)) (g : α → Name)
    (hk : ∀ a b, f a = .ok b → b.1 = g a) (l : List α) (r : List (Name × β)) (h : l.mapM f = .ok r) (k : Name) :
    r.lookup k =
      (l.find? (fun a => g a == k)).bind (fun a => match f a with | .ok b => some b.2 | .error _ => none) := by
  induction l generalizing r with
  | nil => cases h; rfl
  | cons a l ih =>
    rw [List.mapM_cons] at h
    obtain ⟨b, hb, h⟩ := PyM.bind_ok h
    obtain ⟨bs, hbs, h⟩ := PyM.bind_ok h
    cases h
    obtain ⟨b1, b2⟩ := b
    have := hk a _ hb
    simp only at this
    subst this
    rw [List.lookup_cons_ite, List.find?_cons, ih bs hbs]
    by_cases hka : k = g a
    · subst hka; simp [hb]
    · have : (g a == k) = false := beq_false_of_ne (fun e => hka e.symm)
      simp [hka, this]

theorem readOne_key (T : Tables) (c : Ini) (s : Str) (kt : Name × CfgTy) (b : Name × CfgVal)
    (h : readOne T c s kt = .ok b) : b.1 = kt.1 := by
  unfold readOne at h
  split at h
  · cases h; rfl
  · obtain ⟨v, _, h⟩ := PyM.bind_ok h
    cases h; rfl

theorem find?_configurableOptions (T : Tables) (c : Ini) (s : Str) (k : Name) :
    (configurableOptions T c s).find? (fun kt => kt.1 == k) =
      if k ∈ c.options s then (T.configurable.lookup k).map (fun ty => (k, ty)) else none := by
  unfold configurableOptions
  induction c.options s with
  | nil => rfl
  | cons a l ih =>
    by_cases hak : a = k
    · subst hak
      cases hl : T.configurable.lookup a with
      | none => simp [List.filterMap_cons, hl, ih]
      | some ty => simp [List.filterMap_cons, hl]
    · have hne : ¬ k = a := fun e => hak e.symm
      cases hl : T.configurable.lookup a with
      | none => simp [List.filterMap_cons, hl, ih, hne]
      | some ty => simp [List.filterMap_cons, hl, ih, hne, List.find?_cons, beq_false_of_ne hak]

theorem readConfig_lookup (T : Tables) (c : Ini) (s : Str) (m : Map) (hs : s ≠ defaultSect)
    (hc : c.contains s = true) (h : readConfig T c s = .ok m) (k : Name) (ty : CfgTy)
    (hty : T.configurable.lookup k = some ty) :
    match c.raw s k with
    | none => m.lookup k = none
    | some v => ∃ tv, typedOfStr T ty v = .ok tv ∧ m.lookup k = some tv := by
  unfold readConfig at h
  simp only [hc, Bool.not_true, Bool.false_eq_true, if_false] at h
  rw [mapM_keyed_lookup _ (·.1) (readOne_key T c s) _ _ h k, find?_configurableOptions, hty]
  cases hraw : c.raw s k with
  | none =>
    have : ¬ k ∈ c.options s := by rw [options_mem c s k hs, hraw]; simp
    simp [this]
  | some v =>
    have hin : k ∈ c.options s := by rw [options_mem c s k hs, hraw]; rfl
    have hkt : (k, ty) ∈ configurableOptions T c s := by
      have := find?_configurableOptions T c s k
      rw [if_pos hin, hty] at this
      exact List.mem_of_find?_eq_some this
    -- the comprehension got through, so the option's own entry was read
    obtain ⟨b, _, hb⟩ := PyM.mapM_mem_left h hkt
    simp only [if_pos hin, Option.map_some, Option.bind_some]
    unfold readOne at hb ⊢
    simp only [Ini.get, hraw] at hb ⊢
    obtain ⟨tv, htv, hb⟩ := PyM.bind_ok hb
    exact ⟨tv, htv, by simp [htv]⟩

theorem readConfig_absent (T : Tables) (c : Ini) (s : Str) (h : c.contains s = false) : readConfig T c s = .ok [] := by
  simp [readConfig, h]

/-- what the two configuration files say for option `k` under the nickname `s` (`raw_layering`); nothing at all when
    neither file has a section for the nickname (`read_config` returns `{}` then: known finding
    default-section-ignored-for-new-server) -/
def filesSay (fidb user : FileC) (s : Str) (k : Name) : Option Str :=
  if fileHasSection fidb s || fileHasSection user s then
    ((fileLookup user s k).or (fileLookup fidb s k)).or
      ((fileLookup user defaultSect k).or (fileLookup fidb defaultSect k))
  else none

theorem userCfg_lookup (T : Tables) (fidb user : FileC) (s : Str) (hs : s ≠ defaultSect) (m : Map)
    (h : readConfig T (loadUser fidb user) s = .ok m) (k : Name) (ty : CfgTy)
    (hty : T.configurable.lookup k = some ty) :
    match filesSay fidb user s k with
    | none => m.lookup k = none
    | some t => ∃ tv, typedOfStr T ty t = .ok tv ∧ m.lookup k = some tv := by
  unfold filesSay
  by_cases hkn : (fileHasSection fidb s || fileHasSection user s) = true
  · rw [if_pos hkn, ← raw_layering fidb user s k hs]
    exact readConfig_lookup T _ s m hs ((loadUser_contains _ _ _ hs).trans hkn) h k ty hty
  · rw [if_neg hkn]
    rw [readConfig_absent T _ s ((loadUser_contains _ _ _ hs).trans (Bool.eq_false_iff.mpr hkn))] at h
    cases h
    rfl

end Ofx.Ofxget
