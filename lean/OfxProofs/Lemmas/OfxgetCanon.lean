/-
Lemmas for C18: the parser states ofxget can reach are canonical (distinct lower-case option names, distinct
section names, no section called DEFAULT); `OfxgetPersist.lean` reads a written file back under this invariant.
-/
import OfxProofs.Lemmas.OfxgetWrite

namespace Ofx.Ofxget
open Ofx Ofx.Spec.Ofxget

theorem asciiLower_upper_range : ∀ n, n < 91 → 65 ≤ n →
    asciiLower (asciiLower (Char.ofNat n)) = asciiLower (Char.ofNat n) := by decide

theorem asciiLower_idem (c : Char) : asciiLower (asciiLower c) = asciiLower c := by
  by_cases h : 'A' ≤ c ∧ c ≤ 'Z'
  · have h1 : 65 ≤ c.toNat := by
      have := h.1
      rw [Char.le_def, UInt32.le_iff_toNat_le] at this
      exact this
    have h2 : c.toNat < 91 := by
      have := h.2
      rw [Char.le_def, UInt32.le_iff_toNat_le] at this
      have h3 : c.toNat ≤ 90 := this
      omega
    have := asciiLower_upper_range c.toNat h2 h1
    rwa [Char.ofNat_toNat] at this
  · have : asciiLower c = c := by simp [asciiLower, h]
    rw [this, this]

theorem lower_idem (s : Str) : lower (lower s) = lower s := by
  simp [lower, List.map_map, Function.comp_def, asciiLower_idem]

/-- one section: distinct option names, each its own `optionxform` -/
def CanonSect (s : Sect) : Prop := (s.map (·.1)).Nodup ∧ ∀ kv ∈ s, lower kv.1 = kv.1

structure Canon (c : Ini) : Prop where
  dflt : CanonSect c.defaults
  names : (c.sections.map (·.1)).Nodup
  nodef : ∀ sec ∈ c.sections, sec.1 ≠ defaultSect
  sects : ∀ sec ∈ c.sections, CanonSect sec.2

theorem canonSect_nil : CanonSect [] := ⟨by simp, by simp⟩

theorem Canon.lookup_default {c : Ini} (h : Canon c) : c.sections.lookup defaultSect = none := by
  cases hl : c.sections.lookup defaultSect with
  | none => rfl
  | some x => exact absurd rfl (h.nodef _ (List.mem_of_lookup hl))

theorem canonSect_mapSet (s : Sect) (k : Name) (v : Str) (h : CanonSect s) (hk : lower k = k) :
    CanonSect (mapSet k v s) := by
  refine ⟨nodup_keys_mapSet k v s h.1, ?_⟩
  intro kv hkv
  rcases mem_mapSet k v s kv hkv with rfl | hkv
  · exact hk
  · exact h.2 kv hkv

theorem canonSect_sectUpdate (s : Sect) (kvs : List (Str × Str)) (h : CanonSect s) : CanonSect (sectUpdate s kvs) := by
  unfold sectUpdate
  induction kvs generalizing s with
  | nil => exact h
  | cons kv kvs ih => exact ih _ (canonSect_mapSet s _ _ h (lower_idem _))

theorem canonSect_mapErase (s : Sect) (k : Name) (h : CanonSect s) : CanonSect (mapErase k s) :=
  ⟨nodup_keys_mapErase k s h.1, fun kv hkv => h.2 kv (mem_mapErase k s kv hkv)⟩

theorem canon_sect (c : Ini) (h : Canon c) (s : Str) : CanonSect (c.sect s) := by
  unfold Ini.sect
  cases hl : c.sections.lookup s with
  | none => exact canonSect_nil
  | some x => exact h.sects (s, x) (List.mem_of_lookup hl)

theorem canon_empty : Canon Ini.empty := ⟨canonSect_nil, by simp [Ini.empty], by simp [Ini.empty], by simp [Ini.empty]⟩

theorem canon_setSect (c : Ini) (h : Canon c) (s : Str) (hs : s ≠ defaultSect) (x : Sect) (hx : CanonSect x) :
    Canon { c with sections := mapSet s x c.sections } := by
  refine ⟨h.dflt, nodup_keys_mapSet s x _ h.names, ?_, ?_⟩
  · intro sec hsec
    rcases mem_mapSet s x _ sec hsec with rfl | hsec
    · exact hs
    · exact h.nodef sec hsec
  · intro sec hsec
    rcases mem_mapSet s x _ sec hsec with rfl | hsec
    · exact hx
    · exact h.sects sec hsec

theorem canon_loadFile (c : Ini) (h : Canon c) (f : FileC) : Canon (c.loadFile f) := by
  unfold Ini.loadFile
  induction f generalizing c with
  | nil => exact h
  | cons sec f ih =>
    simp only [List.foldl_cons]
    apply ih
    by_cases hd : (sec.1 == defaultSect) = true
    · simp only [hd, if_true]
      exact ⟨canonSect_sectUpdate _ _ h.dflt, h.names, h.nodef, h.sects⟩
    · have hd' : sec.1 ≠ defaultSect := by simpa using hd
      have hdf : (sec.1 == defaultSect) = false := beq_false_of_ne hd'
      simp only [hdf, Bool.false_eq_true, if_false]
      exact canon_setSect c h sec.1 hd' _ (canonSect_sectUpdate _ _ (canon_sect c h sec.1))

theorem canon_set (c : Ini) (h : Canon c) (s : Str) (k : Name) (v : Str) : Canon (c.set s k v) := by
  unfold Ini.set
  by_cases hd : (s == defaultSect) = true
  · simp only [hd, if_true]
    exact ⟨canonSect_mapSet _ _ _ h.dflt (lower_idem _), h.names, h.nodef, h.sects⟩
  · have hd' : s ≠ defaultSect := by simpa using hd
    have hdf : (s == defaultSect) = false := beq_false_of_ne hd'
    simp only [hdf, Bool.false_eq_true, if_false]
    exact canon_setSect c h s hd' _ (canonSect_mapSet _ _ _ (canon_sect c h s) (lower_idem _))

theorem canon_removeOption (c : Ini) (h : Canon c) (s : Str) (k : Name) : Canon (c.removeOption s k) := by
  unfold Ini.removeOption
  by_cases hd : (s == defaultSect) = true
  · simp only [hd, if_true]
    exact ⟨canonSect_mapErase _ _ h.dflt, h.names, h.nodef, h.sects⟩
  · have hd' : s ≠ defaultSect := by simpa using hd
    have hdf : (s == defaultSect) = false := beq_false_of_ne hd'
    simp only [hdf, Bool.false_eq_true, if_false]
    exact canon_setSect c h s hd' _ (canonSect_mapErase _ _ (canon_sect c h s))

theorem canon_clear (c : Ini) (h : Canon c) : Canon { c with sections := [] } :=
  ⟨h.dflt, by simp, by simp, by simp⟩

theorem canon_reloadCfg (mem : Ini) (h : Canon mem) (disk : FileC) (uuid : Str) : Canon (reloadCfg mem disk uuid) := by
  unfold reloadCfg
  simp only
  split
  · exact canon_loadFile _ (canon_clear mem h) disk
  · exact canon_set _ (canon_loadFile _ (canon_clear mem h) disk) _ _ _

theorem canon_ensureSection (c : Ini) (h : Canon c) (s : Str) (hs : s ≠ defaultSect) : Canon (ensureSection c s) := by
  unfold ensureSection
  split
  · exact h
  · rename_i hns
    have hsf : (s == defaultSect) = false := beq_false_of_ne hs
    simp only [hsf, Bool.false_eq_true, if_false]
    have hnone : c.sections.lookup s = none := by
      cases hl : c.sections.lookup s with
      | none => rfl
      | some x => simp [Ini.hasSection, hl] at hns
    refine ⟨h.dflt, ?_, ?_, ?_⟩
    · simp only [List.map_append, List.map_cons, List.map_nil]
      rw [List.nodup_append]
      refine ⟨h.names, by simp, ?_⟩
      intro a ha b hb
      simp only [List.mem_singleton] at hb
      subst hb
      intro e
      subst e
      have := List.mem_keys_iff_lookup.mp ha
      rw [hnone] at this
      cases this
    · intro sec hsec
      rcases List.mem_append.mp hsec with hsec | hsec
      · exact h.nodef sec hsec
      · simp only [List.mem_singleton] at hsec
        subst hsec
        exact hs
    · intro sec hsec
      rcases List.mem_append.mp hsec with hsec | hsec
      · exact h.sects sec hsec
      · simp only [List.mem_singleton] at hsec
        subst hsec
        exact canonSect_nil

theorem canon_loadUser (fidb user : FileC) : Canon (loadUser fidb user) :=
  canon_loadFile _ (canon_loadFile _ canon_empty fidb) user

end Ofx.Ofxget
