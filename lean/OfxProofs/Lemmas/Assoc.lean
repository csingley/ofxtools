/-
Association lists (Python dicts in insertion order) through core's `List.lookup`: what a look-up says about membership
and about the list of keys.  `Agg.lookup` and `mapSet` meet these statements through one equation each
(`Agg.lookup_eq`, Lemmas/Agg.lean; `lookup_mapSet`, Lemmas/Ofxget.lean).
-/

namespace List

variable {α : Type _} {β : Type _} {γ : Type _} [BEq α]

theorem lookup_map_snd (f : β → γ) (k : α) (m : List (α × β)) :
    (m.map (fun kv => (kv.1, f kv.2))).lookup k = (m.lookup k).map f := by
  induction m with
  | nil => rfl
  | cons a rest ih =>
    obtain ⟨a1, a2⟩ := a
    simp only [map_cons, lookup_cons]
    split <;> simp [ih]

variable [LawfulBEq α]

theorem lookup_cons_ite [DecidableEq α] (k a : α) (b : β) (m : List (α × β)) :
    lookup k ((a, b) :: m) = if k = a then some b else lookup k m := by
  rw [lookup_cons]
  by_cases h : k = a
  · simp [h]
  · simp [h, beq_false_of_ne h]

theorem lookup_append_single [DecidableEq α] (l : List (α × β)) (n k : α) (x : β) :
    (l ++ [(n, x)]).lookup k = (l.lookup k).or (if k = n then some x else none) := by
  rw [lookup_append, lookup_cons_ite, lookup_nil]

theorem mem_of_lookup {l : List (α × β)} {k : α} {v : β} (h : l.lookup k = some v) : (k, v) ∈ l := by
  obtain ⟨l₁, l₂, rfl, -⟩ := lookup_eq_some_iff.mp h
  simp

theorem mem_keys_iff_lookup {l : List (α × β)} {k : α} : k ∈ l.map (·.1) ↔ (l.lookup k).isSome = true := by
  rw [lookup_isSome_iff, mem_map]
  exact ⟨fun ⟨p, hp, e⟩ => ⟨p, hp, e ▸ BEq.rfl⟩, fun ⟨p, hp, e⟩ => ⟨p, hp, (eq_of_beq e).symm⟩⟩

theorem lookup_eq_none_iff_not_mem_keys {l : List (α × β)} {k : α} : l.lookup k = none ↔ k ∉ l.map (·.1) := by
  rw [mem_keys_iff_lookup]; cases l.lookup k <;> simp

theorem lookup_of_mem_nodup {l : List (α × β)} (hnd : (l.map (·.1)).Nodup) {k : α} {v : β} (hm : (k, v) ∈ l) :
    l.lookup k = some v := by
  obtain ⟨s, t, rfl⟩ := append_of_mem hm
  rw [map_append, nodup_append] at hnd
  rw [lookup_append, lookup_eq_none_iff_not_mem_keys.mpr fun hk => hnd.2.2 k hk k (by simp) rfl]
  simp

end List
