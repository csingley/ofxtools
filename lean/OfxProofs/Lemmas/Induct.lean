/-
Induction over the two nested types of the model, `Tree` (children in a list) and `Node` (an instance's dict and
members in lists), with the hypothesis for every element of the lists.  A predicate over one of them is a mutual
recursion with a twin over each list; `allItems` … say what the twin is, so that a proof about the predicate is one
induction here.  Where the statement itself is about lists (two trees side by side, a text built child by child), the
recursor with its list motive is the induction to use (Lemmas/Serialize.lean).
-/
import OfxModel.Ofx.Tree
import OfxModel.Ofx.Value

namespace Ofx

theorem Tree.induct {motive : Tree → Prop}
    (node : ∀ tag x tl cs, (∀ c ∈ cs, motive c) → motive (.node tag x tl cs)) : ∀ t, motive t :=
  Tree.rec (motive_2 := fun cs => ∀ c ∈ cs, motive c) node (fun _ h => nomatch h)
    fun _ _ hc hcs _ hd => (List.mem_cons.mp hd).elim (· ▸ hc) (hcs _)

theorem Node.induct {motive : Node → Prop} (val : ∀ v, motive (.val v))
    (agg : ∀ ci fields items, (∀ k v, (k, v) ∈ fields → motive v) → (∀ v ∈ items, motive v) →
      motive (.agg ci fields items)) : ∀ n, motive n :=
  Node.rec (motive_2 := fun fs => ∀ k v, (k, v) ∈ fs → motive v) (motive_3 := fun is => ∀ v ∈ is, motive v)
    (motive_4 := fun p => motive p.2) val agg
    (fun _ _ h => nomatch h)
    (fun _ _ hp hr _ _ hd => (List.mem_cons.mp hd).elim (fun e => by cases e; exact hp) (hr _ _))
    (fun _ h => nomatch h)
    (fun _ _ hv hr _ hd => (List.mem_cons.mp hd).elim (· ▸ hv) (hr _))
    fun _ _ h => h

/-- `pl` is the list twin of `p`; for such a definition both hypotheses hold by `rfl` -/
theorem allItems {α} {p : α → Prop} {pl : List α → Prop} (h0 : pl []) (hc : ∀ v r, pl (v :: r) ↔ p v ∧ pl r) :
    ∀ l, pl l ↔ ∀ v, v ∈ l → p v
  | [] => by simp [h0]
  | v :: r => by simp [hc, allItems h0 hc r]

theorem allFields {p : Node → Prop} {pf : List (Str × Node) → Prop} (h0 : pf [])
    (hc : ∀ k v r, pf ((k, v) :: r) ↔ p v ∧ pf r) (fs : List (Str × Node)) : pf fs ↔ ∀ k v, (k, v) ∈ fs → p v :=
  (allItems (p := fun kv => p kv.2) h0 (fun _ => hc _ _) fs).trans Prod.forall

theorem allItemsB {α} {p : α → Bool} {pl : List α → Bool} (h0 : pl [] = true)
    (hc : ∀ v r, pl (v :: r) = (p v && pl r)) (l : List α) : pl l = true ↔ ∀ v, v ∈ l → p v = true :=
  allItems (p := (p · = true)) (pl := (pl · = true)) h0 (fun v r => by rw [hc, Bool.and_eq_true]) l

theorem allFieldsB {p : Node → Bool} {pf : List (Str × Node) → Bool} (h0 : pf [] = true)
    (hc : ∀ k v r, pf ((k, v) :: r) = (p v && pf r)) (fs : List (Str × Node)) :
    pf fs = true ↔ ∀ k v, (k, v) ∈ fs → p v = true :=
  allFields (p := (p · = true)) (pf := (pf · = true)) h0 (fun k v r => by rw [hc, Bool.and_eq_true]) fs

end Ofx
