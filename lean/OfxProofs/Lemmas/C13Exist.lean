/-
Lemmas for the constructibility theorems of C13 (`Props/C13Exist.lean`): whatever `Witness.build` returns satisfies
every constraint of its class all the way down (`ValidFull`), for every description; a valid instance holding a child
is written with that child under `wireTag`; the per-(class, child) obligation as a `Bool` (`pairOk`, Defs/C13Table.lean) and its
meaning `Witnessed`.
-/
import OfxModel.Spec.Witness
import OfxProofs.Props.C04Ext
import OfxProofs.Lemmas.C13Valid
import OfxProofs.Defs.C13Table

namespace Ofx.Agg
open Ofx Ofx.Spec.Witness

/- By the recursor of `Node`, each constructor case unfolded by `show`: the unfolding lemmas the equation compiler makes
   for the nested recursion of `nodeBeq` cost fifty times this proof. -/
theorem nodeBeq_sound : ∀ (a b : Node), nodeBeq a b = true → a = b := by
  intro a
  refine Node.rec (motive_1 := fun a => ∀ b, nodeBeq a b = true → a = b)
    (motive_2 := fun f => ∀ f', fieldsBeq f f' = true → f = f')
    (motive_3 := fun i => ∀ i', itemsBeq i i' = true → i = i')
    (motive_4 := fun p => ∀ q : Str × Node, (decide (p.1 = q.1) && nodeBeq p.2 q.2) = true → p = q)
    ?_ ?_ ?_ ?_ ?_ ?_ ?_ a
  · intro v b h
    cases b with
    | val w => exact congrArg Node.val (of_decide_eq_true h)
    | agg => cases h
  · intro c f i ihf ihi b h
    cases b with
    | val => cases h
    | agg c' f' i' =>
      have h : (decide (c = c') && fieldsBeq f f' && itemsBeq i i') = true := h
      simp only [Bool.and_eq_true, decide_eq_true_eq] at h
      rw [h.1.1, ihf f' h.1.2, ihi i' h.2]
  · intro f' h
    cases f' with
    | nil => rfl
    | cons => cases h
  · intro p r ihp ihr f' h
    cases f' with
    | nil => cases h
    | cons q r' =>
      have h : (decide (p.1 = q.1) && nodeBeq p.2 q.2 && fieldsBeq r r') = true := h
      simp only [Bool.and_eq_true] at h
      rw [ihp q (by simp only [Bool.and_eq_true]; exact h.1), ihr r' h.2]
  · intro i' h
    cases i' with
    | nil => rfl
    | cons => cases h
  · intro v r ihv ihr i' h
    cases i' with
    | nil => cases h
    | cons v' r' =>
      have h : (nodeBeq v v' && itemsBeq r r') = true := h
      simp only [Bool.and_eq_true] at h
      rw [ihv v' h.1, ihr r' h.2]
  · intro n v ih q h
    obtain ⟨n', v'⟩ := q
    simp only [Bool.and_eq_true, decide_eq_true_eq] at h
    rw [h.1, ih v' h.2]

theorem fieldsBeq_sound : ∀ (a b : List (Str × Node)), fieldsBeq a b = true → a = b := by
  intro a b h
  have h' : nodeBeq (.agg 0 a []) (.agg 0 b []) = true := by
    show (decide (0 = 0) && fieldsBeq a b && itemsBeq [] []) = true
    rw [h]; rfl
  injection nodeBeq_sound _ _ h'

theorem itemsBeq_sound : ∀ (a b : List Node), itemsBeq a b = true → a = b := by
  intro a b h
  have h' : nodeBeq (.agg 0 [] a) (.agg 0 [] b) = true := by
    show (decide (0 = 0) && fieldsBeq [] [] && itemsBeq a b) = true
    rw [h]; rfl
  injection nodeBeq_sound _ _ h'

theorem build_agg_ok {S : Schema} {cv : Conv} {ci : Nat} {kw : List (Str × Node)} {args : List Node} {n : Node}
    (h : build S cv (.agg ci kw args) = .ok n) :
    ∃ kw' args', buildKw S cv kw = .ok kw' ∧ buildArgs S cv args = .ok args' ∧
      construct S cv ci args' kw' = .ok n := by
  cases hk : buildKw S cv kw with
  | error e => simp [build, hk] at h
  | ok kw' =>
    cases ha : buildArgs S cv args with
    | error e => simp [build, hk, ha] at h
    | ok args' => exact ⟨kw', args', rfl, rfl, by simpa only [build, hk, ha] using h⟩

theorem buildArgs_eq (S : Schema) (cv : Conv) : ∀ args, buildArgs S cv args = args.mapM (build S cv)
  | [] => rfl
  | d :: r => by
    rw [buildArgs, buildArgs_eq S cv r, List.mapM_cons]
    cases build S cv d with
    | error e => rfl
    | ok d' => cases r.mapM (build S cv) <;> rfl

theorem buildKw_eq (S : Schema) (cv : Conv) :
    ∀ kw, buildKw S cv kw = kw.mapM fun p => (build S cv p.2).map (p.1, ·)
  | [] => rfl
  | (k, d) :: r => by
    rw [buildKw, buildKw_eq S cv r, List.mapM_cons]
    cases build S cv d with
    | error e => rfl
    | ok d' => cases r.mapM fun p => (build S cv p.2).map (p.1, ·) <;> rfl

theorem build_agg (S : Schema) (cv : Conv) (ci : Nat) (kw : List (Str × Node)) (args : List Node) (n : Node)
    (h : build S cv (.agg ci kw args) = .ok n) : ∃ fields items, n = .agg ci fields items := by
  obtain ⟨kw', args', _, _, hc⟩ := build_agg_ok h
  obtain ⟨_, fields, items, _, _, _, _, _, hn⟩ := (construct_ok_iff S cv ci args' kw' n).mp hc
  exact ⟨fields, items, hn⟩

section
variable (S : Schema) (hS : SchemaOk S)
include hS

theorem build_full : ∀ (d n : Node), build S Types.conv d = .ok n → n.isAgg = true → ValidFull S n := by
  intro d
  induction d using Node.induct with
  | val v => intro n h hagg; cases h; cases hagg
  | agg ci kw args ihK ihA =>
    intro n h _
    obtain ⟨kw', args', hk, ha, hc⟩ := build_agg_ok h
    rw [buildKw_eq] at hk
    rw [buildArgs_eq] at ha
    refine C04_sound_full_kw S hS ci args' kw' n hc (fun m hm => ?_) (fun k v hm => ?_)
    · obtain ⟨d, hd, hb⟩ := PyM.mapM_mem_right ha hm
      exact ihA d hd m hb
    · obtain ⟨⟨k0, d⟩, hd, hb⟩ := PyM.mapM_mem_right hk hm
      obtain ⟨v', hv', e⟩ := PyM.map_ok hb
      cases e
      exact ihK k0 d hd v hv'

theorem buildArgs_full : ∀ (args args' : List Node), buildArgs S Types.conv args = .ok args' →
    ∀ m ∈ args', m.isAgg = true → ValidFull S m := by
  intro args args' h m hm
  obtain ⟨d, _, hb⟩ := PyM.mapM_mem_right (buildArgs_eq S _ args ▸ h) hm
  exact build_full S hS d m hb

end

section
variable (S : Schema) (cv : Conv) (c : Cls) (fields : List (Str × Node)) (items : List Node)

theorem leafOf_tag {a : Attr} {t : Val} {ch : Tree} (h : leafOf a t = .ok ch) : ch.tag = upper a.name := by
  cases t <;> simp only [leafOf, Except.ok.injEq, reduceCtorEq] at h <;> subst h <;> rfl

theorem fieldTree_val_tag {a : Attr} {x : Val} {o : Option Tree} (hx : x ≠ .none)
    (h : fieldTree S cv a (.val x) = .ok o) : ∃ ch, o = some ch ∧ ch.tag = upper a.name := by
  have key : (do let t ← cv.unconvert S.enums a.kind a.required x
                 let child ← leafOf a t
                 pure (some child)) = .ok o → ∃ ch, o = some ch ∧ ch.tag = upper a.name := by
    intro h
    obtain ⟨t, _, h⟩ := PyM.bind_ok h
    obtain ⟨ch, hch, h⟩ := PyM.bind_ok h
    exact ⟨ch, by simpa [eq_comm] using h, leafOf_tag hch⟩
  cases x <;> first | exact absurd rfl hx | exact key h

theorem emitSpec_emits_of (L : List Attr) (doList : Bool) (out : List Tree)
    (h : emitSpec S cv c fields (fieldTrees S cv fields) items (itemTrees S cv items) L doList = .ok out)
    (a : Attr) (ha : a ∈ L) (hl : a.kind.isList = false) (hu : a.kind.isUnsupported = false) (v : Node)
    (hv : lookup a.name fields = some v) (tag : Str)
    (hft : ∀ o, fieldTree S cv a v = .ok o → ∃ ch, o = some ch ∧ ch.tag = tag) : ∃ ch ∈ out, ch.tag = tag := by
  obtain ⟨o, o1, o2, ho, rfl⟩ := emitSpec_field_mem S cv c fields items h ha hl hu hv
  obtain ⟨ch, rfl, htag⟩ := hft o ho
  exact ⟨ch, by simp, htag⟩

theorem emitSpec_emits (L : List Attr) (doList : Bool) (out : List Tree)
    (h : emitSpec S cv c fields (fieldTrees S cv fields) items (itemTrees S cv items) L doList = .ok out)
    (a : Attr) (ha : a ∈ L) (hl : a.kind.isList = false) (hu : a.kind.isUnsupported = false) (x : Val)
    (hx : lookup a.name fields = some (.val x)) (hxn : x ≠ .none) : ∃ ch ∈ out, ch.tag = upper a.name :=
  emitSpec_emits_of S cv c fields items L doList out h a ha hl hu _ hx _ (fun _ => fieldTree_val_tag S cv hxn)

theorem listAppend_member (hel : c.elementList = false) (ms : List Tree)
    (h : listAppend S cv c items (itemTrees S cv items) = .ok ms) (m : Node) (hm : m ∈ items) :
    ∃ ch ∈ ms, toEtree S cv m = .ok ch := by
  simp only [listAppend, hel, Bool.false_eq_true, if_false, itemTrees_eq_map] at h
  exact PyM.mapM_mem_left h (List.mem_map_of_mem hm)

theorem listAppend_elems (hel : c.elementList = true) (a : Attr) (inner : Kind) (ireq : Bool)
    (hfilt : c.spec.filter (fun a => a.kind.isListElem) = [a]) (hk : a.kind = .listElem inner ireq) (ms : List Tree)
    (h : listAppend S cv c items (itemTrees S cv items) = .ok ms) :
    ms.length = items.length ∧ ∀ ch ∈ ms, ch.tag = upper a.name := by
  simp only [listAppend, hel, if_true, hfilt, hk] at h
  refine ⟨PyM.mapM_length h, fun ch hch => ?_⟩
  obtain ⟨m, _, hm⟩ := PyM.mapM_mem_right h hch
  obtain ⟨t, _, hleaf⟩ := PyM.bind_ok hm
  exact leafOf_tag hleaf

end

theorem renameFirst_tag (u : Rename) (g : Str) : ∀ (L : List Tree), (∃ ch ∈ L, ch.tag = g) →
    ∃ ch ∈ renameFirst u L, ch.tag = if g = u.fromTag then u.toTag else g
  | [], h => by obtain ⟨_, hm, _⟩ := h; simp at hm
  | (.node t x tl cs) :: rest, ⟨ch, hm, htag⟩ => by
    by_cases ht : t = u.fromTag
    · simp only [renameFirst, ht, if_true]
      by_cases hg : g = u.fromTag
      · exact ⟨_, List.mem_cons_self, by rw [if_pos hg]; rfl⟩
      · rcases List.mem_cons.mp hm with rfl | hm
        · exact absurd (htag.symm.trans ht) hg
        · exact ⟨ch, List.mem_cons_of_mem _ hm, by rw [if_neg hg]; exact htag⟩
    · simp only [renameFirst, ht, if_false]
      rcases List.mem_cons.mp hm with rfl | hm
      · exact ⟨_, List.mem_cons_self, by rw [if_neg (fun hg => ht (htag.trans hg))]; exact htag⟩
      · obtain ⟨ch', hm', ht'⟩ := renameFirst_tag u g rest ⟨ch, hm, htag⟩
        exact ⟨ch', List.mem_cons_of_mem _ hm', ht'⟩

theorem renameFirst_has (u : Rename) (L : List Tree) (h : ∃ ch ∈ L, ch.tag = u.fromTag) :
    ∃ ch ∈ renameFirst u L, ch.tag = u.toTag := by
  simpa using renameFirst_tag u u.fromTag L h

theorem clsNamed_tag {S : Schema} {cv : Conv} {t : Nat} {n : Str} (h : clsNamed S t n = true)
    {f : List (Str × Node)} {i : List Node} {ch : Tree} (hch : toEtree S cv (.agg t f i) = .ok ch) : ch.tag = n := by
  unfold clsNamed at h
  cases hc : S.cls? t with
  | none => rw [hc] at h; cases h
  | some tc =>
    rw [hc] at h
    rw [(toEtree_shape S cv t f i tc ch hc hch).1]
    exact beq_iff_eq.mp h

theorem written_tag (S : Schema) (cv : Conv) (esc : Str → Str) (Dom : Kind → Bool → Val → Prop) (c : Cls)
    (ci : Nat) (fields : List (Str × Node)) (items : List Node) (ok : NodeOk S cv esc Dom c ci fields items)
    (a : Attr) (ha : a ∈ c.spec) (hs : a.kind.isUnsupported = false) (hh : holds a (.agg ci fields items) = true)
    (htag : tagB S c a = true) (t : Tree) (ht : toEtree S cv (.agg ci fields items) = .ok t) :
    ∃ ch ∈ t.children, ch.tag = wireTag c a := by
  obtain ⟨out, hout, rfl⟩ := toEtree_ok S cv ok.hc ht
  have plain : a.kind.isList = false → ∀ v, lookup a.name fields = some v → notNone v = true →
      ∃ ch ∈ out, ch.tag = upper a.name := by
    intro hl v hv hn
    cases v with
    | val x =>
      have hx : x ≠ .none := by rintro rfl; cases hn
      exact emitSpec_emits S cv c fields items c.spec true out hout a ha hl hs x hv hx
    | agg cj f i =>
      obtain ⟨w, hw, hfo⟩ := ok.fm.lookup (specNoList_nodup c ok.wf.nodup) a (mem_specNoList.mpr ⟨ha, hl⟩) hs
      rw [hv] at hw
      injection hw with hw
      subst hw
      simp only [tagB, hfo.agg] at htag
      exact emitSpec_emits_of S cv c fields items c.spec true out hout a ha hl hs _ hv _ (fun o ho => by
        obtain ⟨t', ht', rfl⟩ := PyM.map_ok (show (toEtree S cv (.agg cj f i)).map some = .ok o from ho)
        exact ⟨t', rfl, clsNamed_tag htag ht'⟩)
  have hup : ∃ ch ∈ out, ch.tag = upper a.name := by
    cases hk : a.kind with
    | listAgg tcl =>
      simp only [holds, hk, List.any_eq_true, beq_iff_eq] at hh
      simp only [tagB, hk, Bool.and_eq_true, Bool.not_eq_true'] at htag
      obtain ⟨m, hm, hmc⟩ := hh
      obtain ⟨ms, o1, o2, hms, rfl⟩ := emitSpec_members S cv c fields items hout
        (List.any_eq_true.mpr ⟨a, ha, by rw [hk]; rfl⟩)
      have hsub : ∀ ch ∈ ms, ch ∈ o1 ++ (ms ++ o2) := fun ch h => by simp [h]
      obtain ⟨ch, hchm, hm'⟩ := listAppend_member S cv c items htag.1 ms hms m hm
      cases m with
      | val => cases hmc
      | agg cj f i =>
        injection hmc with hmc
        subst hmc
        exact ⟨ch, hsub ch hchm, clsNamed_tag htag.2 hm'⟩
    | listElem inner ireq =>
      simp only [holds, hk, Bool.not_eq_true', List.isEmpty_eq_false_iff] at hh
      simp only [tagB, hk] at htag
      obtain ⟨a0, inner0, ireq0, hfilt, hk0, hall⟩ := ok.wf.elOk htag
      have ha0 : a = a0 := hall a ha (by rw [hk]; rfl)
      subst ha0
      obtain ⟨ms, o1, o2, hms, rfl⟩ := emitSpec_members S cv c fields items hout
        (List.any_eq_true.mpr ⟨a, ha, by rw [hk]; rfl⟩)
      have hsub : ∀ ch ∈ ms, ch ∈ o1 ++ (ms ++ o2) := fun ch h => by simp [h]
      obtain ⟨hlen, htags⟩ := listAppend_elems S cv c items htag a inner0 ireq0 hfilt hk0 ms hms
      cases ms with
      | nil => exact absurd (List.eq_nil_of_length_eq_zero hlen.symm) hh
      | cons ch _ => exact ⟨ch, hsub ch List.mem_cons_self, htags ch List.mem_cons_self⟩
    | _ =>
      all_goals
        simp only [holds, hk] at hh
        cases hv : lookup a.name fields with
        | none => rw [hv] at hh; cases hh
        | some v => rw [hv] at hh; exact plain (by rw [hk]; rfl) v hv hh
  unfold wireTag Tree.children
  cases hu : c.ungroom with
  | none => exact hup
  | some u => exact renameFirst_tag u (upper a.name) out hup

section
variable (S : Schema) (cv : Conv) (esc : Str → Str) (domB : Kind → Bool → Val → Bool) (X : List Str)

def Written (c : Cls) (a : Attr) (n : Node) : Prop :=
  ∃ t, toEtree S cv n = .ok t ∧ (∃ ch ∈ t.children, ch.tag = wireTag c a) ∧
    fromEtree S cv (mapText esc t) = .ok n

def Witnessed (fuel ci : Nat) (c : Cls) (a : Attr) : Prop :=
  ∃ d n, mkWith S fuel ci a = some d ∧ build S cv d = .ok n ∧ holds a n = true ∧ Written S cv esc c a n

theorem pairOk_built (fuel ci : Nat) (c : Cls) (a : Attr) (h : pairOk S cv esc domB X fuel ci c a = true) :
    ∃ d n, mkWith S fuel ci a = some d ∧ build S cv d = .ok n ∧ holds a n = true ∧
      (validTagged S cv esc domB X ci c a n = true ∨ writtenRead S cv esc c a n = true) := by
  unfold pairOk at h
  cases hd : mkWith S fuel ci a with
  | none => simp [hd] at h
  | some d =>
    cases hb : build S cv d with
    | error e => simp [hd, hb] at h
    | ok n =>
      simp only [hd, hb, Bool.and_eq_true, Bool.or_eq_true] at h
      exact ⟨d, n, rfl, hb, h.1, h.2⟩

theorem writtenRead_sound (c : Cls) (a : Attr) (n : Node) (h : writtenRead S cv esc c a n = true) :
    Written S cv esc c a n := by
  unfold writtenRead at h
  cases ht : toEtree S cv n with
  | error e => simp [ht] at h
  | ok t =>
    cases hf : fromEtree S cv (mapText esc t) with
    | error e => simp [ht, hf] at h
    | ok n' =>
      simp only [ht, hf, Bool.and_eq_true, List.any_eq_true, decide_eq_true_eq] at h
      exact ⟨t, ht, h.1, by rw [hf, nodeBeq_sound n' n h.2]⟩

theorem validTagged_sound (env : CheckEnv S cv esc domB X) (ci : Nat) (c : Cls) (a : Attr) (n : Node)
    (hc : S.cls? ci = some c) (ha : a ∈ c.spec) (hs : a.kind.isUnsupported = false) (hh : holds a n = true)
    (h : validTagged S cv esc domB X ci c a n = true) : Written S cv esc c a n := by
  simp only [validTagged, Bool.and_eq_true, decide_eq_true_eq] at h
  obtain ⟨⟨hci, htag⟩, hv⟩ := h
  cases n with
  | val => cases hci
  | agg cj fields items =>
    injection hci with hci
    subst hci
    have hvalid := validB_sound S cv esc domB X env _ hv
    obtain ⟨t, ht, hrt⟩ := rt_node S cv esc (domOf domB) env.laws _ hvalid
    obtain ⟨⟨c', ok⟩, _, _⟩ := hvalid
    have hcc : c' = c := Option.some.inj (ok.hc.symm.trans hc)
    subst hcc
    exact ⟨t, ht, written_tag S cv esc (domOf domB) c' cj fields items ok a ha hs hh htag t ht, hrt⟩

theorem pairOk_sound (env : CheckEnv S cv esc domB X) (fuel ci : Nat) (c : Cls) (a : Attr)
    (hc : S.cls? ci = some c) (ha : a ∈ c.spec) (hs : a.kind.isUnsupported = false)
    (h : pairOk S cv esc domB X fuel ci c a = true) : Witnessed S cv esc fuel ci c a := by
  obtain ⟨d, n, hd, hb, hh, hw⟩ := pairOk_built S cv esc domB X fuel ci c a h
  refine ⟨d, n, hd, hb, hh, ?_⟩
  rcases hw with hw | hw
  · exact validTagged_sound S cv esc domB X env ci c a n hc ha hs hh hw
  · exact writtenRead_sound S cv esc c a n hw

theorem rangeOk_sound (env : CheckEnv S cv esc domB X) (fuel lo n : Nat)
    (h : rangeOk S cv esc domB X fuel lo n = true) (ci : Nat) (h1 : lo ≤ ci)
    (h2 : ci < lo + n) (c : Cls) (hc : S.cls? ci = some c) (hab : c.abstract = false) (hex : c.exported = true)
    (a : Attr) (ha : a ∈ c.spec) (hs : a.kind.isUnsupported = false) : Witnessed S cv esc fuel ci c a := by
  have hmem : ci ∈ List.range' lo n := by
    rw [List.mem_range'_1]; exact ⟨h1, h2⟩
  have hcl := (List.all_eq_true.mp h) ci hmem
  simp only [clsPairsOk, hc, hab, hex, Bool.not_true, Bool.false_or, List.all_eq_true] at hcl
  exact pairOk_sound S cv esc domB X env fuel ci c a hc ha hs
    (hcl a (List.mem_filter.mpr ⟨ha, by simp [supported, hs]⟩))

end

end Ofx.Agg
