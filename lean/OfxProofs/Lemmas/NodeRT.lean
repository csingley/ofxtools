/-
The per-node round trip (`node_rt`: `NodeOk` → `RT`) for plain aggregates, `ElementList`s and classes with a `groom` /
`ungroom` rename, and its lift to whole instances (`rt_node`: `Valid` → `RT`).  Both predicates are defined here:
`NodeOk`, the validity of one node, at the head; `Valid`, the instance premise of C01 and C13, just before `rt_node`:
`NodeOk` at every aggregate of the instance.
-/
import OfxProofs.Lemmas.Groom
namespace Ofx.Agg
open Ofx

section
variable (S : Schema) (cv : Conv) (esc : Str → Str) (Dom : Kind → Bool → Val → Prop)

structure NodeOk (c : Cls) (ci : Nat) (fields : List (Str × Node)) (items : List Node) : Prop where
  hc : S.cls? ci = some c
  concrete : c.abstract = false
  hfind : S.findIdx? c.name = some ci
  wf : ClsWF S c
  gr : GroomOk c
  fm : FieldsMatch (FieldOk Dom) (specNoList c) fields
  itemsEx : c.elementList = false → ∀ m ∈ items, ∃ cj f i cjc, m = .agg cj f i ∧ S.cls? cj = some cjc ∧
    (listAggNames c).contains (lower cjc.name) = true ∧ '.' ∉ cjc.name
  elItems : c.elementList = true → ∀ a ∈ c.spec, ∀ inner ireq, a.kind = .listElem inner ireq →
    ∀ m ∈ items, ∃ x, m = .val x ∧ x ≠ .none ∧ Dom inner ireq x
  /-- `to_etree` writes the members at the first list attribute of the spec: a class without one would drop them -/
  noList : c.spec.any (·.kind.isList) = false → items = []
  /-- stated on the keywords the reader hands the constructor (`rawKwOf` / `rawItemsOf`: the stored values written
      and read back), which is why validity depends on `cv` and `esc` and not on the instance alone -/
  validate : validateArgs S c (rawItemsOf S cv esc c items) (rawKwOf S cv esc fields c.spec) = .ok ()

theorem NodeOk.ctx {c : Cls} {ci : Nat} {fields : List (Str × Node)} {items : List Node}
    (ok : NodeOk S cv esc Dom c ci fields items) (laws : ConvLaws cv S.enums esc Dom)
    (ihF : ∀ n v, (n, v) ∈ fields → v.isAgg = true → RT S cv esc v)
    (ihI : ∀ m ∈ items, m.isAgg = true → RT S cv esc m) : RTCtx S cv esc Dom (noGroom c) fields items :=
  { wf := clsWF_noGroom S c ok.wf, hg := rfl, laws := laws
    fieldOk := fun a ha hl hu =>
      ok.fm.lookup (specNoList_nodup c ok.wf.nodup) a (mem_specNoList.mpr ⟨ha, hl⟩) hu
    subRT := fun a _ v hv hagg => ihF a.name v (lookup_mem hv) hagg
    itemsOk := fun hel m hm => ⟨ok.itemsEx hel m hm, ihI m hm (by
      obtain ⟨cj, f, i, _, rfl, _⟩ := ok.itemsEx hel m hm; rfl)⟩
    elItems := ok.elItems }

/-- what `fold_groom` asks of the written children: each tag is a spec name (hence not the rename's source), and a
    child under a non-list, non-sub attribute (the renamed one is such) carries a text that `esc` leaves non-empty -/
theorem NodeOk.child_facts {c : Cls} {ci : Nat} {fields : List (Str × Node)} {items : List Node}
    (ok : NodeOk S cv esc Dom c ci fields items) (laws : ConvLaws cv S.enums esc Dom) (ch : Tree)
    (hch : ChildOk S cv (noGroom c) fields items ch) :
    lower ch.tag ∈ c.spec.map (·.name) ∧
    (∀ a ∈ c.spec, a.name = lower ch.tag → a.kind.isList = false → Kind.subTarget a.kind = none →
      ∃ s, ch.text = some s ∧ esc s ≠ []) := by
  have hnd := ok.wf.nodup
  have hnd' := specNoList_nodup c hnd
  rcases hch with ⟨a', ha', x, s, hl, hu, hx, hv, hunc, rfl⟩ | ⟨v, hvmem, hagg, hvt⟩ |
    ⟨a', ha', inner, ireq, x, s, hel, hk, hxi, hx, hunc, rfl⟩
  · have ha'' : a' ∈ c.spec := ha'
    obtain ⟨hname, _⟩ := ok.wf.nameOk a' ha''
    refine ⟨by simp only [Tree.tag, hname]; exact List.mem_map_of_mem ha'', ?_⟩
    intro a _ _ _ _
    obtain ⟨w, hw, hfo⟩ := ok.fm.lookup hnd' a' (mem_specNoList.mpr ⟨ha'', hl⟩) hu
    rw [hv] at hw; injection hw with hw; subst hw
    obtain ⟨s', hunc', hne, _⟩ := laws.round a'.kind a'.required x (hfo.dom hx) hx
    rw [hunc] at hunc'; injection hunc' with h1; injection h1 with h1; subst h1
    exact ⟨s, rfl, hne⟩
  · cases v with
    | val y => simp [Node.isAgg] at hagg
    | agg cj f i =>
      rcases hvmem with ⟨n, hn⟩ | hi
      · obtain ⟨a', ha', han, _, hfo⟩ := ok.fm.mem n _ hn
        have ha'' : a' ∈ c.spec := (List.mem_filter.mp ha').1
        have hkind : a'.kind = .sub cj := hfo.agg
        obtain ⟨tc, htc, hlow, _, _⟩ := ok.wf.subOk a' ha'' cj (Or.inl hkind)
        obtain ⟨htag, _⟩ := toEtree_shape S cv cj f i tc ch htc hvt
        refine ⟨by rw [htag, hlow]; exact List.mem_map_of_mem ha'', ?_⟩
        intro a ha hname _ hsub
        have : a = a' := nodup_map_inj hnd ha ha'' (by rw [hname, htag, hlow])
        subst this
        rw [hkind] at hsub; cases hsub
      · cases hel : c.elementList with
        | true =>
          obtain ⟨a0, inner, ireq, hfilt, hk0, _⟩ := ok.wf.elOk hel
          have ha0 : a0 ∈ c.spec := by
            have : a0 ∈ c.spec.filter (fun a => a.kind.isListElem) := by rw [hfilt]; simp
            exact (List.mem_filter.mp this).1
          obtain ⟨y, hy, _⟩ := ok.elItems hel a0 ha0 inner ireq hk0 _ hi
          cases hy
        | false =>
          obtain ⟨cj', f', i', cjc, heq, hcj, hin, _⟩ := ok.itemsEx hel _ hi
          injection heq with h1 h2 h3; subst h1; subst h2; subst h3
          obtain ⟨htag, _⟩ := toEtree_shape S cv cj f i cjc ch hcj hvt
          have hmem : lower cjc.name ∈ listAggNames c := by simpa using hin
          simp only [listAggNames, hel, Bool.false_eq_true, if_false, List.mem_map, List.mem_filter] at hmem
          obtain ⟨a', ⟨ha', hk'⟩, hname'⟩ := hmem
          refine ⟨by rw [htag, ← hname']; exact List.mem_map_of_mem ha', ?_⟩
          intro a ha hname hl _
          have : a = a' := nodup_map_inj hnd ha ha' (by rw [hname, htag, hname'])
          subst this
          rw [Kind.isList_of_isListAgg hk'] at hl; cases hl
  · have ha'' : a' ∈ c.spec := ha'
    obtain ⟨hname, _⟩ := ok.wf.nameOk a' ha''
    refine ⟨by simp only [Tree.tag, hname]; exact List.mem_map_of_mem ha'', ?_⟩
    intro a ha hn hl _
    simp only [Tree.tag, hname] at hn
    have : a = a' := nodup_map_inj hnd ha ha'' hn
    subst this
    rw [hk] at hl; simp [Kind.isList] at hl

theorem NodeOk.construct_raw {c : Cls} {ci : Nat} {fields : List (Str × Node)} {items : List Node}
    (ok : NodeOk S cv esc Dom c ci fields items) (laws : ConvLaws cv S.enums esc Dom) :
    construct S cv ci (rawItemsOf S cv esc c items) (rawKwOf S cv esc fields c.spec) = .ok (.agg ci fields items) := by
  have hfm : FieldsMatch (fun a v => FieldOk Dom a v ∧
      lookup a.name (rawKwOf S cv esc fields c.spec) = rawField S cv esc a v) (specNoList c) fields := by
    refine (ok.fm.withLookup (specNoList_nodup c ok.wf.nodup)).imp ?_
    intro a ha v ⟨hfo, hu, hlk⟩
    have hmem := mem_specNoList.mp ha
    exact ⟨hfo, lookup_rawKwOf S cv esc fields c.spec ok.wf.nodup a hmem.1 hmem.2 hu v hlk⟩
  have hset := setAttrs_rt S cv esc Dom laws (rawKwOf S cv esc fields c.spec) hfm
    (fun a ha => ⟨(mem_specNoList.mp ha).2, ok.wf.enumOk a (mem_specNoList.mp ha).1⟩)
  simp [construct, ok.hc, ok.validate, hset, applyArgs_rt S cv esc Dom laws c items ok.wf ok.itemsEx ok.elItems,
    applyResidual_rt S cv esc c fields]

/-- `emit_fold` for the class with the rename hooks taken off (`noGroom c`), then `fold_groom` puts them back -/
theorem NodeOk.read_written {c : Cls} {ci : Nat} {fields : List (Str × Node)} {items : List Node}
    (ok : NodeOk S cv esc Dom c ci fields items) (laws : ConvLaws cv S.enums esc Dom)
    (ihF : ∀ n v, (n, v) ∈ fields → v.isAgg = true → RT S cv esc v)
    (ihI : ∀ m ∈ items, m.isAgg = true → RT S cv esc m) :
    ∃ ts out acc, emitSpec S cv c fields (fieldTrees S cv fields) items (itemTrees S cv items) c.spec true = .ok ts ∧
      (∀ ch ∈ ts, ChildOk S cv (noGroom c) fields items ch) ∧
      toEtree S cv (.agg ci fields items) = .ok (Tree.node c.name none none out) ∧
      foldChildren c (mapTextList esc out) (childInsts S cv (mapTextList esc out)) Accum.init = .ok acc ∧
      acc.args = rawItemsOf S cv esc c items ∧ acc.kwargs = rawKwOf S cv esc fields c.spec := by
  obtain ⟨ts, acc', hemit, hfold, hkw, hargs, hch⟩ :=
    emit_fold S cv esc Dom (noGroom c) fields items (ok.ctx S cv esc Dom laws ihF ihI) c.spec [] true Accum.init
      (by simp [noGroom]) (by simp) (by intro k hk; simp [Accum.init, hasKey, lookup] at hk) (by simp [PrevOk, Accum.init])
  rw [emitSpec_noGroom] at hemit
  have hargs' : acc'.args = rawItemsOf S cv esc c items := by
    rw [hargs]
    show [] ++ (if true && c.spec.any (·.kind.isList) then rawItemsOf S cv esc c items else []) = _
    cases hany : c.spec.any (·.kind.isList) with
    | true => simp
    | false => simp [ok.noList hany, rawItemsOf_nil]
  have hkw' : acc'.kwargs = rawKwOf S cv esc fields c.spec := by rw [hkw]; exact List.nil_append _
  have hwrite := toEtree_agg S cv ci c fields items ok.hc
  rw [hemit] at hwrite
  rcases ok.gr with ⟨hg, hug⟩ | ⟨r, u, hg, hug, hinv1, hinv2, hdot, hsrc, a, ha, han, hal, hasub⟩
  · rw [noGroom_eq c hg hug] at hfold
    rw [hug] at hwrite
    exact ⟨ts, ts, acc', hemit, hch, hwrite, hfold, hargs', hkw'⟩
  · have hfacts : ∀ ch ∈ mapTextList esc ts, ch.tag ≠ r.fromTag ∧
        (ch.tag = u.fromTag → ∃ t0 tsx, ch.text = some (t0 :: tsx)) := by
      intro ch' hch'
      rw [mapTextList_eq_map] at hch'
      obtain ⟨ch, hmem, rfl⟩ := List.mem_map.mp hch'
      obtain ⟨hin, hleaf⟩ := ok.child_facts S cv esc Dom laws ch (hch ch hmem)
      rw [mapText_tag, mapText_text]
      refine ⟨fun heq => hsrc (heq ▸ hin), fun heq => ?_⟩
      obtain ⟨s, hs, hne⟩ := hleaf a ha (by rw [han, ← heq]) hal hasub
      rw [hs]
      cases hes : esc s with
      | nil => exact absurd hes hne
      | cons t0 tsx => exact ⟨t0, tsx, by simp [hes]⟩
    obtain ⟨acc'', hfold', hsame⟩ := fold_groom S cv c r u hg hinv1 hinv2 hdot (mapTextList esc ts)
      Accum.init Accum.init acc' (SameBut.refl _) rfl (fun ch h => (hfacts ch h).1) (fun ch h => (hfacts ch h).2) hfold
    rw [hug] at hwrite
    rw [← mapTextList_renameFirst] at hfold'
    exact ⟨ts, renameFirst u ts, acc'', hemit, hch, hwrite, hfold', hsame.1.trans hargs', hsame.2.1.trans hkw'⟩

theorem node_rt (laws : ConvLaws cv S.enums esc Dom) (c : Cls) (ci : Nat) (fields : List (Str × Node))
    (items : List Node) (ok : NodeOk S cv esc Dom c ci fields items)
    (ihF : ∀ n v, (n, v) ∈ fields → v.isAgg = true → RT S cv esc v)
    (ihI : ∀ m ∈ items, m.isAgg = true → RT S cv esc m) : RT S cv esc (.agg ci fields items) := by
  obtain ⟨_, out, acc, _, _, hwrite, hfold, hargs, hkw⟩ := ok.read_written S cv esc Dom laws ihF ihI
  refine ⟨Tree.node c.name none none out, hwrite, ?_⟩
  simp only [mapText, Option.map]
  rw [fromEtree_node S cv _ _ _ _ ci c ok.hfind ok.hc, hfold]
  show construct S cv ci acc.args acc.kwargs = _
  rw [hargs, hkw]
  exact ok.construct_raw S cv esc Dom laws

end

section
variable (S : Schema) (cv : Conv) (esc : Str → Str) (Dom : Kind → Bool → Val → Prop)

mutual
  def Valid : Node → Prop
    | .val _ => False
    | .agg ci fields items =>
      (∃ c, NodeOk S cv esc Dom c ci fields items) ∧ ValidFields fields ∧ ValidItems items
  def ValidFields : List (Str × Node) → Prop
    | [] => True
    | (_, v) :: r => (v.isAgg = true → Valid v) ∧ ValidFields r
  def ValidItems : List Node → Prop
    | [] => True
    | v :: r => (v.isAgg = true → Valid v) ∧ ValidItems r
end

theorem validFields_iff : ∀ fs : List (Str × Node),
    ValidFields S cv esc Dom fs ↔ ∀ n v, (n, v) ∈ fs → v.isAgg = true → Valid S cv esc Dom v :=
  allFields trivial fun _ _ _ => Iff.rfl

theorem validItems_iff : ∀ is : List Node,
    ValidItems S cv esc Dom is ↔ ∀ m ∈ is, m.isAgg = true → Valid S cv esc Dom m :=
  allItems trivial fun _ _ => Iff.rfl

theorem valid_induct {P : Node → Prop}
    (step : ∀ c ci fields items, NodeOk S cv esc Dom c ci fields items →
      (∀ n v, (n, v) ∈ fields → v.isAgg = true → Valid S cv esc Dom v ∧ P v) →
      (∀ m ∈ items, m.isAgg = true → Valid S cv esc Dom m ∧ P m) → P (.agg ci fields items)) :
    ∀ n, Valid S cv esc Dom n → P n := by
  intro n
  induction n using Node.induct with
  | val v => exact False.elim
  | agg ci fields items ihF ihI =>
    intro ⟨⟨c, ok⟩, hf, hi⟩
    exact step c ci fields items ok
      (fun n v hm hagg => have hv := (validFields_iff S cv esc Dom fields).mp hf n v hm hagg; ⟨hv, ihF n v hm hv⟩)
      (fun m hm hagg => have hv := (validItems_iff S cv esc Dom items).mp hi m hm hagg; ⟨hv, ihI m hm hv⟩)

theorem rt_node (laws : ConvLaws cv S.enums esc Dom) : ∀ n, Valid S cv esc Dom n → RT S cv esc n :=
  valid_induct S cv esc Dom (fun c ci fields items ok ihF ihI =>
    node_rt S cv esc Dom laws c ci fields items ok (fun n v hm hagg => (ihF n v hm hagg).2)
      (fun m hm hagg => (ihI m hm hagg).2))

end

end Ofx.Agg
