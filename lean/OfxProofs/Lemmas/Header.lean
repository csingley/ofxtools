/-
The matcher of the header model (`OfxModel/Ofx/Header.lean`) step by step, the v1 pattern on header text with
arbitrary whitespace after each value (`v1_match`), and `search` in terms of `match`.
-/
import OfxModel.Ofx.Header
import OfxModel.Spec.HeaderLayout
import OfxProofs.Lemmas.Codec
import OfxProofs.Lemmas.Str
namespace Ofx.Header
open Ofx
attribute [-simp] String.reduceToList

theorem tryDown_skip (f : Nat → Option α) (m : Nat) : ∀ (n : Nat), m ≤ n →
    (∀ k, m < k → k ≤ n → f k = none) → tryDown f n = tryDown f m := by
  intro n
  induction n with
  | zero => intro h _; have : m = 0 := by omega
            subst this; rfl
  | succ n ih =>
    intro h hf
    by_cases hm : m = n + 1
    · subst hm; rfl
    · rw [tryDown, hf (n + 1) (by omega) (by omega)]
      exact ih (by omega) (fun k h1 h2 => hf k h1 (by omega))

theorem tryDown_hit (f : Nat → Option α) (m : Nat) (r : α) (h : f (m + 1) = some r) : tryDown f (m + 1) = some r := by
  rw [tryDown, h]

theorem tryDown_some_le (f : Nat → Option α) (n : Nat) (r : α) (h : tryDown f n = some r) :
    ∃ m, 0 < m ∧ m ≤ n ∧ f m = some r := by
  induction n with
  | zero => simp [tryDown] at h
  | succ n ih =>
    rw [tryDown] at h
    split at h
    · rename_i r' hr; cases h; exact ⟨n + 1, by omega, by omega, hr⟩
    · obtain ⟨m, h1, h2, h3⟩ := ih h
      exact ⟨m, h1, by omega, h3⟩

theorem tryDown_none (f : Nat → Option α) (m : Nat) (h : ∀ n, 0 < n → n ≤ m → f n = none) : tryDown f m = none := by
  induction m with
  | zero => rfl
  | succ m ih =>
    rw [tryDown, h (m + 1) (by omega) (by omega)]
    exact ih (fun n h1 h2 => h n h1 (by omega))

theorem step_lit (l s : Str) (k : St → Str → Option Res) (st : St) :
    stepItem (.lit l) k st (l ++ s) = k st s := by
  simp [stepItem]

theorem step_lit_none (l s : Str) (k : St → Str → Option Res) (st : St) (h : l.isPrefixOf s = false) :
    stepItem (.lit l) k st s = none := by
  simp only [stepItem, h]
  rfl

theorem lit_head_fail (l s : Str) (k : St → Str → Option Res) (st : St) (c0 : Char) (l' : Str) (hl : l = c0 :: l')
    (hs : ∀ c ∈ s.head?, c ≠ c0) : stepItem (.lit l) k st s = none := by
  subst hl
  apply step_lit_none
  cases s with
  | nil => rfl
  | cons c cs =>
    have : (c0 == c) = false := by simpa using fun e => hs c (by simp) e.symm
    simp [List.isPrefixOf, this]

theorem lit_inv (l : Str) (k : St → Str → Option Res) (st : St) (s : Str) (r : Res)
    (h : stepItem (.lit l) k st s = some r) : ∃ t, s = l ++ t ∧ k st t = some r := by
  simp only [stepItem] at h
  split at h
  · rename_i hp
    obtain ⟨t, ht⟩ := List.isPrefixOf_iff_prefix.1 hp
    refine ⟨t, ht.symm, ?_⟩
    rw [← ht] at h
    simpa using h
  · cases h

theorem head_dropWhile_space (s : Str) : ∀ c ∈ (s.dropWhile isSpace).head?, isSpace c = false := by
  rw [← lstrip_eq_dropWhile]; exact head?_lstrip_not_space s

theorem ws0_def (k : St → Str → Option Res) (st : St) (s : Str) :
    stepItem .ws0 k st s = k st (s.dropWhile isSpace) := rfl

theorem step_ws0 (w s : Str) (k : St → Str → Option Res) (st : St) (hw : ∀ c ∈ w, isSpace c = true)
    (hs : ∀ c ∈ s.head?, isSpace c = false) : stepItem .ws0 k st (w ++ s) = k st s := by
  rw [ws0_def, List.dropWhile_run hw hs]

theorem ws0_absorb (k : St → Str → Option Res) (st : St) (w s : Str) (hw : ∀ c ∈ w, isSpace c = true) :
    stepItem .ws0 k st (w ++ s) = stepItem .ws0 k st s := by
  rw [ws0_def, ws0_def, List.dropWhile_append_of_pos hw]

theorem ws1_cons (c : Char) (s : Str) (k : St → Str → Option Res) (st : St) (hc : isSpace c = true) :
    stepItem .ws1 k st (c :: s) = stepItem .ws0 k st s := by
  simp only [stepItem, hc, if_true]

theorem ws1_inv (k : St → Str → Option Res) (st : St) (s : Str) (r : Res) (h : stepItem .ws1 k st s = some r) :
    ∃ c cs, s = c :: cs ∧ isSpace c = true ∧ stepItem .ws0 k st cs = some r := by
  cases s with
  | nil => cases h
  | cons c cs =>
    cases hc : isSpace c with
    | true => exact ⟨c, cs, rfl, hc, ws1_cons c cs k st hc ▸ h⟩
    | false => simp [stepItem, hc] at h

theorem step_ws1 (w s : Str) (k : St → Str → Option Res) (st : St) (hne : w ≠ []) (hw : ∀ c ∈ w, isSpace c = true)
    (hs : ∀ c ∈ s.head?, isSpace c = false) : stepItem .ws1 k st (w ++ s) = k st s := by
  obtain ⟨c, cs, rfl⟩ := List.exists_cons_of_ne_nil hne
  rw [List.cons_append, ws1_cons c _ k st (hw c (by simp)), step_ws0 cs s k st (fun c hc => hw c (by simp [hc])) hs]

theorem ws1_to_ws0 (k : St → Str → Option Res) (st : St) (w s : Str) (hne : w ≠ []) (hw : ∀ c ∈ w, isSpace c = true) :
    stepItem .ws1 k st (w ++ s) = stepItem .ws0 k st s := by
  obtain ⟨c, cs, rfl⟩ := List.exists_cons_of_ne_nil hne
  rw [List.cons_append, ws1_cons c _ k st (hw c (by simp)), ws0_absorb k st cs s fun c hc => hw c (by simp [hc])]

/-- `tryDown` starts from the longest run of class characters, which may reach beyond `v` into `s`: hence `hfail`. -/
theorem step_cap (p : Char → Bool) (k : St → Str → Option Res) (st : St) (v s : Str) (r : Res)
    (hv : v ≠ []) (hp : ∀ c ∈ v, p c = true)
    (hfail : ∀ j, 0 < j → j ≤ (s.takeWhile p).length →
      k { st with caps := some (v ++ s.take j) :: st.caps } (s.drop j) = none)
    (hok : k { st with caps := some v :: st.caps } s = some r) :
    stepItem (.cap p) k st (v ++ s) = some r := by
  simp only [stepItem, List.takeWhile_append_of_pos hp, List.length_append]
  rw [tryDown_skip _ v.length _ (by omega)]
  · have hl : v.length = (v.length - 1) + 1 := by
      cases v with
      | nil => exact absurd rfl hv
      | cons _ _ => simp
    rw [hl]
    apply tryDown_hit
    rw [← hl]
    simpa using hok
  · intro n h1 h2
    have e : n = v.length + (n - v.length) := by omega
    rw [e]
    have := hfail (n - v.length) (by omega) (by omega)
    have t1 : List.take (v.length + (n - v.length)) v = v := List.take_of_length_le (by omega)
    have t2 : List.drop (v.length + (n - v.length)) v = [] := List.drop_of_length_le (by omega)
    simpa [List.take_append, List.drop_append, t1, t2] using this

theorem step_cap_stop (p : Char → Bool) (k : St → Str → Option Res) (st : St) (v s : Str) (r : Res)
    (hv : v ≠ []) (hp : ∀ c ∈ v, p c = true) (hs : ∀ c ∈ s.head?, p c = false)
    (hok : k { st with caps := some v :: st.caps } s = some r) :
    stepItem (.cap p) k st (v ++ s) = some r := by
  apply step_cap p k st v s r hv hp _ hok
  intro j hj hj2
  cases s with
  | nil => simp at hj2; omega
  | cons c cs => simp [List.takeWhile, hs c (by simp)] at hj2; omega

theorem cap_inv (p : Char → Bool) (k : St → Str → Option Res) (st : St) (s : Str) (r : Res)
    (h : stepItem (.cap p) k st s = some r) :
    ∃ n, 0 < n ∧ n ≤ (s.takeWhile p).length ∧ k { st with caps := some (s.take n) :: st.caps } (s.drop n) = some r :=
  tryDown_some_le _ _ _ h

theorem step_openq (q : Char) (s : Str) (k : St → Str → Option Res) (st : St) (hq : q = '"' ∨ q = '\'') :
    stepItem .openq k st (q :: s) = k { st with quote := some q } s := by
  simp [stepItem, hq]

theorem step_closeq (q : Char) (s : Str) (k : St → Str → Option Res) (st : St) (hq : st.quote = some q) :
    stepItem .closeq k st (q :: s) = k st s := by
  simp [stepItem, hq]

theorem closeq_inv (K : St → Str → Option Res) (st : St) (s : Str) (r : Res) (h : stepItem .closeq K st s = some r) :
    ∃ c cs, s = c :: cs ∧ st.quote = some c ∧ K st cs = some r := by
  cases s with
  | nil => cases h
  | cons c cs =>
    simp only [stepItem] at h
    split at h
    · rename_i hq; exact ⟨c, cs, rfl, hq, h⟩
    · cases h

/-! `String.reduceToList` is off in the header files: its `rfl` has the kernel run the UTF-8 decoder over every
literal in sight.  The equations below open a literal without evaluation, as `String.ofList` of its characters; for
`"NAME:"` the name is rewritten first, so that the literal meets an explicit list. -/

theorem lit_OFXHEADER : "OFXHEADER".toList = ['O', 'F', 'X', 'H', 'E', 'A', 'D', 'E', 'R'] := String.toList_ofList
theorem lit_DATA : "DATA".toList = ['D', 'A', 'T', 'A'] := String.toList_ofList
theorem lit_VERSION : "VERSION".toList = ['V', 'E', 'R', 'S', 'I', 'O', 'N'] := String.toList_ofList
theorem lit_SECURITY : "SECURITY".toList = ['S', 'E', 'C', 'U', 'R', 'I', 'T', 'Y'] := String.toList_ofList
theorem lit_ENCODING : "ENCODING".toList = ['E', 'N', 'C', 'O', 'D', 'I', 'N', 'G'] := String.toList_ofList
theorem lit_CHARSET : "CHARSET".toList = ['C', 'H', 'A', 'R', 'S', 'E', 'T'] := String.toList_ofList
theorem lit_COMPRESSION : "COMPRESSION".toList = ['C', 'O', 'M', 'P', 'R', 'E', 'S', 'S', 'I', 'O', 'N'] := String.toList_ofList
theorem lit_OLDFILEUID : "OLDFILEUID".toList = ['O', 'L', 'D', 'F', 'I', 'L', 'E', 'U', 'I', 'D'] := String.toList_ofList
theorem lit_NEWFILEUID : "NEWFILEUID".toList = ['N', 'E', 'W', 'F', 'I', 'L', 'E', 'U', 'I', 'D'] := String.toList_ofList

theorem colon_OFXHEADER : "OFXHEADER:".toList = "OFXHEADER".toList ++ [':'] := by
  rw [lit_OFXHEADER]; exact String.toList_ofList
theorem colon_DATA : "DATA:".toList = "DATA".toList ++ [':'] := by
  rw [lit_DATA]; exact String.toList_ofList
theorem colon_VERSION : "VERSION:".toList = "VERSION".toList ++ [':'] := by
  rw [lit_VERSION]; exact String.toList_ofList
theorem colon_SECURITY : "SECURITY:".toList = "SECURITY".toList ++ [':'] := by
  rw [lit_SECURITY]; exact String.toList_ofList
theorem colon_ENCODING : "ENCODING:".toList = "ENCODING".toList ++ [':'] := by
  rw [lit_ENCODING]; exact String.toList_ofList
theorem colon_CHARSET : "CHARSET:".toList = "CHARSET".toList ++ [':'] := by
  rw [lit_CHARSET]; exact String.toList_ofList
theorem colon_COMPRESSION : "COMPRESSION:".toList = "COMPRESSION".toList ++ [':'] := by
  rw [lit_COMPRESSION]; exact String.toList_ofList
theorem colon_OLDFILEUID : "OLDFILEUID:".toList = "OLDFILEUID".toList ++ [':'] := by
  rw [lit_OLDFILEUID]; exact String.toList_ofList
theorem colon_NEWFILEUID : "NEWFILEUID:".toList = "NEWFILEUID".toList ++ [':'] := by
  rw [lit_NEWFILEUID]; exact String.toList_ofList

theorem matchSegs_item (i : Item) (segs : List Seg) : matchSegs (.item i :: segs) = stepItem i (matchSegs segs) := rfl

theorem lit_colon_fail (a b rest : Str) (ha : ':' ∉ a) (hb : ':' ∉ b) (hne : a ≠ b) :
    (a ++ [':']).isPrefixOf (b ++ ':' :: rest) = false := by
  cases h : (a ++ [':']).isPrefixOf (b ++ ':' :: rest) with
  | false => rfl
  | true =>
    rw [List.isPrefixOf_iff_prefix] at h
    obtain ⟨t, ht⟩ := h
    have : a ++ ':' :: t = b ++ ':' :: rest := by simpa using ht
    exact absurd (List.append_cons_inj_of_not_mem ha hb this).1 hne

theorem step_lit_fail (a b rest : Str) (k : St → Str → Option Res) (st : St)
    (ha : ':' ∉ a) (hb : ':' ∉ b) (hne : a ≠ b) :
    stepItem (.lit (a ++ [':'])) k st (b ++ ':' :: rest) = none :=
  step_lit_none _ _ _ _ (lit_colon_fail a b rest ha hb hne)

theorem takeWhile_stop_le (p : Char → Bool) (a rest : Str) (c : Char) (hc : p c = false) :
    ((a ++ c :: rest).takeWhile p).length ≤ a.length := by
  induction a with
  | nil => simp [List.takeWhile, hc]
  | cons d ds ih =>
    simp only [List.cons_append, List.takeWhile]
    split
    · simp only [List.length_cons]; omega
    · simp

def isName (nm : Str) : Prop := nm ≠ [] ∧ ':' ∉ nm ∧ ∀ c ∈ nm, isSpace c = false

theorem drop_name_head (nm rest : Str) (j : Nat) (hn : ∀ c ∈ nm, isSpace c = false) :
    ∀ c ∈ (nm.drop j ++ ':' :: rest).head?, isSpace c = false := by
  intro c hc
  cases hd : nm.drop j with
  | nil => simp [hd] at hc; subst hc; decide
  | cons d ds =>
    simp [hd] at hc
    subst hc
    exact hn _ (List.mem_of_mem_drop (by rw [hd]; simp))

theorem step_field (nm : Str) (p : Char → Bool) (k : St → Str → Option Res) (st : St)
    (blank v w T : Str) (r : Res)
    (hb : ∀ c ∈ blank, isSpace c = true) (hv : v ≠ []) (hp : ∀ c ∈ v, p c = true)
    (hpns : ∀ c, p c = true → isSpace c = false) (hw : ∀ c ∈ w, isSpace c = true)
    (hT : ∀ c ∈ T.head?, isSpace c = false)
    (hfail : w = [] → ∀ st' j, 0 < j → j ≤ (T.takeWhile p).length → stepItem .ws0 k st' (T.drop j) = none)
    (hok : k { st with caps := some v :: st.caps } T = some r) :
    stepItem (.lit (nm ++ [':'])) (stepItem .ws0 (stepItem (.cap p) (stepItem .ws0 k))) st
      (nm ++ ':' :: (blank ++ (v ++ (w ++ T)))) = some r := by
  have e : nm ++ ':' :: (blank ++ (v ++ (w ++ T))) = (nm ++ [':']) ++ (blank ++ (v ++ (w ++ T))) := by simp
  rw [e, step_lit, step_ws0 blank _ _ _ hb]
  · apply step_cap p _ st v (w ++ T) r hv hp
    · intro j hj hj2
      cases w with
      | nil => exact hfail rfl _ j hj (by simpa using hj2)
      | cons c cs =>
        have : p c = false := by
          cases hpc : p c with
          | false => rfl
          | true => have := hpns c hpc; rw [hw c (by simp)] at this; cases this
        simp [List.takeWhile, this] at hj2
        omega
    · rw [step_ws0 w T _ _ hw hT]; exact hok
  · intro c hc
    cases v with
    | nil => exact absurd rfl hv
    | cons d ds => simp at hc; subst hc; exact hpns _ (hp _ (by simp))

theorem last_field (nm : Str) (p : Char → Bool) (st : St) (blank v R : Str)
    (hb : ∀ c ∈ blank, isSpace c = true) (hv : v ≠ []) (hp : ∀ c ∈ v, p c = true)
    (hpns : ∀ c, p c = true → isSpace c = false) (hR : ∀ c ∈ R.head?, p c = false) :
    stepItem (.lit (nm ++ [':'])) (stepItem .ws0 (stepItem (.cap p) finish)) st
      (nm ++ ':' :: (blank ++ (v ++ R))) = some ((some v :: st.caps).reverse, R) := by
  have e : nm ++ ':' :: (blank ++ (v ++ R)) = (nm ++ [':']) ++ (blank ++ (v ++ R)) := by simp
  rw [e, step_lit, step_ws0 blank _ _ _ hb]
  · exact step_cap_stop p _ st v R _ hv hp hR rfl
  · intro c hc
    cases v with
    | nil => exact absurd rfl hv
    | cons d ds => simp at hc; subst hc; exact hpns _ (hp _ (by simp))

def spaceChars : List Char := pySpaceCodepoints.map Char.ofNat

theorem mem_spaceChars {c : Char} (h : isSpace c = true) : c ∈ spaceChars := by
  simp only [isSpace, List.contains_eq_mem, decide_eq_true_eq] at h
  have : Char.ofNat c.toNat ∈ spaceChars := List.mem_map_of_mem h
  rwa [Char.ofNat_toNat] at this

theorem wordDash_not_space (c : Char) (h : isWordDash c = true) : isSpace c = false := by
  cases hs : isSpace c with
  | false => rfl
  | true =>
    have hm := mem_spaceChars hs
    have : ∀ d ∈ spaceChars, isWordDash d = false := by decide
    rw [this c hm] at h
    cases h

theorem digit_wordDash (c : Char) (h : isDigit c = true) : isWordDash c = true := by
  simp [isWordDash, isWord, h]
theorem upper_wordDash (c : Char) (h : isUpper c = true) : isWordDash c = true := by
  simp [isWordDash, isWord, h]
theorem word_wordDash (c : Char) (h : isWord c = true) : isWordDash c = true := by
  simp [isWordDash, h]
theorem upDigDash_wordDash (c : Char) (h : isUpDigDash c = true) : isWordDash c = true := by
  simp only [isUpDigDash, Bool.or_eq_true] at h
  rcases h with (h | h) | h <;> simp [isWordDash, isWord, h]

theorem digit_not_space (c : Char) (h : isDigit c = true) : isSpace c = false :=
  wordDash_not_space c (digit_wordDash c h)
theorem upper_not_space (c : Char) (h : isUpper c = true) : isSpace c = false :=
  wordDash_not_space c (upper_wordDash c h)
theorem word_not_space (c : Char) (h : isWord c = true) : isSpace c = false :=
  wordDash_not_space c (word_wordDash c h)
theorem upDigDash_not_space (c : Char) (h : isUpDigDash c = true) : isSpace c = false :=
  wordDash_not_space c (upDigDash_wordDash c h)

def fieldSegs (nm : Str) (p : Char → Bool) (next : List Seg) : List Seg :=
  .item (.lit (nm ++ [':'])) :: W0 :: C p :: W0 :: next

def lastSegs : List Seg := [.item (.lit ("NEWFILEUID".toList ++ [':'])), W0, C isWordDash]

def compItems : List Item := [.lit ("COMPRESSION".toList ++ [':']), .ws0, .cap isUpper, .ws0]

def tail8 : List Seg := fieldSegs "OLDFILEUID".toList isWordDash lastSegs

theorem reMatch_v1 (s : Str) : reMatch v1Regex s = stepItem .ws0 (matchSegs
    (fieldSegs "OFXHEADER".toList isDigit (fieldSegs "DATA".toList isUpper (fieldSegs "VERSION".toList isDigit
    (fieldSegs "SECURITY".toList isWord (fieldSegs "ENCODING".toList isUpDigDash
    (fieldSegs "CHARSET".toList isWordDash (.opt compItems :: tail8)))))))) {} s := by
  simp only [reMatch, v1Regex, L, colon_OFXHEADER, colon_DATA, colon_VERSION, colon_SECURITY, colon_ENCODING,
    colon_CHARSET, colon_COMPRESSION, colon_OLDFILEUID, colon_NEWFILEUID]
  rfl

theorem matchSegs_opt (is : List Item) (segs : List Seg) (st : St) (s : Str) :
    matchSegs (.opt is :: segs) st s =
      match matchItems is (matchSegs segs) st s with
      | some r => some r
      | none => matchSegs segs { st with caps := List.replicate (capCount is) none ++ st.caps } s := rfl

theorem matchItems_comp (k : St → Str → Option Res) :
    matchItems compItems k = stepItem (.lit ("COMPRESSION".toList ++ [':'])) (stepItem .ws0
      (stepItem (.cap isUpper) (stepItem .ws0 k))) := rfl

def allSpace (s : Str) : Prop := ∀ c ∈ s, isSpace c = true
def inClass (p : Char → Bool) (v : Str) : Prop := v ≠ [] ∧ ∀ c ∈ v, p c = true

def names9 : List Str :=
  ["OFXHEADER".toList, "DATA".toList, "VERSION".toList, "SECURITY".toList, "ENCODING".toList, "CHARSET".toList,
   "COMPRESSION".toList, "OLDFILEUID".toList, "NEWFILEUID".toList]

/-- `K` fails on every proper suffix of a field name followed by `:`, i.e. on what is left when a value capture with no
    whitespace after it has run on into the next name; true of the rest of the pattern because no field name is a proper
    suffix of another (`names9_drop_ne`), and the reason `v1_match` needs no separator between fields -/
def NameFail (K : St → Str → Option Res) : Prop :=
  ∀ (st : St) (n : Str) (j : Nat) (rest : Str), n ∈ names9 → 0 < j → j ≤ n.length →
    K st (n.drop j ++ ':' :: rest) = none

theorem names9_chars : names9 =
    [['O', 'F', 'X', 'H', 'E', 'A', 'D', 'E', 'R'],
     ['D', 'A', 'T', 'A'],
     ['V', 'E', 'R', 'S', 'I', 'O', 'N'],
     ['S', 'E', 'C', 'U', 'R', 'I', 'T', 'Y'],
     ['E', 'N', 'C', 'O', 'D', 'I', 'N', 'G'],
     ['C', 'H', 'A', 'R', 'S', 'E', 'T'],
     ['C', 'O', 'M', 'P', 'R', 'E', 'S', 'S', 'I', 'O', 'N'],
     ['O', 'L', 'D', 'F', 'I', 'L', 'E', 'U', 'I', 'D'],
     ['N', 'E', 'W', 'F', 'I', 'L', 'E', 'U', 'I', 'D']] := by
  simp only [names9, lit_OFXHEADER, lit_DATA, lit_VERSION, lit_SECURITY, lit_ENCODING, lit_CHARSET, lit_COMPRESSION,
    lit_OLDFILEUID, lit_NEWFILEUID]

/-- `j < 12` only bounds the search: the longest name has eleven letters -/
theorem names9_drop_ne : ∀ nm ∈ names9, ∀ n ∈ names9, ∀ j, j < 12 → 0 < j → nm ≠ n.drop j := by
  rw [names9_chars]; decide +kernel

theorem names9_len : ∀ n ∈ names9, n.length < 12 := by rw [names9_chars]; decide

theorem names9_isName : ∀ n ∈ names9, isName n := by rw [names9_chars]; unfold isName; decide

theorem names9_nolt : ∀ n ∈ names9, '<' ∉ n := by rw [names9_chars]; decide

theorem names9_nocolon (n : Str) (h : n ∈ names9) : ':' ∉ n := (names9_isName n h).2.1

theorem matchSegs_field (nm : Str) (p : Char → Bool) (next : List Seg) :
    matchSegs (fieldSegs nm p next) =
      stepItem (.lit (nm ++ [':'])) (stepItem .ws0 (stepItem (.cap p) (stepItem .ws0 (matchSegs next)))) := rfl

theorem matchSegs_last :
    matchSegs lastSegs = stepItem (.lit ("NEWFILEUID".toList ++ [':'])) (stepItem .ws0 (stepItem (.cap isWordDash) finish)) := rfl

theorem nameFail_lit (nm : Str) (k : St → Str → Option Res) (hnm : nm ∈ names9) :
    NameFail (stepItem (.lit (nm ++ [':'])) k) := by
  intro st n j rest hn hj hj2
  exact step_lit_fail nm (n.drop j) rest k st (names9_nocolon nm hnm)
    (fun h => names9_nocolon n hn (List.mem_of_mem_drop h))
    (names9_drop_ne nm hnm n hn j (by have := names9_len n hn; omega) hj)

theorem nameFail_field (nm : Str) (p : Char → Bool) (next : List Seg) (hnm : nm ∈ names9) :
    NameFail (matchSegs (fieldSegs nm p next)) := by
  simp only [fieldSegs, matchSegs_item]
  exact nameFail_lit nm _ hnm

theorem nameFail_opt : NameFail (matchSegs (.opt compItems :: tail8)) := by
  intro st n j rest h1 h2 h3
  rw [matchSegs_opt, matchItems_comp, nameFail_lit _ _ (by simp [names9]) st n j rest h1 h2 h3]
  exact nameFail_field _ _ _ (by simp [names9]) _ n j rest h1 h2 h3

theorem nameFail_last : NameFail (matchSegs lastSegs) := by
  rw [matchSegs_last]; exact nameFail_lit _ _ (by simp [names9])

/-- the capture cannot overrun into the next name: the continuation cannot resume inside a name -/
theorem field_step_name (nm : Str) (p : Char → Bool) (K : St → Str → Option Res) (st : St)
    (blank v w n2 rest2 : Str) (r : Res) (hb : allSpace blank) (hv : inClass p v)
    (hpns : ∀ c, p c = true → isSpace c = false) (hpc : p ':' = false) (hw : allSpace w)
    (hn2 : n2 ∈ names9) (hN : NameFail K)
    (hok : K { st with caps := some v :: st.caps } (n2 ++ ':' :: rest2) = some r) :
    stepItem (.lit (nm ++ [':'])) (stepItem .ws0 (stepItem (.cap p) (stepItem .ws0 K))) st
      (nm ++ ':' :: (blank ++ (v ++ (w ++ (n2 ++ ':' :: rest2))))) = some r := by
  have hhead : ∀ j, ∀ c ∈ (n2.drop j ++ ':' :: rest2).head?, isSpace c = false :=
    fun j => drop_name_head n2 rest2 j (names9_isName n2 hn2).2.2
  apply step_field nm p K st blank v w _ r hb hv.1 hv.2 hpns hw
  · simpa using hhead 0
  · intro _ st' j hj hj2
    have hle := Nat.le_trans hj2 (takeWhile_stop_le p n2 rest2 ':' hpc)
    rw [List.drop_append_of_le_length hle, ws0_def, List.dropWhile_of_head (hhead j)]
    exact hN st' n2 j rest2 hn2 hj hle
  · exact hok

structure Fld where
  name : Str
  val : Str
  sep : Str

def NF : List Fld → Str → Str
  | [], R => R
  | f :: fs, R => f.name ++ ':' :: (f.val ++ (f.sep ++ NF fs R))

theorem NF_append (fs : List Fld) (R S : Str) : NF fs R ++ S = NF fs (R ++ S) := by
  induction fs with
  | nil => rfl
  | cons f fs ih => simp [NF, ih]

def fld (nm : String) (blank v w T : Str) : Str := nm.toList ++ ':' :: (blank ++ (v ++ (w ++ T)))

structure V1W where
  indent : Str
  b1 : Str
  v1 : Str
  w1 : Str
  b2 : Str
  v2 : Str
  w2 : Str
  b3 : Str
  v3 : Str
  w3 : Str
  b4 : Str
  v4 : Str
  w4 : Str
  b5 : Str
  v5 : Str
  w5 : Str
  b6 : Str
  v6 : Str
  w6 : Str
  comp : Option (Str × Str × Str)     -- blanks, value, whitespace of the COMPRESSION field when written
  b8 : Str
  v8 : Str
  w8 : Str
  b9 : Str
  v9 : Str

def V1W.compText (t : V1W) (T : Str) : Str :=
  match t.comp with
  | some (b, v, w) => fld "COMPRESSION" b v w T
  | none => T

def V1W.text (t : V1W) (R : Str) : Str :=
  t.indent ++ fld "OFXHEADER" t.b1 t.v1 t.w1 (fld "DATA" t.b2 t.v2 t.w2 (fld "VERSION" t.b3 t.v3 t.w3
    (fld "SECURITY" t.b4 t.v4 t.w4 (fld "ENCODING" t.b5 t.v5 t.w5 (fld "CHARSET" t.b6 t.v6 t.w6
    (t.compText (fld "OLDFILEUID" t.b8 t.v8 t.w8 ("NEWFILEUID".toList ++ ':' :: (t.b9 ++ (t.v9 ++ R))))))))))

def V1W.flds (t : V1W) : List Fld :=
  [⟨"OFXHEADER".toList, t.b1 ++ t.v1, t.w1⟩, ⟨"DATA".toList, t.b2 ++ t.v2, t.w2⟩,
   ⟨"VERSION".toList, t.b3 ++ t.v3, t.w3⟩, ⟨"SECURITY".toList, t.b4 ++ t.v4, t.w4⟩,
   ⟨"ENCODING".toList, t.b5 ++ t.v5, t.w5⟩, ⟨"CHARSET".toList, t.b6 ++ t.v6, t.w6⟩] ++
  (match t.comp with
   | some (b, v, w) => [⟨"COMPRESSION".toList, b ++ v, w⟩]
   | none => []) ++ [⟨"OLDFILEUID".toList, t.b8 ++ t.v8, t.w8⟩]

theorem V1W.text_eq (t : V1W) (R : Str) :
    t.text R = t.indent ++ NF t.flds ("NEWFILEUID".toList ++ ':' :: (t.b9 ++ (t.v9 ++ R))) := by
  cases hc : t.comp with
  | none => simp [V1W.text, V1W.compText, V1W.flds, hc, fld, NF]
  | some x => obtain ⟨b, v, w⟩ := x; simp [V1W.text, V1W.compText, V1W.flds, hc, fld, NF]

structure V1W.Ok (t : V1W) : Prop where
  indent : allSpace t.indent
  b1 : allSpace t.b1
  b2 : allSpace t.b2
  b3 : allSpace t.b3
  b4 : allSpace t.b4
  b5 : allSpace t.b5
  b6 : allSpace t.b6
  b8 : allSpace t.b8
  b9 : allSpace t.b9
  w1 : allSpace t.w1
  w2 : allSpace t.w2
  w3 : allSpace t.w3
  w4 : allSpace t.w4
  w5 : allSpace t.w5
  w6 : allSpace t.w6
  w8 : allSpace t.w8
  v1 : inClass isDigit t.v1
  v2 : inClass isUpper t.v2
  v3 : inClass isDigit t.v3
  v4 : inClass isWord t.v4
  v5 : inClass isUpDigDash t.v5
  v6 : inClass isWordDash t.v6
  comp : ∀ b v w, t.comp = some (b, v, w) → allSpace b ∧ inClass isUpper v ∧ allSpace w
  v8 : inClass isWordDash t.v8
  v9 : inClass isWordDash t.v9

def V1W.caps (t : V1W) : List (Option Str) :=
  [some t.v1, some t.v2, some t.v3, some t.v4, some t.v5, some t.v6, t.comp.map (fun x => x.2.1), some t.v8, some t.v9]

/-- The pattern is not anchored at its end: the match stops where `R` starts only if `R` does not go on inside the
    class of the last group (`hR`). -/
theorem v1_match (t : V1W) (R : Str) (ok : t.Ok) (hR : ∀ c ∈ R.head?, isWordDash c = false) :
    reMatch v1Regex (t.text R) = some (t.caps, R) := by
  have htail8 : ∀ st : St, matchSegs tail8 st
      (fld "OLDFILEUID" t.b8 t.v8 t.w8 ("NEWFILEUID".toList ++ ':' :: (t.b9 ++ (t.v9 ++ R)))) =
      some ((some t.v9 :: some t.v8 :: st.caps).reverse, R) := by
    intro st
    rw [tail8, matchSegs_field, fld]
    apply field_step_name _ _ _ _ _ _ _ _ _ _ ok.b8 ok.v8 wordDash_not_space (by decide) ok.w8 (by simp [names9])
      nameFail_last
    exact last_field _ _ _ _ _ _ ok.b9 ok.v9.1 ok.v9.2 wordDash_not_space hR
  -- what follows the CHARSET block, with and without the COMPRESSION line: it starts with a field name
  obtain ⟨n2, rest2, hn2, hT, htail⟩ : ∃ n2 rest2, n2 ∈ names9 ∧
      t.compText (fld "OLDFILEUID" t.b8 t.v8 t.w8 ("NEWFILEUID".toList ++ ':' :: (t.b9 ++ (t.v9 ++ R)))) =
        n2 ++ ':' :: rest2 ∧
      ∀ st : St, matchSegs (.opt compItems :: tail8) st (n2 ++ ':' :: rest2) =
        some ((some t.v9 :: some t.v8 :: t.comp.map (fun x => x.2.1) :: st.caps).reverse, R) := by
    cases hc : t.comp with
    | none =>
      refine ⟨"OLDFILEUID".toList, t.b8 ++ (t.v8 ++ (t.w8 ++ ("NEWFILEUID".toList ++ ':' :: (t.b9 ++ (t.v9 ++ R))))),
        by simp [names9], by simp only [V1W.compText, hc, fld], fun st => ?_⟩
      rw [matchSegs_opt, matchItems_comp,
        step_lit_fail _ _ _ _ _ (names9_nocolon _ (by simp [names9])) (names9_nocolon _ (by simp [names9]))
          (by rw [lit_COMPRESSION, lit_OLDFILEUID]; decide)]
      exact htail8 _
    | some x =>
      obtain ⟨b, v, w⟩ := x
      obtain ⟨hb, hv, hw⟩ := ok.comp b v w hc
      refine ⟨"COMPRESSION".toList, b ++ (v ++ (w ++ fld "OLDFILEUID" t.b8 t.v8 t.w8
        ("NEWFILEUID".toList ++ ':' :: (t.b9 ++ (t.v9 ++ R))))), by simp [names9], by simp only [V1W.compText, hc, fld],
        fun st => ?_⟩
      rw [matchSegs_opt, matchItems_comp, fld, field_step_name _ _ _ _ _ _ _ _ _ _ hb hv upper_not_space (by decide)
        hw (by simp [names9]) (by rw [tail8]; exact nameFail_field _ _ _ (by simp [names9])) (htail8 _)]
      rfl
  rw [reMatch_v1, V1W.text,
    step_ws0 t.indent _ _ _ ok.indent (by intro c hc; simp [fld, lit_OFXHEADER] at hc; subst hc; decide), hT]
  simp only [matchSegs_field, fld]
  apply field_step_name _ _ _ _ _ _ _ _ _ _ ok.b1 ok.v1 digit_not_space (by decide) ok.w1 (by simp [names9])
    (nameFail_lit _ _ (by simp [names9]))
  apply field_step_name _ _ _ _ _ _ _ _ _ _ ok.b2 ok.v2 upper_not_space (by decide) ok.w2 (by simp [names9])
    (nameFail_lit _ _ (by simp [names9]))
  apply field_step_name _ _ _ _ _ _ _ _ _ _ ok.b3 ok.v3 digit_not_space (by decide) ok.w3 (by simp [names9])
    (nameFail_lit _ _ (by simp [names9]))
  apply field_step_name _ _ _ _ _ _ _ _ _ _ ok.b4 ok.v4 word_not_space (by decide) ok.w4 (by simp [names9])
    (nameFail_lit _ _ (by simp [names9]))
  apply field_step_name _ _ _ _ _ _ _ _ _ _ ok.b5 ok.v5 upDigDash_not_space (by decide) ok.w5 (by simp [names9])
    (nameFail_lit _ _ (by simp [names9]))
  apply field_step_name _ _ _ _ _ _ _ _ _ _ ok.b6 ok.v6 wordDash_not_space (by decide) ok.w6 hn2 nameFail_opt
  rw [htail]
  rfl

theorem reSearch_of_match (segs : List Seg) (s : Str) (r : Res) (h : reMatch segs s = some r) :
    reSearch segs s = some r := by
  cases s with
  | nil => simpa [reSearch] using h
  | cons c cs => simp [reSearch, h]

theorem reSearch_cons_none (segs : List Seg) (c : Char) (cs : Str) (h : reMatch segs (c :: cs) = none) :
    reSearch segs (c :: cs) = reSearch segs cs := by
  rw [reSearch, h]

theorem reSearch_eq_none_iff (segs : List Seg) (s : Str) :
    reSearch segs s = none ↔ ∀ t, t <:+ s → reMatch segs t = none := by
  induction s with
  | nil =>
    rw [reSearch]
    exact ⟨fun h t ht => List.suffix_nil.1 ht ▸ h, fun h => h [] (List.suffix_refl _)⟩
  | cons c cs ih =>
    rw [reSearch]
    constructor
    · intro h t ht
      cases hm : reMatch segs (c :: cs) with
      | some r => rw [hm] at h; cases h
      | none =>
        rw [hm] at h
        rcases List.suffix_cons_iff.1 ht with e | ht'
        · rw [e]; exact hm
        · exact ih.1 h t ht'
    · intro h
      rw [h _ (List.suffix_refl _)]
      exact ih.2 (fun t ht => h t (ht.trans (List.suffix_cons c cs)))

theorem reSearch_none_match (segs : List Seg) (s : Str) (h : reSearch segs s = none) : reMatch segs s = none :=
  (reSearch_eq_none_iff segs s).1 h s (List.suffix_refl _)

theorem reSearch_append_of_none (segs : List Seg) (a s : Str)
    (h : ∀ t, t ≠ [] → t <:+ a → reMatch segs (t ++ s) = none) : reSearch segs (a ++ s) = reSearch segs s := by
  induction a with
  | nil => rfl
  | cons c cs ih =>
    rw [List.cons_append, reSearch_cons_none segs c (cs ++ s) (h (c :: cs) (by simp) (List.suffix_refl _))]
    exact ih (fun t ht hsuf => h t ht (hsuf.trans (List.suffix_cons c cs)))

end Ofx.Header
