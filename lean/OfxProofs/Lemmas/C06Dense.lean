/-
Which composed requests have no childless aggregate?  From the request specification (`Ofx.Spec.Request.check`: what
the composed instance says, field by field, *and nothing else*) and the validity of the instance (attribute names
pairwise different), to `Ofx.Pipeline.dense`: an instance that meets an expectation naming, for every aggregate it
describes, an attribute that must be set or a list member (`expDense`) is dense.
-/
import OfxProofs.Lemmas.Compose
import OfxProofs.Lemmas.C06Unclosed

namespace Ofx.C06
open Ofx Ofx.Compose Ofx.Agg Ofx.Spec.Request Ofx.Pipeline

/-- the expectation forces the element to be there -/
def wantPresent : Want → Bool
  | .str _ => true
  | .ostr o => (emptyAsNone o).isSome
  | .bool (some _) => true
  | .date (some _) => true
  | .year _ => true
  | .anyStr => true
  | _ => false

def expPresent : Exp → Bool
  | .leaf w => wantPresent w
  | .agg .. => true

mutual
  def expDense : Exp → Bool
    | .leaf _ => true
    | .agg _ fs items => (presentAny fs || !items.isEmpty) && denseAll fs
  def presentAny : List (String × Exp) → Bool
    | [] => false
    | (_, e) :: r => expPresent e || presentAny r
  def denseAll : List (String × Exp) → Bool
    | [] => true
    | (_, e) :: r => expDense e && denseAll r
end

theorem want_ok_val {w : Want} {n : Node} (h : w.ok n = true) : ∃ x, n = .val x := by
  cases n with
  | val x => exact ⟨x, rfl⟩
  | agg ci f i =>
    cases w <;> simp [Want.ok] at h
    all_goals (split at h <;> simp_all)

theorem want_present {w : Want} {n : Node} (h : w.ok n = true) (hp : wantPresent w = true) : n.isNone = false := by
  obtain ⟨x, rfl⟩ := want_ok_val h
  cases x <;> try rfl
  cases w with
  | ostr o =>
    simp only [wantPresent] at hp
    simp only [Want.ok] at h
    split at h <;> simp_all
  | bool b => cases b <;> simp [wantPresent, Want.ok] at hp h
  | date d => cases d <;> simp [wantPresent, Want.ok] at hp h
  | _ => simp [wantPresent, Want.ok] at hp h

theorem exp_present {S : Schema} {e : Exp} {n : Node} (h : e.ok S n = true) (hp : expPresent e = true) :
    n.isNone = false := by
  cases e with
  | leaf w => exact want_present (by simpa [Exp.ok] using h) (by simpa [expPresent] using hp)
  | agg cls fs items =>
    simp only [Exp.ok, Bool.and_eq_true] at h
    obtain ⟨ci, f, its, rfl, _⟩ := isCls_agg h.1.1.1
    rfl

theorem fieldNames_eq : ∀ fs : List (String × Exp), fieldNames fs = fs.map (·.1) := fieldNames_map

theorem presentAny_iff : ∀ fs : List (String × Exp), presentAny fs = true ↔ ∃ p ∈ fs, expPresent p.2 = true
  | [] => by simp [presentAny]
  | (k, e) :: r => by simp [presentAny, presentAny_iff r]

theorem denseAll_iff : ∀ fs : List (String × Exp), denseAll fs = true ↔ ∀ p ∈ fs, expDense p.2 = true :=
  allItemsB rfl fun _ _ => rfl

theorem fieldVal_mem {n : Node} {k : String} (h : (fieldVal n k).isNone = false) :
    (k.toList, fieldVal n k) ∈ n.fields := by
  unfold fieldVal at h ⊢
  cases hg : getField k.toList n.fields with
  | none => simp [hg, Node.isNone] at h
  | some v =>
    simp only
    rw [getField_eq_lookup] at hg
    exact lookup_mem hg

theorem fieldVal_of_mem {n : Node} {k : String} {v : Node} (hnd : (n.fields.map (·.1)).Nodup)
    (hm : (k.toList, v) ∈ n.fields) : fieldVal n k = v := by
  unfold fieldVal
  rw [getField_eq_lookup, lookup_of_mem_nodup _ _ _ hnd hm]

theorem dense_of_isNone {v : Node} (h : v.isNone = true) : dense v = true := by
  cases v with
  | val x => simp [dense]
  | agg _ _ _ => simp [Node.isNone] at h

theorem othersNone_mem {keep : List String} {n : Node} (h : othersNone keep n = true) :
    ∀ k v, (k, v) ∈ n.fields → (∃ k' ∈ keep, k'.toList = k) ∨ v.isNone = true := by
  intro k v hm
  simp only [othersNone, List.all_eq_true] at h
  have := h (k, v) hm
  simp only [Bool.or_eq_true, List.any_eq_true, beq_iff_eq] at this
  exact this

section
variable (S : Schema) (cv : Conv) (esc : Str → Str) (Dom : Kind → Bool → Val → Prop)

theorem valid_fieldVal {n : Node} (hvf : ValidFields S cv esc Dom n.fields) (k : String)
    (hagg : (fieldVal n k).isAgg = true) : Valid S cv esc Dom (fieldVal n k) := by
  have hnn : (fieldVal n k).isNone = false := by
    cases h : fieldVal n k with
    | val x => rw [h] at hagg; simp [Node.isAgg] at hagg
    | agg _ _ _ => rfl
  exact (validFields_iff S cv esc Dom _).mp hvf _ _ (fieldVal_mem hnn) hagg

mutual
  /-- validity supplies: attribute names pairwise different, so every stored value is the one the expectation speaks
      of -/
  theorem exp_dense : ∀ (e : Exp) (n : Node), e.ok S n = true → expDense e = true →
      (n.isAgg = true → Valid S cv esc Dom n) → dense n = true
    | .leaf w, n, h, _, _ => by
      obtain ⟨x, rfl⟩ := want_ok_val (w := w) (by simpa [Exp.ok] using h)
      simp [dense]
    | .agg cls fs items, n, h, hd, hv => by
      simp only [Exp.ok, Bool.and_eq_true] at h
      obtain ⟨⟨⟨hc, hitems⟩, hfs⟩, hoth⟩ := h
      obtain ⟨ci, f, its, rfl, _⟩ := isCls_agg hc
      have hval := hv rfl
      simp only [Valid] at hval
      obtain ⟨⟨c, ok⟩, hvf, hvi⟩ := hval
      have hnd : (f.map (·.1)).Nodup := NodeOk.keys_nodup S cv esc Dom ok
      simp only [expDense, Bool.and_eq_true] at hd
      have hsub := fields_dense fs (.agg ci f its) hfs hd.2 hvf
      obtain ⟨hlen, hits⟩ := all2_forall _ _ _ hitems
      simp only [Node.items] at hlen hits
      simp only [dense, Bool.and_eq_true]
      refine ⟨⟨?_, ?_⟩, ?_⟩
      · have hd1 := hd.1
        simp only [Bool.or_eq_true, Bool.not_eq_true'] at hd1 ⊢
        rcases hd1 with hp | hi
        · left
          obtain ⟨p, hp, hpp⟩ := (presentAny_iff fs).mp hp
          have hok := (fieldsOk_iff S _ fs).mp hfs p hp
          have hnn := exp_present hok hpp
          have hm := fieldVal_mem hnn
          simp only [Node.fields] at hm
          rw [List.any_eq_true]
          exact ⟨_, hm, by simp [hnn]⟩
        · right
          cases its with
          | nil => cases items with
            | nil => simp at hi
            | cons _ _ => simp at hlen
          | cons _ _ => rfl
      · rw [denseFields_iff]
        intro ⟨k, v⟩ hm
        rcases othersNone_mem hoth k v hm with ⟨k', hk', rfl⟩ | hn
        · have := hsub k' hk'
          rw [fieldVal_of_mem (n := .agg ci f its) hnd hm] at this
          exact this
        · exact dense_of_isNone hn
      · rw [denseItems_iff]
        intro m hm
        obtain ⟨w, _, hw⟩ := hits m hm
        obtain ⟨x, rfl⟩ := want_ok_val hw
        simp [dense]
  theorem fields_dense : ∀ (fs : List (String × Exp)) (n : Node), fieldsOk S fs n = true → denseAll fs = true →
      ValidFields S cv esc Dom n.fields → ∀ k ∈ fieldNames fs, dense (fieldVal n k) = true
    | [], n, _, _, _ => by intro k hk; simp [fieldNames] at hk
    | (k0, e) :: r, n, h, hd, hvf => by
      simp only [fieldsOk, Bool.and_eq_true] at h
      simp only [denseAll, Bool.and_eq_true] at hd
      intro k hk
      simp only [fieldNames, List.mem_cons] at hk
      rcases hk with rfl | hk
      · exact exp_dense e (fieldVal n k) h.1 hd.1 (valid_fieldVal S cv esc Dom hvf k)
      · exact fields_dense r n h.2 hd.2 hvf k hk
end

theorem clause_nil {name : String} {b : Bool} (h : clause name b = []) : b = true := clause_eq_nil.mp h

theorem expSignon_dense (cfg : Cfg) (userid password : Str) (dtclient : DT) :
    expDense (expSignon cfg userid password dtclient) = true := by
  simp only [expSignon, expSonrq, wantFi]
  cases ho : orgSet cfg
  · simp [expDense, presentAny, denseAll, expPresent, wantPresent]
  · have : (emptyAsNone cfg.org).isSome = true := by
      unfold orgSet at ho
      cases hc : cfg.org with
      | none => simp [hc] at ho
      | some o => simp [hc] at ho; simp [emptyAsNone, ho]
    simp [expDense, presentAny, denseAll, expPresent, wantPresent, this]

theorem msgs_dense {S : Schema} {cls : String} {node : Node} (hc : isCls S cls node = true)
    (ho : othersNone [] node = true) (hne : node.items ≠ []) (hw : ∀ w ∈ node.items, dense w = true) :
    dense node = true := by
  obtain ⟨ci, f, its, rfl, _⟩ := isCls_agg hc
  simp only [Node.items] at hne hw
  simp only [dense, Bool.and_eq_true]
  refine ⟨⟨?_, ?_⟩, (denseItems_iff its).mpr hw⟩
  · cases its with
    | nil => exact absurd rfl hne
    | cons _ _ => simp
  · rw [denseFields_iff]
    intro ⟨k, v⟩ hm
    rcases othersNone_mem ho k v hm with ⟨k', hk', _⟩ | hn
    · simp at hk'
    · exact dense_of_isNone hn

theorem root_dense {S : Schema} {cfg : Cfg} {userid password : Str} {dtclient : DT} {attrs : List String}
    {root : Node} (hv : Valid S cv esc Dom root)
    (hr : rootClauses S attrs root = [])
    (hs : signonClauses S cfg userid password dtclient (fieldVal root "signonmsgsrqv1") = [])
    (ha : ∀ a ∈ attrs, dense (fieldVal root a) = true) : dense root = true := by
  simp only [rootClauses, List.append_eq_nil_iff] at hr
  have h1 := clause_nil hr.1
  have h2 := clause_nil hr.2
  simp only [Bool.and_eq_true] at h1
  obtain ⟨ci, f, its, rfl, _⟩ := isCls_agg h1.1
  have hval := hv
  simp only [Valid] at hval
  obtain ⟨⟨c, ok⟩, hvf, hvi⟩ := hval
  have hnd : (f.map (·.1)).Nodup := NodeOk.keys_nodup S cv esc Dom ok
  have hso := signonClauses_eq_nil.mp hs
  have hsd : dense (fieldVal (.agg ci f its) "signonmsgsrqv1") = true :=
    exp_dense S cv esc Dom _ _ hso (expSignon_dense _ _ _ _)
      (valid_fieldVal S cv esc Dom (n := .agg ci f its) hvf _)
  have hits : its = [] := by simpa [Node.items] using h1.2
  subst hits
  simp only [dense, denseItems, Bool.and_eq_true, and_true]
  refine ⟨?_, ?_⟩
  · have hnn : (fieldVal (.agg ci f []) "signonmsgsrqv1").isNone = false :=
      exp_present hso (by simp [expSignon, expPresent])
    have hm := fieldVal_mem hnn
    simp only [Node.fields] at hm
    simp only [Bool.or_eq_true, List.any_eq_true]
    exact Or.inl ⟨_, hm, by simp [hnn]⟩
  · rw [denseFields_iff]
    intro ⟨k, v⟩ hm
    rcases othersNone_mem h2 k v hm with ⟨k', hk', rfl⟩ | hn
    · have hfv := fieldVal_of_mem (n := .agg ci f []) hnd hm
      simp only [List.mem_cons] at hk'
      rcases hk' with rfl | hk'
      · rw [hfv] at hsd; exact hsd
      · have := ha k' hk'
        rw [hfv] at this; exact this
    · exact dense_of_isNone hn

/-- the account id is given (the NamedTuples default it to `None`, Client.py:144-193; `*ACCTFROM` requires it) and
    the include flags the aggregate needs are booleans (their defaults) — then every aggregate of the wrapper has
    something to say -/
def Req.given : Req → Bool
  | .stmt acctid _ _ _ inctran => (emptyAsNone acctid).isSome && inctran.isSome
  | .ccStmt acctid _ _ inctran => (emptyAsNone acctid).isSome && inctran.isSome
  | .invStmt acctid _ _ _ _ _ incpos _ => (emptyAsNone acctid).isSome && incpos.isSome
  | .stmtEnd acctid _ _ _ => (emptyAsNone acctid).isSome
  | .ccStmtEnd acctid _ _ => (emptyAsNone acctid).isSome

theorem expWrapper_dense (cfg : Cfg) (rq : Req) (h : Req.given rq = true) : expDense (expWrapper cfg rq) = true := by
  cases rq with
  | stmt acctid accttype dtstart dtend inctran =>
    simp only [Req.given, Bool.and_eq_true] at h
    obtain ⟨b, rfl⟩ := Option.isSome_iff_exists.mp h.2
    simp [expWrapper, expBankAcct, expInctran, expDense, presentAny, denseAll, expPresent, wantPresent, h.1]
  | ccStmt acctid dtstart dtend inctran =>
    simp only [Req.given, Bool.and_eq_true] at h
    obtain ⟨b, rfl⟩ := Option.isSome_iff_exists.mp h.2
    simp [expWrapper, expCcAcct, expInctran, expDense, presentAny, denseAll, expPresent, wantPresent, h.1]
  | invStmt acctid dtstart dtend dtasof inctran incoo incpos incbal =>
    simp only [Req.given, Bool.and_eq_true] at h
    obtain ⟨b, rfl⟩ := Option.isSome_iff_exists.mp h.2
    cases hf : flagSet inctran with
    | false =>
      simp [expWrapper, expDense, presentAny, denseAll, expPresent, wantPresent, h.1, hf]
    | true =>
      have : inctran = some true := by
        cases inctran with
        | none => simp [flagSet] at hf
        | some b => simp [flagSet] at hf; simp [hf]
      subst this
      simp [expWrapper, expInctran, expDense, presentAny, denseAll, expPresent, wantPresent, h.1, hf]
  | stmtEnd acctid accttype dtstart dtend =>
    simp only [Req.given] at h
    simp [expWrapper, expBankAcct, expDense, presentAny, denseAll, expPresent, wantPresent, h]
  | ccStmtEnd acctid dtstart dtend =>
    simp only [Req.given] at h
    simp [expWrapper, expCcAcct, expDense, presentAny, denseAll, expPresent, wantPresent, h]

theorem kind_under (k : RKind) : k ∈ kindsUnder k.msgset := by cases k <;> simp [kindsUnder, RKind.msgset]

theorem msgset_dense {S : Schema} {cfg : Cfg} {reqs : List Req} {m : MsgSet} {root : Node}
    (hvf : ValidFields S cv esc Dom root.fields)
    (hg : ∀ r ∈ reqs, Req.given r = true) (h : msgsetClauses S cfg reqs m root = []) :
    dense (fieldVal root m.attrName) = true := by
  simp only [msgsetClauses] at h
  split at h
  · exact dense_of_isNone (clause_nil h)
  · rename_i hasked
    simp only [List.append_eq_nil_iff, List.flatMap_eq_nil_iff] at h
    obtain ⟨⟨h1, h2⟩, h3⟩ := h
    have h1 := clause_nil h1
    have h2 := clause_nil h2
    simp only [Bool.and_eq_true] at h1
    have h3 : ∀ k ∈ kindsUnder m, all2 (fun rq w => (expWrapper cfg rq).ok S w)
        (reqs.filter (fun r => decide (r.kind = k)))
        ((fieldVal root m.attrName).items.filter (isWrapper S k)) = true := fun k hk => clause_nil (h3 k hk)
    have hvi : ∀ w ∈ (fieldVal root m.attrName).items, w.isAgg = true → Valid S cv esc Dom w := by
      intro w hw hagg
      obtain ⟨ci, f, its, hn, _⟩ := isCls_agg h1.1
      have hval := valid_fieldVal S cv esc Dom hvf m.attrName (by rw [hn]; rfl)
      rw [hn] at hval hw
      simp only [Valid] at hval
      exact (validItems_iff S cv esc Dom its).mp hval.2.2 w hw hagg
    refine msgs_dense h1.1 h1.2 ?_ ?_
    · obtain ⟨r, hr, hrm⟩ : ∃ r ∈ reqs, r.kind.msgset = m := by
        cases hf : reqs.filter (fun r => decide (r.kind.msgset = m)) with
        | nil => simp [hf] at hasked
        | cons r _ =>
          have : r ∈ reqs.filter (fun r => decide (r.kind.msgset = m)) := by simp [hf]
          simp only [List.mem_filter, decide_eq_true_eq] at this
          exact ⟨r, this.1, this.2⟩
      have hk : r.kind ∈ kindsUnder m := by rw [← hrm]; exact kind_under _
      obtain ⟨hlen, _⟩ := all2_forall _ _ _ (h3 _ hk)
      have hrf : r ∈ reqs.filter (fun r' => decide (r'.kind = r.kind)) := by simp [hr]
      intro h0
      rw [h0] at hlen
      simp only [List.filter_nil, List.length_nil, List.length_eq_zero_iff] at hlen
      rw [hlen] at hrf
      simp at hrf
    · intro w hw
      have := (List.all_eq_true.mp h2) w hw
      simp only [List.any_eq_true] at this
      obtain ⟨k, hk, hkw⟩ := this
      obtain ⟨_, hall⟩ := all2_forall _ _ _ (h3 k hk)
      obtain ⟨rq, hrq, hok⟩ := hall w (by simp [hw, hkw])
      simp only [List.mem_filter] at hrq
      exact exp_dense S cv esc Dom _ _ hok (expWrapper_dense cfg rq (hg rq hrq.1)) (hvi w hw)

theorem check_dense {S : Schema} {cfg : Cfg} {password : Str} {dtclient : DT} {reqs : List Req} {hv : Int}
    {root : Node} (hval : Valid S cv esc Dom root) (hg : ∀ r ∈ reqs, Req.given r = true)
    (h : check S cfg password dtclient reqs hv root = []) : dense root = true := by
  simp only [check, List.append_eq_nil_iff, List.flatMap_eq_nil_iff] at h
  obtain ⟨⟨⟨⟨_, hr⟩, hs⟩, hm⟩, _⟩ := h
  have hvf : ValidFields S cv esc Dom root.fields := by
    cases root with
    | val x => simp [Valid] at hval
    | agg ci f its => simp only [Valid] at hval; exact hval.2.1
  refine root_dense cv esc Dom hval hr hs ?_
  intro a ha
  simp only [List.mem_map] at ha
  obtain ⟨m, hm', rfl⟩ := ha
  exact msgset_dense cv esc Dom hvf hg (hm m hm')

theorem checkSingle_dense {S : Schema} {cfg : Cfg} {userid password : Str} {dtclient : DT} {hv : Int}
    {cfgVersion : Nat} {attr msgCls label : String} {want : Exp} {root : Node}
    (hval : Valid S cv esc Dom root) (hw : expDense want = true)
    (h : checkSingle S cfg userid password dtclient hv cfgVersion attr msgCls label want root = []) :
    dense root = true := by
  simp only [checkSingle, List.append_eq_nil_iff] at h
  obtain ⟨⟨⟨⟨⟨_, hr⟩, hs⟩, hshape⟩, hwr⟩, _⟩ := h
  have hvf : ValidFields S cv esc Dom root.fields := by
    cases root with
    | val x => simp [Valid] at hval
    | agg ci f its => simp only [Valid] at hval; exact hval.2.1
  have h1 := clause_nil hshape
  have h2 := clause_nil hwr
  simp only [Bool.and_eq_true] at h1
  refine root_dense cv esc Dom hval hr hs ?_
  intro a ha
  simp only [List.mem_singleton] at ha
  subst ha
  obtain ⟨hlen, hall⟩ := all2_forall _ _ _ h2
  have hvi : ∀ w ∈ (fieldVal root a).items, w.isAgg = true → Valid S cv esc Dom w := by
    intro w hw hagg
    obtain ⟨ci, f, its, hn, _⟩ := isCls_agg h1.1
    have hval' := valid_fieldVal S cv esc Dom hvf a (by rw [hn]; rfl)
    rw [hn] at hval' hw
    simp only [Valid] at hval'
    exact (validItems_iff S cv esc Dom its).mp hval'.2.2 w hw hagg
  refine msgs_dense h1.1 h1.2 ?_ ?_
  · intro h0; rw [h0] at hlen; simp at hlen
  · intro w hw'
    obtain ⟨e, he, hok⟩ := hall w hw'
    simp only [List.mem_singleton] at he
    subst he
    exact exp_dense S cv esc Dom _ _ hok hw (hvi w hw')

end
end Ofx.C06
