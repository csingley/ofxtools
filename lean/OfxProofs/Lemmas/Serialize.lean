/-
Lemmas for the serializer layer: `_escape_cdata` as a character-wise map that meets the wire clause `wireLex`; `indent`
as a re-decoration with white space only (`Frame`); the guards of Props/Serialize.lean (`rawFree`/`htmlSafe he`: no tag
that `_serialize_html` writes raw or leaves unclosed, so that it is the plain `toStringXml`; `tailsOk`: the unclosed
writer writes tails raw); and `write he close`, either writer, gives a `Spec.Wire.Rendering` of the escaped tree
(`write_rendering_both`).  Facts about trees are proved for a tree and its list of children at once (`tree_induction`).
In this namespace bare `startTag`, `endTag`, `blank` are the serializer's, `tagOk`, `dataOk`, `isTagChar` those of
`Spec.Wire`, whose `isTagChar` is the lexer's `isNameChar` (`[A-Z0-9._]`), not the lexer's wider `isTagChar`.
-/
import OfxModel.Ofx.Serialize
import OfxModel.Spec.Wire
import OfxProofs.Lemmas.Str

namespace Ofx.Serialize
open Ofx Ofx.Spec.Wire

theorem saxEscape_eq (s : Str) : saxEscape s = escapeCdata s := by
  rw [escapeCdata_eq]
  simp only [saxEscape, String.reduceToList, replace_single, List.flatMap_assoc]
  congr 1; funext c
  rcases markup_cases c with rfl | rfl | rfl | ⟨h1, h2, h3⟩ <;> simp [escChar, *]

theorem escapeCdata_append (a b : Str) : escapeCdata (a ++ b) = escapeCdata a ++ escapeCdata b := by
  simp only [escapeCdata_eq, List.flatMap_append]

theorem escChar_cases (c : Char) :
    escChar c = ['&', 'a', 'm', 'p', ';'] ∨ escChar c = ['&', 'l', 't', ';'] ∨ escChar c = ['&', 'g', 't', ';']
      ∨ (escChar c = [c] ∧ c ≠ '&' ∧ c ≠ '<' ∧ c ≠ '>') := by
  rcases markup_cases c with rfl | rfl | rfl | ⟨h1, h2, h3⟩ <;> simp [escChar, *]

theorem isSpace_not_special {c : Char} (h : isSpace c = true) : c ≠ '&' ∧ c ≠ '<' ∧ c ≠ '>' := by
  refine ⟨?_, ?_, ?_⟩ <;> (rintro rfl; revert h; decide)

theorem escapeCdata_ws {w : Str} (h : Ws w) : escapeCdata w = w :=
  escapeCdata_id fun c hc => isSpace_not_special (h c hc)

def escAhead (cs : Str) : Bool :=
  ['a', 'm', 'p', ';'].isPrefixOf cs || ['l', 't', ';'].isPrefixOf cs || ['g', 't', ';'].isPrefixOf cs

/-- every `&` starts `&amp;`, `&lt;` or `&gt;` -/
def ampOk : Str → Bool
  | [] => true
  | c :: cs => (if c = '&' then escAhead cs else true) && ampOk cs

theorem ampOk_escChar_append (c : Char) (rest : Str) : ampOk (escChar c ++ rest) = ampOk rest := by
  rcases escChar_cases c with h | h | h | ⟨h, h1, _, _⟩ <;> rw [h]
  · simp [ampOk, escAhead, List.isPrefixOf]
  · simp [ampOk, escAhead, List.isPrefixOf]
  · simp [ampOk, escAhead, List.isPrefixOf]
  · simp [ampOk, h1]

theorem ampOk_escapeCdata (s : Str) : ampOk (escapeCdata s) = true := by
  induction s with
  | nil => simp [escapeCdata_nil, ampOk]
  | cons c cs ih => rw [escapeCdata_cons, ampOk_escChar_append, ih]

theorem ampOk_spec {s : Str} (h : ampOk s = true) (pre post : Str) (e : s = pre ++ '&' :: post) :
    escAhead post = true := by
  induction pre generalizing s with
  | nil =>
    subst e
    simp only [List.nil_append, ampOk, Bool.and_eq_true] at h
    simpa using h.1
  | cons p ps ih =>
    subst e
    simp only [List.cons_append, ampOk, Bool.and_eq_true] at h
    exact ih h.2 rfl

theorem not_mem_escapeCdata_lt (s : Str) : '<' ∉ escapeCdata s := by
  rw [escapeCdata_eq]
  simp only [List.mem_flatMap, not_exists, not_and]
  intro c _ hc
  rcases escChar_cases c with h | h | h | ⟨h, _, h2, _⟩ <;> rw [h] at hc <;> simp at hc
  exact h2 hc.symm

theorem not_mem_escapeCdata_gt (s : Str) : '>' ∉ escapeCdata s := by
  rw [escapeCdata_eq]
  simp only [List.mem_flatMap, not_exists, not_and]
  intro c _ hc
  rcases escChar_cases c with h | h | h | ⟨h, _, _, h3⟩ <;> rw [h] at hc <;> simp at hc
  exact h3 hc.symm

theorem entityAhead_append {cs : Str} (b : Str) (h : entityAhead cs = true) : entityAhead (cs ++ b) = true := by
  simp only [entityAhead, List.any_eq_true, List.isPrefixOf_iff_prefix] at h ⊢
  obtain ⟨e, he, hp⟩ := h
  exact ⟨e, he, hp.trans (List.prefix_append _ _)⟩

theorem tagRest_append {cs : Str} (b : Str) (h : tagRest cs = true) : tagRest (cs ++ b) = true := by
  induction cs with
  | nil => simp [tagRest] at h
  | cons c cs ih =>
    simp only [List.cons_append, tagRest] at h ⊢
    split at h
    · simp [*]
    · simp only [*, if_false]
      simp only [Bool.and_eq_true] at h ⊢
      exact ⟨h.1, ih h.2⟩

theorem tagAhead_append {cs : Str} (b : Str) (h : tagAhead cs = true) : tagAhead (cs ++ b) = true := by
  cases cs with
  | nil => simp [tagAhead] at h
  | cons c cs =>
    simp only [List.cons_append, tagAhead] at h ⊢
    split at h
    · rename_i hc
      simp only [hc, if_true]
      cases cs with
      | nil => simp at h
      | cons d ds =>
        simp only [List.cons_append, Bool.and_eq_true] at h ⊢
        exact ⟨h.1, tagRest_append b h.2⟩
    · rename_i hc
      simp only [hc, if_false]
      simp only [Bool.and_eq_true] at h ⊢
      exact ⟨h.1, tagRest_append b h.2⟩

theorem wireLex_append {a b : Str} (ha : wireLex a = true) (hb : wireLex b = true) : wireLex (a ++ b) = true := by
  induction a with
  | nil => simpa using hb
  | cons c cs ih =>
    simp only [List.cons_append, wireLex, Bool.and_eq_true] at ha ⊢
    refine ⟨?_, ih ha.2⟩
    have h1 := ha.1
    split at h1
    · simp only [*, if_true]; exact tagAhead_append b h1
    · split at h1
      · simp only [*, if_true]; exact entityAhead_append b h1
      · simp [*]

theorem dataOk_imp_wireLex {s : Str} (h : dataOk s = true) : wireLex s = true := by
  induction s with
  | nil => rfl
  | cons c cs ih =>
    simp only [dataOk, wireLex, Bool.and_eq_true] at h ⊢
    refine ⟨?_, ih h.2⟩
    have h1 := h.1
    split at h1
    · simp at h1
    · rename_i hc; simp only [hc, if_false]; exact h1

theorem wireLex_plain {s : Str} (h : ∀ c ∈ s, c ≠ '<' ∧ c ≠ '&') : wireLex s = true := by
  induction s with
  | nil => rfl
  | cons c cs ih =>
    have hc := h c (by simp)
    simp only [wireLex, hc.1, hc.2, if_false, Bool.true_and]
    exact ih (fun x hx => h x (by simp [hx]))

theorem dataOk_escChar_append (c : Char) (rest : Str) : dataOk (escChar c ++ rest) = dataOk rest := by
  rcases escChar_cases c with h | h | h | ⟨h, h1, h2, _⟩ <;> rw [h]
  · simp [dataOk, entityAhead, entities, List.isPrefixOf]
  · simp [dataOk, entityAhead, entities, List.isPrefixOf]
  · simp [dataOk, entityAhead, entities, List.isPrefixOf]
  · simp [dataOk, h1, h2]

theorem dataOk_escapeCdata (s : Str) : dataOk (escapeCdata s) = true := by
  induction s with
  | nil => simp [escapeCdata_nil, dataOk]
  | cons c cs ih => rw [escapeCdata_cons, dataOk_escChar_append, ih]

theorem isTagChar_not_special {c : Char} (h : isTagChar c = true) : c ≠ '<' ∧ c ≠ '&' ∧ c ≠ '>' ∧ c ≠ '/' := by
  refine ⟨?_, ?_, ?_, ?_⟩ <;> (rintro rfl; revert h; decide)

theorem tagRest_tag {t : Str} (ht : ∀ c ∈ t, isTagChar c = true) : tagRest (t ++ ['>']) = true := by
  induction t with
  | nil => simp [tagRest]
  | cons c cs ih =>
    have hc := ht c (by simp)
    simp only [List.cons_append, tagRest, (isTagChar_not_special hc).2.2.1, if_false, hc, Bool.true_and]
    exact ih (fun x hx => ht x (by simp [hx]))

theorem tagOk_iff {t : Str} : tagOk t = true ↔ t ≠ [] ∧ ∀ c ∈ t, isTagChar c = true := by
  simp [tagOk, List.all_eq_true]

theorem wireLex_startTag {t : Str} (h : tagOk t = true) : wireLex (Serialize.startTag t) = true := by
  obtain ⟨hne, hall⟩ := tagOk_iff.1 h
  cases t with
  | nil => exact absurd rfl hne
  | cons c cs =>
    have hc := hall c (by simp)
    have hr : tagRest (cs ++ ['>']) = true := tagRest_tag (fun x hx => hall x (by simp [hx]))
    simp only [Serialize.startTag, wireLex, if_true, List.cons_append, tagAhead, (isTagChar_not_special hc).2.2.2,
      if_false, hc, hr, Bool.true_and]
    apply wireLex_plain (s := c :: (cs ++ ['>']))
    intro x hx
    simp only [List.mem_cons, List.mem_append, List.not_mem_nil, or_false] at hx
    rcases hx with rfl | hx | rfl
    · exact ⟨(isTagChar_not_special hc).1, (isTagChar_not_special hc).2.1⟩
    · have := isTagChar_not_special (hall x (by simp [hx])); exact ⟨this.1, this.2.1⟩
    · decide

theorem wireLex_endTag {t : Str} (h : tagOk t = true) : wireLex (Serialize.endTag t) = true := by
  obtain ⟨hne, hall⟩ := tagOk_iff.1 h
  cases t with
  | nil => exact absurd rfl hne
  | cons c cs =>
    have hc := hall c (by simp)
    have hr : tagRest (cs ++ ['>']) = true := tagRest_tag (fun x hx => hall x (by simp [hx]))
    simp only [Serialize.endTag, wireLex, if_true, List.cons_append, tagAhead, hc, hr, Bool.true_and]
    apply wireLex_plain (s := '/' :: c :: (cs ++ ['>']))
    intro x hx
    simp only [List.mem_cons, List.mem_append, List.not_mem_nil, or_false] at hx
    rcases hx with rfl | rfl | hx | rfl
    · decide
    · exact ⟨(isTagChar_not_special hc).1, (isTagChar_not_special hc).2.1⟩
    · have := isTagChar_not_special (hall x (by simp [hx])); exact ⟨this.1, this.2.1⟩
    · decide

theorem tree_induction {P : Tree → Prop} {Q : List Tree → Prop}
    (node : ∀ t x tl cs, Q cs → P (.node t x tl cs)) (nil : Q [])
    (cons : ∀ c cs, P c → Q cs → Q (c :: cs)) : (∀ t, P t) ∧ (∀ cs, Q cs) :=
  ⟨fun t => Tree.rec (motive_1 := P) (motive_2 := Q) node nil cons t,
   fun cs => Tree.rec_1 (motive_1 := P) (motive_2 := Q) node nil cons cs⟩

/-- how `indent` may change a text or a tail: not at all, or a blank one into whitespace -/
def OptFrame (a b : Option Str) : Prop := b = a ∨ (blank a = true ∧ ∃ w, b = some w ∧ Ws w)

mutual
  /-- `t'` is `t` up to whitespace decoration: texts and tails differ by `OptFrame`, the text of a childless element
      not at all -/
  inductive Frame : Tree → Tree → Prop
    | node {t : Str} {x x' tl tl' : Option Str} {cs cs' : List Tree} :
        OptFrame x x' → (cs = [] → x' = x) → OptFrame tl tl' → FrameList cs cs' →
        Frame (.node t x tl cs) (.node t x' tl' cs')
  inductive FrameList : List Tree → List Tree → Prop
    | nil : FrameList [] []
    | cons {c c' : Tree} {cs cs' : List Tree} : Frame c c' → FrameList cs cs' → FrameList (c :: cs) (c' :: cs')
end

theorem OptFrame.refl (a : Option Str) : OptFrame a a := Or.inl rfl

theorem ws_spaces (n : Nat) : Ws (spaces n) := by
  induction n with
  | zero => intro c hc; simp [spaces] at hc
  | succ n ih =>
    intro c hc
    simp only [spaces, List.mem_cons] at hc
    rcases hc with rfl | rfl | hc
    · decide
    · decide
    · exact ih c hc

theorem ws_indentStr (n : Nat) : Ws (indentStr n) := by
  intro c hc
  simp only [indentStr, List.mem_cons] at hc
  rcases hc with rfl | hc
  · decide
  · exact ws_spaces n c hc

theorem ws_append {a b : Str} (ha : Ws a) (hb : Ws b) : Ws (a ++ b) := by
  intro c hc
  rcases List.mem_append.1 hc with h | h
  · exact ha c h
  · exact hb c h

theorem ws_nil : Ws [] := by intro c hc; simp at hc

theorem blank_some_ws {w : Str} (h : Ws w) : blank (some w) = true := by
  simp [blank, strip, rstrip, lstrip_of_space h, lstrip]

theorem optFrame_set (a : Option Str) {i : Str} (hi : Ws i) (b : Bool) :
    OptFrame a (if (b && blank a) = true then some i else a) := by
  by_cases h : (b && blank a) = true
  · rw [if_pos h]; exact Or.inr ⟨(Bool.and_eq_true _ _ ▸ h).2, i, rfl, hi⟩
  · rw [if_neg h]; exact Or.inl rfl

theorem optFrame_set_trans {a b : Option Str} {i : Str} (hi : Ws i) (h : OptFrame a b) :
    OptFrame a (if blank b then some i else b) := by
  by_cases hb : blank b = true
  · simp only [hb, if_true]
    rcases h with rfl | ⟨ha, _⟩
    · exact Or.inr ⟨hb, i, rfl, hi⟩
    · exact Or.inr ⟨ha, i, rfl, hi⟩
  · simp only [hb]; exact h

theorem frame_setTail {c c' : Tree} {i : Str} (hi : Ws i) (h : Frame c c') : Frame c (setTail i c') := by
  cases h with
  | node hx hx0 htl hcs => exact .node hx hx0 (optFrame_set_trans hi htl) hcs

theorem frameList_setLastTail {i : Str} (hi : Ws i) {cs cs' : List Tree} (h : FrameList cs cs') :
    FrameList cs (setLastTail i cs') := by
  induction cs' generalizing cs with
  | nil => exact h
  | cons c' cs' ih =>
    cases h with
    | cons h hs =>
      cases cs' with
      | nil => cases hs; exact .cons (frame_setTail hi h) .nil
      | cons d' cs' => exact .cons h (ih hs)

theorem indentList_eq_nil {cs : List Tree} {l : Nat} : indentList cs l = [] ↔ cs = [] := by
  cases cs <;> simp [indentList]

theorem indent_frame_both :
    (∀ t l, Frame t (indent t l)) ∧ (∀ cs l, FrameList cs (indentList cs l)) := by
  apply tree_induction (P := fun t => ∀ l, Frame t (indent t l)) (Q := fun cs => ∀ l, FrameList cs (indentList cs l))
  · intro t x tl cs ih l
    have w2 : Ws [' ', ' '] := by
      intro c hc
      simp only [List.mem_cons, List.not_mem_nil, or_false] at hc
      rcases hc with rfl | rfl <;> decide
    cases cs with
    | nil => exact .node (OptFrame.refl _) (fun _ => rfl) (optFrame_set tl (ws_indentStr l) (l != 0)) .nil
    | cons c cs =>
      exact .node (optFrame_set x (ws_append (ws_indentStr l) w2) true) (fun h => absurd h (List.cons_ne_nil _ _))
        (optFrame_set tl (ws_indentStr l) true) (frameList_setLastTail (ws_indentStr l) (ih (l + 1)))
  · intro l; exact .nil
  · intro c cs hc hcs l
    exact .cons (hc l) (hcs l)

mutual
  /-- no tag lower-cases to `script` / `style` (whose text `_serialize_html` writes raw) -/
  def rawFree : Tree → Bool
    | .node t _ _ cs => !isRaw (lower t) && rawFreeList cs
  def rawFreeList : List Tree → Bool
    | [] => true
    | c :: cs => rawFree c && rawFreeList cs
end

mutual
  /-- no tag lower-cases into `HTML_EMPTY ∪ {script, style}` -/
  def htmlSafe (he : List Str) : Tree → Bool
    | .node t _ _ cs => !isRaw (lower t) && !he.contains (lower t) && htmlSafeList he cs
  def htmlSafeList (he : List Str) : List Tree → Bool
    | [] => true
    | c :: cs => htmlSafe he c && htmlSafeList he cs
end

mutual
  /-- the writer one expects: every text and tail escaped, every element closed -/
  def toStringXml : Tree → Str
    | .node tag text tail cs =>
      startTag tag ++ (escapeCdata (orEmpty text) ++ (toStringXmlList cs ++ (endTag tag ++ escapeCdata (orEmpty tail))))
  def toStringXmlList : List Tree → Str
    | [] => []
    | c :: cs => toStringXml c ++ toStringXmlList cs
end

theorem html_eq_xml_both (he : List Str) :
    (∀ t, htmlSafe he t = true → toStringHtml he t = toStringXml t) ∧
    (∀ cs, htmlSafeList he cs = true → toStringHtmlList he cs = toStringXmlList cs) := by
  apply tree_induction
  · intro t x tl cs ih h
    simp only [htmlSafe, Bool.and_eq_true, Bool.not_eq_true'] at h
    simp only [toStringHtml, toStringXml, htmlText, htmlEnd, h.1.1, h.1.2, ih h.2]
    simp
  · intro _; rfl
  · intro c cs hc hcs h
    simp only [htmlSafeList, Bool.and_eq_true] at h
    simp only [toStringHtmlList, toStringXmlList, hc h.1, hcs h.2]

theorem htmlSafe_rawFree_both (he : List Str) :
    (∀ t, htmlSafe he t = true → rawFree t = true) ∧ (∀ cs, htmlSafeList he cs = true → rawFreeList cs = true) := by
  apply tree_induction
  · intro t x tl cs ih h
    simp only [htmlSafe, Bool.and_eq_true, Bool.not_eq_true'] at h
    simp only [rawFree, h.1.1, ih h.2]; rfl
  · intro _; rfl
  · intro c cs hc hcs h
    simp only [htmlSafeList, Bool.and_eq_true] at h
    simp only [rawFreeList, hc h.1, hcs h.2]; rfl

theorem wireLex_html_both (he : List Str) :
    (∀ t, tagsOk t = true → rawFree t = true → wireLex (toStringHtml he t) = true) ∧
    (∀ cs, tagsOkList cs = true → rawFreeList cs = true → wireLex (toStringHtmlList he cs) = true) := by
  apply tree_induction
  · intro t x tl cs ih h1 h2
    simp only [tagsOk, Bool.and_eq_true] at h1
    simp only [rawFree, Bool.and_eq_true, Bool.not_eq_true'] at h2
    simp only [toStringHtml, htmlText, h2.1]
    refine wireLex_append (wireLex_startTag h1.1) (wireLex_append (dataOk_imp_wireLex (dataOk_escapeCdata _))
      (wireLex_append (ih h1.2 h2.2) (wireLex_append ?_ (dataOk_imp_wireLex (dataOk_escapeCdata _)))))
    simp only [htmlEnd]
    split
    · rfl
    · exact wireLex_endTag h1.1
  · intro _ _; rfl
  · intro c cs hc hcs h1 h2
    simp only [tagsOkList, Bool.and_eq_true] at h1
    simp only [rawFreeList, Bool.and_eq_true] at h2
    simp only [toStringHtmlList]
    exact wireLex_append (hc h1.1 h2.1) (hcs h1.2 h2.2)

theorem startTag_eq (t : Str) : Serialize.startTag t = Spec.Wire.startTag t := rfl
theorem endTag_eq (t : Str) : Serialize.endTag t = Spec.Wire.endTag t := rfl

theorem ws_of_optFrame_none {b : Option Str} (h : OptFrame none b) : Ws (orEmpty b) := by
  rcases h with rfl | ⟨_, w, rfl, hw⟩
  · exact ws_nil
  · exact hw

theorem frame_refl_both : (∀ t, Frame t t) ∧ (∀ cs, FrameList cs cs) := by
  apply tree_induction
  · intro t x tl cs ih
    exact .node (OptFrame.refl _) (fun _ => rfl) (OptFrame.refl _) ih
  · exact .nil
  · intro c cs hc hcs
    exact .cons hc hcs

theorem trimmedB_iff {d : Str} : trimmedB d = true ↔ Trimmed d := by
  unfold trimmedB Trimmed
  cases h1 : d.head? <;> cases h2 : d.getLast? <;> simp

theorem escChar_not_space {c : Char} (h : isSpace c = false) : ∀ x ∈ escChar c, isSpace x = false := by
  intro x hx
  rcases escChar_cases c with e | e | e | ⟨e, _⟩ <;> rw [e] at hx
  case inr.inr.inr =>
    obtain rfl : x = c := by simpa using hx
    exact h
  all_goals
    revert x
    decide

theorem dataWF_escape {d : Str} (hne : d ≠ []) (ht : Trimmed d) : DataWF (escapeCdata d) := by
  have hd : d = d.dropLast ++ [d.getLast hne] := (List.dropLast_concat_getLast hne).symm
  have hlast : isSpace (d.getLast hne) = false := ht.2 _ (List.getLast?_eq_some_getLast hne)
  obtain ⟨c, cs, rfl⟩ := List.exists_cons_of_ne_nil hne
  obtain ⟨a, as, ha⟩ := List.exists_cons_of_ne_nil (escChar_ne_nil c)
  refine ⟨?_, ⟨?_, ?_⟩, not_mem_escapeCdata_lt _⟩
  · rw [escapeCdata_cons, ha]
    exact List.cons_ne_nil _ _
  · intro x hx
    rw [escapeCdata_cons, ha, List.cons_append, List.head?_cons, Option.some.injEq] at hx
    exact escChar_not_space (ht.1 c rfl) x (by rw [ha, ← hx]; exact List.mem_cons_self)
  · intro x hx
    rw [hd, escapeCdata_append, escapeCdata_cons, escapeCdata_nil, List.append_nil, List.getLast?_append] at hx
    cases h : (escChar ((c :: cs).getLast hne)).getLast? with
    | none => exact absurd (List.getLast?_eq_none_iff.mp h) (escChar_ne_nil _)
    | some y =>
      rw [h] at hx
      obtain rfl : y = x := by simpa using hx
      exact escChar_not_space hlast y (List.mem_of_getLast? h)

/-- leaf texts as the domain has them -/
def TextsOk (ds : List Str) : Prop := ∀ d ∈ ds, d ≠ [] ∧ Trimmed d

theorem textsOk_append {a b : List Str} (h : TextsOk (a ++ b)) : TextsOk a ∧ TextsOk b :=
  ⟨fun d hd => h d (List.mem_append.2 (Or.inl hd)), fun d hd => h d (List.mem_append.2 (Or.inr hd))⟩

/-- the writer `serializeBody` chooses: `ET.tostring(method="html")` or `tostring_unclosed_elements` -/
def write (he : List Str) (close : Bool) (t : Tree) : Str := if close then toStringHtml he t else toStringUnclosed t
def writeList (he : List Str) (close : Bool) (cs : List Tree) : Str :=
  if close then toStringHtmlList he cs else toStringUnclosedList cs

theorem writeList_cons (he : List Str) (close : Bool) (c : Tree) (cs : List Tree) :
    writeList he close (c :: cs) = write he close c ++ writeList he close cs := by
  cases close <;> rfl

/-- The element's own tail is kept apart so that the parent's `RenderingList.cons` can take it as the white space
    between siblings.  The html writer closes a data element and puts an aggregate's (white-space) text after its start
    tag; the unclosed writer leaves a data element open and puts the aggregate's tail there. -/
theorem write_rendering_both (he : List Str) (close : Bool) :
    (∀ t0 t, parserShaped t0 = true → tagsOk t0 = true → TextsOk (texts t0) → Frame t0 t →
      (close = true → htmlSafe he t0 = true) → (close = false → hasEmptyAgg t0 = false) →
      ∃ r, Rendering (escapeTree t0) r ∧ write he close t = r ++ orEmpty t.tail ∧ Ws (orEmpty t.tail)) ∧
    (∀ cs0 cs, parserShapedList cs0 = true → tagsOkList cs0 = true → TextsOk (textsList cs0) → FrameList cs0 cs →
      (close = true → htmlSafeList he cs0 = true) → (close = false → hasEmptyAggList cs0 = false) →
      ∃ s, RenderingList (escapeTreeList cs0) s ∧ writeList he close cs = s) := by
  apply tree_induction
  · intro tag' x tl cs0 ih t hp htag htx hf hs hg
    cases hf with
    | @node _ _ x' _ tl' _ cs' hx hx0 htl hcs =>
    simp only [tagsOk, Bool.and_eq_true] at htag
    simp only [htmlSafe, Bool.and_eq_true, Bool.not_eq_true'] at hs
    simp only [hasEmptyAgg, Bool.or_eq_false_iff, Bool.and_eq_false_iff] at hg
    cases x with
    | some d =>
      simp only [parserShaped, Bool.and_eq_true, Option.isNone_iff_eq_none, List.isEmpty_iff] at hp
      obtain ⟨rfl, rfl⟩ := hp
      have hw := ws_of_optFrame_none htl
      cases hcs
      obtain rfl := hx0 rfl
      have hd := htx d (by simp [texts])
      have hdw := dataWF_escape hd.1 hd.2
      cases close with
      | true =>
        refine ⟨_, Rendering.leafClosed tag' (escapeCdata d) [] [] htag.1 hdw ws_nil ws_nil, ?_, hw⟩
        simp only [write, toStringHtml, toStringHtmlList, htmlText, htmlEnd, (hs rfl).1.1, (hs rfl).1.2, Tree.tail,
          escapeCdata_ws hw, startTag_eq, endTag_eq]
        simp [orEmpty]
      | false =>
        refine ⟨_, Rendering.leafOpen tag' (escapeCdata d) [] htag.1 hdw ws_nil, ?_, hw⟩
        simp [write, toStringUnclosed, Tree.tail, startTag_eq, orEmpty, saxEscape_eq]
    | none =>
      simp only [parserShaped, Bool.and_eq_true, Option.isNone_iff_eq_none] at hp
      obtain ⟨rfl, hpl⟩ := hp
      have hw := ws_of_optFrame_none htl
      have hwx := ws_of_optFrame_none hx
      obtain ⟨s, hs', es⟩ := ih cs' hpl htag.2 (by simpa [texts] using htx) hcs (fun h => (hs h).2) (fun h => (hg h).2)
      cases close with
      | true =>
        refine ⟨_, Rendering.agg tag' (escapeTreeList cs0) (orEmpty x') s htag.1 hwx hs', ?_, hw⟩
        simp only [writeList, if_true] at es
        simp only [write, toStringHtml, htmlText, htmlEnd, (hs rfl).1.1, (hs rfl).1.2, Tree.tail, es, escapeCdata_ws hw,
          escapeCdata_ws hwx, startTag_eq, endTag_eq]
        simp
      | false =>
        -- the children are there, so the end tag is written
        have he' : cs'.isEmpty = false := by
          cases hcs with
          | nil => simpa using (hg rfl).1
          | cons _ _ => rfl
        refine ⟨_, Rendering.agg tag' (escapeTreeList cs0) (orEmpty tl') s htag.1 hw hs', ?_, hw⟩
        simp only [writeList, Bool.false_eq_true, if_false] at es
        simp [write, toStringUnclosed, he', Tree.tail, es, startTag_eq, endTag_eq]
  · intro cs _ _ _ hf _ _
    cases hf
    exact ⟨[], RenderingList.nil, by cases close <;> rfl⟩
  · intro c0 cs0 hc hcs l' hp htag htx hf hs hg
    cases hf with
    | @cons _ c' _ cs' hfc hfcs =>
    simp only [parserShapedList, Bool.and_eq_true] at hp
    simp only [tagsOkList, Bool.and_eq_true] at htag
    simp only [htmlSafeList, Bool.and_eq_true] at hs
    simp only [hasEmptyAggList, Bool.or_eq_false_iff] at hg
    have htx2 := textsOk_append (by simpa [textsList] using htx)
    obtain ⟨r, hr, er, hw⟩ := hc c' hp.1 htag.1 htx2.1 hfc (fun h => (hs h).1) (fun h => (hg h).1)
    obtain ⟨ss, hss, ess⟩ := hcs cs' hp.2 htag.2 htx2.2 hfcs (fun h => (hs h).2) (fun h => (hg h).2)
    exact ⟨r ++ (orEmpty c'.tail ++ ss), RenderingList.cons _ _ r _ ss hr hw hss, by
      rw [writeList_cons, er, ess, List.append_assoc]⟩

mutual
  /-- every tail is wire-safe data (`None`, whitespace, …): `tostring_unclosed_elements` writes tails raw -/
  def tailsOk : Tree → Bool
    | .node _ _ tl cs => dataOk (orEmpty tl) && tailsOkList cs
  def tailsOkList : List Tree → Bool
    | [] => true
    | c :: cs => tailsOk c && tailsOkList cs
end

theorem dataOk_ws {w : Str} (h : Ws w) : dataOk w = true := by
  induction w with
  | nil => rfl
  | cons c cs ih =>
    have hc := isSpace_not_special (h c (by simp))
    simp only [dataOk, hc.2.1, hc.1, if_false, Bool.true_and]
    exact ih (fun x hx => h x (by simp [hx]))

theorem wireLex_unclosed_both :
    (∀ t, tagsOk t = true → tailsOk t = true → wireLex (toStringUnclosed t) = true) ∧
    (∀ cs, tagsOkList cs = true → tailsOkList cs = true → wireLex (toStringUnclosedList cs) = true) := by
  apply tree_induction
  · intro t x tl cs ih h1 h2
    simp only [tagsOk, Bool.and_eq_true] at h1
    simp only [tailsOk, Bool.and_eq_true] at h2
    have htl := dataOk_imp_wireLex h2.1
    by_cases hc : cs.isEmpty = true
    · simp only [toStringUnclosed, hc, if_true, saxEscape_eq]
      exact wireLex_append (wireLex_startTag h1.1)
        (wireLex_append (dataOk_imp_wireLex (dataOk_escapeCdata _)) htl)
    · simp only [toStringUnclosed, hc]
      exact wireLex_append (wireLex_startTag h1.1) (wireLex_append htl
        (wireLex_append (ih h1.2 h2.2) (wireLex_append (wireLex_endTag h1.1) htl)))
  · intro _ _; rfl
  · intro c cs hc hcs h1 h2
    simp only [tagsOkList, Bool.and_eq_true] at h1
    simp only [tailsOkList, Bool.and_eq_true] at h2
    simp only [toStringUnclosedList]
    exact wireLex_append (hc h1.1 h2.1) (hcs h1.2 h2.2)

theorem frame_tailsOk_both :
    (∀ t t', Frame t t' → tailsOk t = true → tailsOk t' = true) ∧
    (∀ cs cs', FrameList cs cs' → tailsOkList cs = true → tailsOkList cs' = true) := by
  apply tree_induction
  · intro tag x tl cs ih t' hf h
    cases hf with
    | node _ _ htl hcs =>
    simp only [tailsOk, Bool.and_eq_true] at h ⊢
    refine ⟨?_, ih _ hcs h.2⟩
    rcases htl with rfl | ⟨_, w, rfl, hw⟩
    · exact h.1
    · exact dataOk_ws hw
  · intro cs' hf _
    cases hf
    rfl
  · intro c cs hc hcs l' hf h
    cases hf with
    | cons hfc hfcs =>
    simp only [tailsOkList, Bool.and_eq_true] at h ⊢
    exact ⟨hc _ hfc h.1, hcs _ hfcs h.2⟩

theorem parserShaped_tailsOk_both :
    (∀ t, parserShaped t = true → tailsOk t = true) ∧ (∀ cs, parserShapedList cs = true → tailsOkList cs = true) := by
  apply tree_induction
  · intro tag x tl cs ih h
    cases x with
    | some d =>
      simp only [parserShaped, Bool.and_eq_true, Option.isNone_iff_eq_none, List.isEmpty_iff] at h
      obtain ⟨rfl, rfl⟩ := h
      rfl
    | none =>
      simp only [parserShaped, Bool.and_eq_true, Option.isNone_iff_eq_none] at h
      obtain ⟨rfl, hl⟩ := h
      simp only [tailsOk, ih hl, Bool.and_true]
      rfl
  · intro _; rfl
  · intro c cs hc hcs h
    simp only [parserShapedList, Bool.and_eq_true] at h
    simp only [tailsOkList, hc h.1, hcs h.2]
    rfl

theorem frame_tags_both :
    (∀ t t', Frame t t' → tagsOk t' = tagsOk t ∧ rawFree t' = rawFree t) ∧
    (∀ cs cs', FrameList cs cs' → tagsOkList cs' = tagsOkList cs ∧ rawFreeList cs' = rawFreeList cs) := by
  apply tree_induction
  · intro tag x tl cs ih t' hf
    cases hf with
    | node _ _ _ hcs =>
    have := ih _ hcs
    simp only [tagsOk, rawFree, this.1, this.2, and_self]
  · intro cs' hf
    cases hf
    exact ⟨rfl, rfl⟩
  · intro c cs hc hcs l' hf
    cases hf with
    | cons hfc hfcs =>
    have h1 := hc _ hfc
    have h2 := hcs _ hfcs
    simp only [tagsOkList, rawFreeList, h1.1, h1.2, h2.1, h2.2, and_self]

theorem escapeTree_id_both :
    (∀ t, (∀ d ∈ texts t, ∀ c ∈ d, c ≠ '&' ∧ c ≠ '<' ∧ c ≠ '>') → escapeTree t = t) ∧
    (∀ cs, (∀ d ∈ textsList cs, ∀ c ∈ d, c ≠ '&' ∧ c ≠ '<' ∧ c ≠ '>') → escapeTreeList cs = cs) := by
  apply tree_induction
  · intro tag x tl cs ih h
    cases x with
    | none =>
      have := ih (by simpa [texts] using h)
      simp only [escapeTree, this, Option.map_none]
    | some d =>
      have h1 := escapeCdata_id (h d (by simp [texts]))
      have := ih (fun d' hd' => h d' (by simp [texts, hd']))
      simp only [escapeTree, this, Option.map_some, h1]
  · intro _; rfl
  · intro c cs hc hcs h
    have h1 := hc (fun d hd => h d (by simp [textsList, hd]))
    have h2 := hcs (fun d hd => h d (by simp [textsList, hd]))
    simp only [escapeTreeList, h1, h2]

theorem texts_escapeTree_both :
    (∀ t, texts (escapeTree t) = (texts t).map escapeCdata) ∧
    (∀ cs, textsList (escapeTreeList cs) = (textsList cs).map escapeCdata) := by
  apply tree_induction
  · intro tag x tl cs ih
    cases x <;> simp [escapeTree, texts, ih]
  · rfl
  · intro c cs hc hcs
    simp [escapeTreeList, textsList, hc, hcs]

theorem wireTree_iff {t : Tree} :
    wireTree t = true ↔ parserShaped t = true ∧ tagsOk t = true ∧ TextsOk (texts t) := by
  simp only [wireTree, Bool.and_eq_true, List.all_eq_true, TextsOk, Bool.not_eq_true', trimmedB_iff, and_assoc]
  constructor
  · rintro ⟨h1, h2, h3⟩
    exact ⟨h1, h2, fun d hd => ⟨by have := (h3 d hd).1; intro e; subst e; simp at this, (h3 d hd).2⟩⟩
  · rintro ⟨h1, h2, h3⟩
    refine ⟨h1, h2, fun d hd => ⟨?_, (h3 d hd).2⟩⟩
    cases d with
    | nil => exact absurd rfl (h3 _ hd).1
    | cons _ _ => rfl

theorem guards_of_tags_both (he : List Str) :
    (∀ t, (∀ tag ∈ tags t, tagOk tag = true ∧ isRaw (lower tag) = false ∧ he.contains (lower tag) = false) →
      tagsOk t = true ∧ htmlSafe he t = true) ∧
    (∀ cs, (∀ tag ∈ tagsList cs, tagOk tag = true ∧ isRaw (lower tag) = false ∧ he.contains (lower tag) = false) →
      tagsOkList cs = true ∧ htmlSafeList he cs = true) := by
  apply tree_induction
  · intro tag x tl cs ih h
    have h0 := h tag (by simp [tags])
    have h1 := ih (fun t ht => h t (by simp [tags, ht]))
    have h3 := h0.2.2
    simp only [tagsOk, htmlSafe, h0.1, h0.2.1, h3, h1.1, h1.2]
    exact ⟨rfl, rfl⟩
  · intro _; exact ⟨rfl, rfl⟩
  · intro c cs hc hcs h
    have h1 := hc (fun t ht => h t (by simp [tagsList, ht]))
    have h2 := hcs (fun t ht => h t (by simp [tagsList, ht]))
    simp [tagsOkList, htmlSafeList, h1.1, h1.2, h2.1, h2.2]

end Ofx.Serialize
