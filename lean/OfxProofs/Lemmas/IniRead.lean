/-
Lemmas for C18 (persistence through the file): `_read`, line by line.  For any text: `step` as one case distinction
(`step_eq`), `header` as `RState.enter` unless the section is a duplicate (`header_eq`), the invariant `RInv` of the reader
state (`Lemmas/IniTotal.lean` rests on these).  For the lines `write` produces from clean names, keys and values: the state
after an option with its continuation lines (`optBlock_spec`), after a section (`section_spec`, from `Top` through `Mid` to
`Top`) and after the file (`iniReadInto_fileOf`): the text reads as `loadRaw1` folded over the sections.
-/
import OfxProofs.Lemmas.IniText
import OfxProofs.Lemmas.Ofxget
import OfxProofs.Lemmas.PyM

set_option linter.unusedSimpArgs false

namespace Ofx.IniText
open Ofx Ofx.Ofxget

/-! `cursect`, the dict the reader is filling: read (`curSect`), replaced (`setCurSect`), and being one of the parser's
    own (`CurOk`, which `modCur` needs in order to succeed) -/

def curSect (st : RState) : RSect :=
  match st.cur with
  | .none => []
  | .defaults => st.defaults
  | .named n => (st.sections.lookup n).getD []

def setCurSect (st : RState) (s : RSect) : RState :=
  { st with
    defaults := match st.cur with | .defaults => s | _ => st.defaults
    sections := match st.cur with | .named n => mapSet n s st.sections | _ => st.sections }

def CurOk (st : RState) : Prop :=
  match st.cur with
  | .none => False
  | .defaults => True
  | .named n => (st.sections.lookup n).isSome = true

theorem CurOk.cases {st : RState} (h : CurOk st) :
    st.cur = .defaults ∨ ∃ n s, st.cur = .named n ∧ st.sections.lookup n = some s := by
  unfold CurOk at h
  cases hc : st.cur with
  | none => rw [hc] at h; exact h.elim
  | defaults => exact .inl rfl
  | named n =>
    rw [hc] at h
    obtain ⟨s, hs⟩ := Option.isSome_iff_exists.mp h
    exact .inr ⟨n, s, rfl, hs⟩

theorem CurOk.ne_none {st : RState} (h : CurOk st) : st.cur ≠ .none := by
  rcases h.cases with hc | ⟨n, _, hc, _⟩ <;> rw [hc] <;> exact Cur.noConfusion

theorem modCur_ok (st : RState) (f : RSect → Except IniErr RSect) (s' : RSect) (hok : CurOk st)
    (hf : f (curSect st) = .ok s') : st.modCur f = .ok (setCurSect st s') := by
  unfold RState.modCur setCurSect
  unfold curSect at hf
  rcases hok.cases with hc | ⟨n, s, hc, hl⟩
  · simp only [hc] at hf ⊢
    rw [hf]; rfl
  · simp only [hc, hl, Option.getD_some] at hf ⊢
    rw [hf]; rfl

theorem curSect_setCurSect (st : RState) (s : RSect) (hok : CurOk st) : curSect (setCurSect st s) = s := by
  unfold curSect setCurSect
  rcases hok.cases with hc | ⟨n, _, hc, _⟩
  · simp [hc]
  · simp [hc, lookup_mapSet_self]

theorem setCurSect_setCurSect (st : RState) (s s' : RSect) : setCurSect (setCurSect st s) s' = setCurSect st s' := by
  unfold setCurSect
  cases hc : st.cur with
  | none => simp [hc]
  | defaults => simp [hc]
  | named n => simp [hc, mapSet_mapSet]

theorem curOk_setCurSect (st : RState) (s : RSect) (hok : CurOk st) : CurOk (setCurSect st s) := by
  unfold CurOk setCurSect
  rcases hok.cases with hc | ⟨n, _, hc, _⟩
  · simp [hc]
  · simp [hc, lookup_mapSet_self]

theorem setCurSect_curSect (st : RState) (hok : CurOk st) : setCurSect st (curSect st) = st := by
  obtain ⟨d, ss, sS, sO, cur, on, ind, bad⟩ := st
  unfold setCurSect curSect
  rcases hok.cases with hc | ⟨n, x, hc, hl⟩
  · cases (hc : cur = _)
    rfl
  · cases (hc : cur = _)
    simp [(hl : ss.lookup n = some x), mapSet_of_lookup n x ss hl]

theorem appendIn_lookup (k : Name) (x : Str) (s : RSect) (acc : List Str) (h : s.lookup k = some (.lines acc)) :
    appendIn k x s = .ok (mapSet k (.lines (acc ++ [x])) s) := by
  induction s with
  | nil => cases h
  | cons a rest ih =>
    obtain ⟨a1, a2⟩ := a
    simp only [List.lookup_cons] at h
    by_cases hk : k = a1
    · subst hk
      simp only [BEq.rfl, Option.some.injEq] at h
      subst h
      simp [appendIn, mapSet]
    · have h1 : (k == a1) = false := by simpa using hk
      have h2 : (a1 == k) = false := by simpa using fun e : a1 = k => hk e.symm
      simp only [h1] at h
      simp [appendIn, mapSet, h2, ih h]

theorem openOpt_iff (st : RState) (k : Name) :
    st.openOpt = some k ↔ st.cur ≠ .none ∧ st.optname = some k ∧ k ≠ [] := by
  unfold RState.openOpt
  cases st.cur <;> cases st.optname <;> simp
  all_goals exact ⟨fun ⟨a, b⟩ => ⟨b, b ▸ a⟩, fun ⟨a, b⟩ => ⟨a ▸ b, a⟩⟩

theorem openOpt_none (st : RState) (ho : st.optname = none) : st.openOpt = none := by
  unfold RState.openOpt
  rw [ho]
  cases st.cur <;> rfl

theorem openOpt_lookup_setCur (st : RState) (k : Name) (l : List Str) (hok : CurOk st) (hname : st.optname = some k)
    (k' : Name) (h : (setCurSect st (mapSet k (.lines l) (curSect st))).openOpt = some k') :
    (curSect (setCurSect st (mapSet k (.lines l) (curSect st)))).lookup k' = some (.lines l) := by
  have := ((openOpt_iff _ k').mp h).2.1
  rw [show (setCurSect st _).optname = st.optname from rfl, hname, Option.some.injEq] at this
  rw [curSect_setCurSect _ _ hok, ← this, lookup_mapSet_self]

theorem indent_self (st : RState) (h : st.indent = 0) : { st with indent := 0 } = st := by
  cases st; simp at h; simp [h]

/-! `step` on any line -/

/-- what `step` does with a line that is not a comment, not blank and not a continuation (`value`: the stripped
    line; the state already has the line's indent) -/
def stepTail (st : RState) (value : Str) : Except IniErr RState :=
  match sectHeader value with
  | some name => st.header name
  | none =>
    match st.cur with
    | .none => .error .missingHeader
    | _ =>
      match optMatch value with
      | some kv => st.option kv.1 kv.2
      | none => .ok { st with bad := true }

theorem step_eq (st : RState) (line : Str) :
    step st line =
      if isCommentLine (strip line) then .ok st
      else if (strip line).isEmpty then
        (match st.openOpt with
         | some k => st.modCur (appendIn k [])
         | none => .ok st)
      else
        match (match st.openOpt with
               | some k => if indentOf line > st.indent then some k else none
               | none => none) with
        | some k => st.modCur (appendIn k (strip line))
        | none => stepTail { st with indent := indentOf line } (strip line) := rfl

theorem step_normal (st : RState) (line value : Str) (hv : strip line = value) (hc : isCommentLine value = false)
    (hne : value ≠ []) (hi : indentOf line = 0) (h0 : st.indent = 0) : step st line = stepTail st value := by
  rw [step_eq, hv, hc, List.isEmpty_eq_false_iff.mpr hne, hi, h0, indent_self st h0]
  -- the continuation test is `0 > 0` here, so it fails whether or not an option is open
  cases st.openOpt <;> rfl

theorem stepTail_header (st : RState) (value name : Str) (h : sectHeader value = some name) :
    stepTail st value = st.header name := by
  rw [stepTail, h]

theorem stepTail_option (st : RState) (value : Str) (kv : Str × Str) (h1 : sectHeader value = none)
    (h2 : st.cur ≠ .none) (h3 : optMatch value = some kv) : stepTail st value = st.option kv.1 kv.2 := by
  rw [stepTail, h1, h3]
  cases hc : st.cur <;> first | rfl | exact absurd hc h2

theorem step_blank (st : RState) (line : Str) (hv : strip line = []) :
    step st line = match st.openOpt with
      | some k => st.modCur (appendIn k [])
      | none => .ok st := by
  rw [step_eq, hv]
  rfl

theorem step_cont (st : RState) (line value : Str) (k : Name) (hv : strip line = value)
    (hc : isCommentLine value = false) (hne : value ≠ []) (hi : indentOf line > st.indent) (ho : st.openOpt = some k) :
    step st line = st.modCur (appendIn k value) := by
  rw [step_eq, hv, hc, List.isEmpty_eq_false_iff.mpr hne, ho]
  simp only [hi, Bool.false_eq_true, if_false, if_true]

/-! The lines `write` produces for one option: `key = first line`, then `\t` + line for each further line of the value -/

theorem indentOf_nonspace (c : Char) (rest : Str) (h : isSpace c = false) : indentOf (c :: rest) = 0 := by
  simp [indentOf, List.takeWhile, h]

theorem indentOf_tab (c : Char) (rest : Str) (h : isSpace c = false) : indentOf ('\t' :: c :: rest) = 1 := by
  simp [indentOf, List.takeWhile, h, isSpace_tab]

theorem beforeLastClose_snoc (name : Str) : beforeLastClose (name ++ [']']) = some name := by
  induction name with
  | nil => simp [beforeLastClose]
  | cons c cs ih => simp [beforeLastClose, ih]

theorem sectHeader_line (name : Str) (hne : name ≠ []) : sectHeader ('[' :: name ++ [']']) = some name := by
  have := List.isEmpty_eq_false_iff.mpr hne
  simp only [List.cons_append, sectHeader, beforeLastClose_snoc, this, Bool.false_eq_true, if_false, if_true]

theorem sectHeader_not_bracket (c : Char) (rest : Str) (h : c ≠ '[') : sectHeader (c :: rest) = none := by
  simp [sectHeader, h]

theorem splitDelim_prefix (p rest : Str) (h1 : '=' ∉ p) (h2 : ':' ∉ p) :
    splitDelim (p ++ '=' :: rest) = some (p, rest) := by
  induction p with
  | nil => simp [splitDelim]
  | cons c cs ih =>
    have hc1 : c ≠ '=' := fun e => h1 (by simp [e])
    have hc2 : c ≠ ':' := fun e => h2 (by simp [e])
    simp only [List.cons_append, splitDelim, hc1, hc2, decide_false, Bool.or_self, Bool.false_eq_true, if_false]
    rw [ih (fun hm => h1 (by simp [hm])) (fun hm => h2 (by simp [hm]))]

theorem cleanKey_spec (k : Name) (h : cleanKey k = true) :
    ∃ c cs, k = c :: cs ∧ isSpace c = false ∧ c ≠ '#' ∧ c ≠ ';' ∧ c ≠ '[' ∧ lower k = k ∧ edgeClean k = true ∧
      '=' ∉ k ∧ ':' ∉ k ∧ '\n' ∉ k := by
  cases k with
  | nil => simp [cleanKey] at h
  | cons c cs =>
    simp only [cleanKey, Bool.and_eq_true, Bool.not_eq_true', beq_iff_eq, bne_iff_ne, ne_eq,
      List.contains_eq_mem, decide_eq_false_iff_not] at h
    obtain ⟨⟨⟨⟨⟨⟨_, hlow⟩, hedge⟩, heq⟩, hcol⟩, hnl⟩, ⟨hh, hs⟩, hb⟩ := h
    exact ⟨c, cs, rfl, edgeClean_cons c cs hedge, hh, hs, hb, hlow, hedge, heq, hcol, hnl⟩

/-- `write` puts a blank after `=` also when the value's first line is empty; `strip` removes it then -/
theorem strip_optLine (k l0 : Str) (hk : cleanKey k = true) (hl : edgeClean l0 = true) :
    ∃ t, strip (k ++ delim ++ l0 ++ ['\n']) = (k ++ [' ']) ++ '=' :: t ∧ strip t = l0 := by
  obtain ⟨c, cs, hkc, _, _, _, _, _, hedge, _, _, _⟩ := cleanKey_spec k hk
  have hkne : k ≠ [] := by rw [hkc]; simp
  cases l0 with
  | nil =>
    refine ⟨[], ?_, by simp [strip, lstrip, rstrip]⟩
    have h1 : k ++ delim ++ [] ++ ['\n'] = [] ++ (k ++ [' '] ++ ['=']) ++ [' ', '\n'] := by simp [delim]
    rw [h1, strip_pad [] _ _ allSpace_nil allSpace_blank_nl
      (edgeClean_sandwich k [' '] ['='] hedge (by decide) hkne (by simp))]
  | cons a as =>
    refine ⟨' ' :: a :: as, ?_, by simpa using strip_pad [' '] (a :: as) [] allSpace_blank allSpace_nil hl⟩
    have h1 : k ++ delim ++ (a :: as) ++ ['\n'] = [] ++ (k ++ delim ++ (a :: as)) ++ ['\n'] := by simp
    rw [h1, strip_pad [] _ _ allSpace_nil allSpace_nl (edgeClean_sandwich k delim (a :: as) hedge hl hkne (by simp))]
    simp [delim]

theorem optMatch_optLine (k t : Str) (hk : cleanKey k = true) :
    optMatch ((k ++ [' ']) ++ '=' :: t) = some (k, strip t) := by
  obtain ⟨c, cs, hkc, _, _, _, _, _, hedge, heq, hcol, _⟩ := cleanKey_spec k hk
  have hp1 : '=' ∉ k ++ [' '] := by simpa using heq
  have hp2 : ':' ∉ k ++ [' '] := by simpa using hcol
  have hr : rstrip (k ++ [' ']) = k := by
    rw [rstrip_append_of_space k allSpace_blank, rstrip_edgeClean k hedge]
  unfold optMatch
  rw [splitDelim_prefix _ _ hp1 hp2]
  simp only [hr]

theorem option_ok (st : RState) (k l0 : Str) (hok : CurOk st) (hk : cleanKey k = true)
    (hseen : (st.cur.name, k) ∉ st.seenOpt) :
    st.option k l0 = .ok (setCurSect { st with optname := some k, seenOpt := (st.cur.name, k) :: st.seenOpt }
      (mapSet k (.lines [l0]) (curSect st))) := by
  obtain ⟨c, cs, hkc, hsp, _, _, _, hlow, hedge, _, _, _⟩ := cleanKey_spec k hk
  have hke : k.isEmpty = false := by rw [hkc]; rfl
  have hkey : lower (rstrip k) = k := by rw [rstrip_edgeClean k hedge, hlow]
  have hc : st.seenOpt.contains (st.cur.name, k) = false := by simpa using hseen
  unfold RState.option
  simp only [hke, Bool.or_false, hkey, hc, Bool.false_eq_true, if_false]
  exact modCur_ok _ _ _ hok rfl

theorem step_optFirst (st : RState) (k l0 : Str) (hok : CurOk st) (h0 : st.indent = 0) (hk : cleanKey k = true)
    (hl : edgeClean l0 = true) (hseen : (st.cur.name, k) ∉ st.seenOpt) :
    step st (k ++ delim ++ l0 ++ ['\n']) =
      .ok (setCurSect { st with optname := some k, seenOpt := (st.cur.name, k) :: st.seenOpt }
        (mapSet k (.lines [l0]) (curSect st))) := by
  obtain ⟨c, cs, hkc, hsp, hh, hs, hb, _, _, _, _, _⟩ := cleanKey_spec k hk
  obtain ⟨t, hstrip, ht⟩ := strip_optLine k l0 hk hl
  have hline : k ++ delim ++ l0 ++ ['\n'] = c :: (cs ++ delim ++ l0 ++ ['\n']) := by rw [hkc]; simp
  have hval : (k ++ [' ']) ++ '=' :: t = c :: (cs ++ [' '] ++ '=' :: t) := by rw [hkc]; simp
  rw [step_normal st _ _ hstrip (by rw [hval]; simp [isCommentLine, hh, hs]) (by rw [hval]; simp)
    (by rw [hline]; exact indentOf_nonspace c _ hsp) h0]
  rw [stepTail_option st _ _ (by rw [hval]; exact sectHeader_not_bracket c _ hb) hok.ne_none (optMatch_optLine k t hk), ht]
  exact option_ok st k l0 hok hk hseen

/-- a continuation line (`\\t` + line of the value) or the blank line that ends a section -/
theorem step_append (st : RState) (k : Name) (acc : List Str) (w l : Str) (hok : CurOk st) (h0 : st.indent = 0)
    (hopen : st.openOpt = some k) (hlook : (curSect st).lookup k = some (.lines acc))
    (hw : w = [] ∨ w = ['\t']) (hwl : w = [] → l = [])
    (hl : edgeClean l = true) (hc : isCommentLine l = false) :
    step st (w ++ l ++ ['\n']) = .ok (setCurSect st (mapSet k (.lines (acc ++ [l])) (curSect st))) := by
  have hws : AllSpace w := by
    rcases hw with rfl | rfl
    · exact allSpace_nil
    · exact allSpace_tab
  have hstrip : strip (w ++ l ++ ['\n']) = l := strip_pad w l ['\n'] hws allSpace_nl hl
  cases l with
  | nil =>
    rw [step_blank st _ hstrip, hopen]
    exact modCur_ok st _ _ hok (appendIn_lookup k [] _ acc hlook)
  | cons a as =>
    have hwt : w = ['\t'] := by
      rcases hw with rfl | rfl
      · exact absurd (hwl rfl) (by simp)
      · rfl
    subst hwt
    have hi : indentOf (['\t'] ++ (a :: as) ++ ['\n']) > st.indent := by
      rw [h0]
      have : ['\t'] ++ (a :: as) ++ ['\n'] = '\t' :: a :: (as ++ ['\n']) := by simp
      rw [this, indentOf_tab a _ (edgeClean_cons a as hl)]
      exact Nat.one_pos
    rw [step_cont st _ (a :: as) k hstrip hc (by simp) hi hopen]
    exact modCur_ok st _ _ hok (appendIn_lookup k _ _ acc hlook)

theorem contFold (st : RState) (k : Name) (base : RSect) (hok : CurOk st) (h0 : st.indent = 0)
    (hopen : st.openOpt = some k) (ls : List Str) (acc : List Str)
    (hls : ∀ l ∈ ls, edgeClean l = true ∧ isCommentLine l = false) :
    (ls.map (fun l => '\t' :: l ++ ['\n'])).foldlM step (setCurSect st (mapSet k (.lines acc) base)) =
      .ok (setCurSect st (mapSet k (.lines (acc ++ ls)) base)) := by
  induction ls generalizing acc with
  | nil => simp
  | cons l ls ih =>
    have hS := step_append (setCurSect st (mapSet k (.lines acc) base)) k acc ['\t'] l (curOk_setCurSect st _ hok)
      h0 hopen
      (by rw [curSect_setCurSect st _ hok]; exact lookup_mapSet_self k _ base) (Or.inr rfl) (by intro h; cases h)
      (hls l (by simp)).1 (hls l (by simp)).2
    rw [curSect_setCurSect st _ hok, setCurSect_setCurSect, mapSet_mapSet] at hS
    simp only [List.map_cons]
    rw [PyM.foldlM_cons_ok step (by simpa using hS), ih (acc ++ [l]) (fun x hx => hls x (by simp [hx]))]
    simp

theorem cleanValue_spec (v : Str) (h : cleanValue v = true) :
    edgeClean (nlLines v).1 = true ∧ (∀ l ∈ (nlLines v).2, edgeClean l = true ∧ isCommentLine l = false) ∧
      rstrip v = v := by
  simp only [cleanValue, Bool.and_eq_true, List.all_eq_true, Bool.not_eq_true'] at h
  obtain ⟨⟨h1, h2⟩, h3⟩ := h
  refine ⟨h1, h2, (rstrip_eq_self_iff v).mpr fun c hc => ?_⟩
  rw [Option.mem_def.mp hc] at h3
  simpa using h3

theorem optBlock (st : RState) (k : Name) (v : Str) (hok : CurOk st) (h0 : st.indent = 0) (hk : cleanKey k = true)
    (hv : cleanValue v = true) (hseen : (st.cur.name, k) ∉ st.seenOpt) :
    (optLines k v).foldlM step st =
      .ok (setCurSect { st with optname := some k, seenOpt := (st.cur.name, k) :: st.seenOpt }
        (mapSet k (.lines ((nlLines v).1 :: (nlLines v).2)) (curSect st))) := by
  obtain ⟨h1, h2, _⟩ := cleanValue_spec v hv
  obtain ⟨c, cs, hkc, _⟩ := cleanKey_spec k hk
  unfold optLines
  rw [PyM.foldlM_cons_ok step (step_optFirst st k _ hok h0 hk h1 hseen)]
  have := contFold { st with optname := some k, seenOpt := (st.cur.name, k) :: st.seenOpt } k (curSect st) hok h0
    ((openOpt_iff _ k).mpr ⟨hok.ne_none, rfl, by rw [hkc]; simp⟩) (nlLines v).2 [(nlLines v).1] h2
  simpa using this

/-! The reader state between two lines: the configuration it stands for (`RState.finish`, with `getSect` / `setSect` for
    what `curSect` / `setCurSect` become there) and what holds of it, on any text (`RInv`) and on a written one (`Top`, `Mid`) -/

def getSect (I : Ini) (name : Str) : Sect := if name == defaultSect then I.defaults else I.sect name

def setSect (I : Ini) (name : Str) (s : Sect) : Ini :=
  if name == defaultSect then { I with defaults := s } else { I with sections := mapSet name s I.sections }

theorem set_eq_setSect (I : Ini) (name : Str) (k : Name) (v : Str) (hlow : lower k = k) :
    I.set name k v = setSect I name (mapSet k v (getSect I name)) := by
  unfold Ini.set setSect getSect
  split <;> simp [hlow]

/-- what `_read` maintains between two lines, whatever the text: `cursect` is a dict of the parser, and the option a
    continuation line would extend is there with a list of lines (never empty: it starts as `[value]`) -/
structure RInv (st : RState) : Prop where
  sect : ∀ n, st.cur = .named n → (st.sections.lookup n).isSome = true
  opened : ∀ k, st.openOpt = some k → ∃ l, l ≠ [] ∧ (curSect st).lookup k = some (.lines l)

theorem curOk_of {st : RState} (hsec : ∀ n, st.cur = .named n → (st.sections.lookup n).isSome = true)
    (hc : st.cur ≠ .none) : CurOk st := by
  unfold CurOk
  cases hcur : st.cur with
  | none => exact absurd hcur hc
  | defaults => trivial
  | named n => exact hsec n hcur

theorem finish_curSect (st : RState) (hok : CurOk st) (hnd : ∀ n, st.cur = .named n → n ≠ defaultSect) :
    RSect.finish (curSect st) = getSect st.finish st.cur.name := by
  rcases hok.cases with hc | ⟨n, x, hc, hl⟩
  · simp [curSect, getSect, hc, Cur.name, RState.finish]
  · have hn : (n == defaultSect) = false := by simpa using hnd n hc
    simp only [curSect, getSect, hc, Cur.name, RState.finish, hn, Bool.false_eq_true, if_false, Ini.sect]
    rw [List.lookup_map_snd RSect.finish n st.sections, hl]
    rfl

theorem finish_setCurSect (st : RState) (s : RSect) (hok : CurOk st) (hnd : ∀ n, st.cur = .named n → n ≠ defaultSect) :
    (setCurSect st s).finish = setSect st.finish st.cur.name (RSect.finish s) := by
  rcases hok.cases with hc | ⟨n, _, hc, _⟩
  · simp [setCurSect, setSect, hc, Cur.name, RState.finish]
  · have hn : (n == defaultSect) = false := by simpa using hnd n hc
    simp only [setCurSect, setSect, hc, Cur.name, RState.finish, hn, Bool.false_eq_true, if_false]
    rw [map_mapSet RSect.finish n s st.sections]

theorem finish_mapSet (k : Name) (rv : RVal) (s : RSect) :
    RSect.finish (mapSet k rv s) = mapSet k rv.finish (RSect.finish s) := by
  unfold RSect.finish
  exact map_mapSet RVal.finish k rv s

theorem setCurSect_hasSection (st : RState) (s : RSect) (hok : CurOk st) (n' : Str) :
    ((setCurSect st s).sections.lookup n').isSome = (st.sections.lookup n').isSome := by
  obtain ⟨d, ss, sS, sO, cur, on, ind, bad⟩ := st
  unfold CurOk at hok
  cases cur with
  | none => rfl
  | defaults => rfl
  | named n => exact lookup_isSome_mapSet_present n n' s ss hok

/-- between two sections of a file `write` produced (and before the first) -/
structure Top (st : RState) : Prop where
  indent0 : st.indent = 0
  notBad : st.bad = false
  /-- `header` looks a name up among the sections before it compares it with `DEFAULT`: a section that is literally called
      DEFAULT would capture the `[DEFAULT]` line -/
  nodefault : (st.sections.lookup defaultSect).isSome = false

/-- between two lines of such a section -/
structure Mid (st : RState) : Prop extends Top st, RInv st where
  curSome : st.cur ≠ .none

theorem Mid.curOk {st : RState} (h : Mid st) : CurOk st := curOk_of h.sect h.curSome

theorem Mid.nodef {st : RState} (h : Mid st) (n : Str) (hn : st.cur = .named n) : n ≠ defaultSect := by
  intro e
  have := h.sect n hn
  rw [e, h.nodefault] at this
  cases this

theorem setCur_inv (st : RState) (k : Name) (l : List Str) (hl : l ≠ []) (hok : CurOk st)
    (hname : st.optname = some k) (hsec : ∀ n, st.cur = .named n → (st.sections.lookup n).isSome = true) :
    RInv (setCurSect st (mapSet k (.lines l) (curSect st))) :=
  ⟨fun n hn => by rw [setCurSect_hasSection _ _ hok]; exact hsec n hn,
    fun k' hk' => ⟨l, hl, openOpt_lookup_setCur st k l hok hname k' hk'⟩⟩

theorem setCur_mid (st : RState) (k : Name) (l : List Str) (hl : l ≠ []) (ht : Top st) (hc : st.cur ≠ .none)
    (hname : st.optname = some k) (hsec : ∀ n, st.cur = .named n → (st.sections.lookup n).isSome = true) :
    Mid (setCurSect st (mapSet k (.lines l) (curSect st))) :=
  have hok := curOk_of hsec hc
  { setCur_inv st k l hl hok hname hsec with
    indent0 := ht.indent0, notBad := ht.notBad, curSome := hc
    nodefault := (setCurSect_hasSection _ _ hok _).trans ht.nodefault }

theorem optBlock_spec (st : RState) (k : Name) (v : Str) (hm : Mid st) (hk : cleanKey k = true)
    (hv : cleanValue v = true) (hseen : (st.cur.name, k) ∉ st.seenOpt) :
    ∃ st1, (optLines k v).foldlM step st = .ok st1 ∧ Mid st1 ∧ st1.cur = st.cur ∧ st1.seenSect = st.seenSect ∧
      st1.seenOpt = (st.cur.name, k) :: st.seenOpt ∧ st1.finish = st.finish.set st.cur.name k v := by
  obtain ⟨c, cs, hkc, _, _, _, _, hlow, _, _, _, _⟩ := cleanKey_spec k hk
  obtain ⟨_, _, hrs⟩ := cleanValue_spec v hv
  have hok' : CurOk { st with optname := some k, seenOpt := (st.cur.name, k) :: st.seenOpt } := hm.curOk
  refine ⟨_, optBlock st k v hm.curOk hm.indent0 hk hv hseen,
    setCur_mid _ k _ (by simp) ⟨hm.indent0, hm.notBad, hm.nodefault⟩ hm.curSome rfl hm.sect, rfl, rfl, rfl, ?_⟩
  rw [finish_setCurSect _ _ hok' hm.nodef, finish_mapSet, finish_curSect st hm.curOk hm.nodef,
    set_eq_setSect _ _ _ _ hlow]
  have hf : RVal.finish (.lines ((nlLines v).1 :: (nlLines v).2)) = v := by
    simp only [RVal.finish, join_nlLines, hrs]
  rw [hf]
  rfl

theorem optsFold (kvs : Sect) (st : RState) (hm : Mid st)
    (hclean : ∀ kv ∈ kvs, cleanKey kv.1 = true ∧ cleanValue kv.2 = true) (hnd : (kvs.map (·.1)).Nodup)
    (hseen : ∀ kv ∈ kvs, (st.cur.name, kv.1) ∉ st.seenOpt) :
    ∃ st1, (kvs.flatMap fun kv => optLines kv.1 kv.2).foldlM step st = .ok st1 ∧ Mid st1 ∧ st1.cur = st.cur ∧
      st1.seenSect = st.seenSect ∧ (∀ p ∈ st1.seenOpt, p ∈ st.seenOpt ∨ p.1 = st.cur.name) ∧
      st1.finish = kvs.foldl (fun I kv => I.set st.cur.name kv.1 kv.2) st.finish := by
  induction kvs generalizing st with
  | nil => exact ⟨st, by simp, hm, rfl, rfl, fun p hp => Or.inl hp, rfl⟩
  | cons kv rest ih =>
    obtain ⟨st1, hfold, hm1, hcur1, hsS1, hsO1, hfin1⟩ :=
      optBlock_spec st kv.1 kv.2 hm (hclean kv (by simp)).1 (hclean kv (by simp)).2 (hseen kv (by simp))
    have hnd' : kv.1 ∉ rest.map (·.1) ∧ (rest.map (·.1)).Nodup := by simpa using hnd
    obtain ⟨st2, hfold2, hm2, hcur2, hsS2, hsO2, hfin2⟩ := ih st1 hm1
      (fun x hx => hclean x (by simp [hx])) hnd'.2
      (by
        intro x hx
        rw [hcur1, hsO1]
        intro hmem
        rcases List.mem_cons.mp hmem with e | hmem
        · have : x.1 = kv.1 := (Prod.mk.inj e).2
          exact hnd'.1 (by rw [← this]; exact List.mem_map_of_mem hx)
        · exact hseen x (by simp [hx]) hmem)
    refine ⟨st2, ?_, hm2, by rw [hcur2, hcur1], by rw [hsS2, hsS1], ?_, ?_⟩
    · rw [List.flatMap_cons, PyM.foldlM_append_ok step hfold]
      exact hfold2
    · intro p hp
      rcases hsO2 p hp with h | h
      · rw [hsO1] at h
        rcases List.mem_cons.mp h with e | h
        · exact Or.inr (by rw [e])
        · exact Or.inl h
      · exact Or.inr (by rw [h, hcur1])
    · rw [hfin2, hfin1, hcur1]
      rfl

theorem join_snoc_nil (sep : Str) (acc : List Str) (h : acc ≠ []) : join sep (acc ++ [[]]) = join sep acc ++ sep := by
  obtain ⟨a, l, rfl⟩ := List.exists_cons_of_ne_nil h
  simp [join_cons]

theorem finish_snoc_nil (acc : List Str) (h : acc ≠ []) : RVal.finish (.lines (acc ++ [[]])) = RVal.finish (.lines acc) := by
  simp only [RVal.finish, join_snoc_nil _ acc h]
  exact rstrip_append_of_space _ allSpace_nl

/-- the blank line that ends a section joins the open option's value, where `rstrip` removes it again -/
theorem blank_spec (st : RState) (hm : Mid st) :
    ∃ st1, step st ['\n'] = .ok st1 ∧ Mid st1 ∧ st1.finish = st.finish ∧ st1.seenSect = st.seenSect ∧
      st1.seenOpt = st.seenOpt := by
  cases hop : st.openOpt with
  | none =>
    refine ⟨st, ?_, hm, rfl, rfl, rfl⟩
    have : strip ['\n'] = [] := by simpa using strip_pad [] [] ['\n'] allSpace_nil allSpace_nl rfl
    rw [step_blank st _ this, hop]
  | some k =>
    obtain ⟨acc, hacc, hlook⟩ := hm.opened k hop
    have hstep := step_append st k acc [] [] hm.curOk hm.indent0 hop hlook (Or.inl rfl) (fun _ => rfl) rfl rfl
    simp only [List.append_nil, List.nil_append] at hstep
    refine ⟨_, hstep, setCur_mid st k _ (by simp) hm.toTop hm.curSome ((openOpt_iff st k).mp hop).2.1 hm.sect, ?_,
      rfl, rfl⟩
    have h1 : RSect.finish (mapSet k (.lines (acc ++ [[]])) (curSect st)) = RSect.finish (curSect st) := by
      rw [finish_mapSet, finish_snoc_nil acc hacc]
      apply mapSet_of_lookup
      unfold RSect.finish
      rw [List.lookup_map_snd, hlook]
      rfl
    rw [finish_setCurSect _ _ hm.curOk hm.nodef, h1, ← finish_setCurSect _ _ hm.curOk hm.nodef,
      setCurSect_curSect st hm.curOk]

/-! Section headers, sections, the file: each written section does to the configuration what `loadRaw1` says -/

/-- `[name]` on the parser content: a new, empty section unless it exists (DEFAULT always exists) -/
def ensureRaw (I : Ini) (name : Str) : Ini :=
  if (I.sections.lookup name).isSome || name == defaultSect then I
  else { I with sections := I.sections ++ [(name, [])] }

/-- one section of a file on the parser content: the header, then `cursect[key] = value` for each option -/
def loadRaw1 (I : Ini) (sec : Str × Sect) : Ini :=
  sec.2.foldl (fun I kv => I.set sec.1 kv.1 kv.2) (ensureRaw I sec.1)

theorem cleanName_spec (name : Str) (h : cleanName name = true) : name ≠ [] ∧ '\n' ∉ name := by
  simp only [cleanName, Bool.and_eq_true, Bool.not_eq_true', List.contains_eq_mem, decide_eq_false_iff_not] at h
  exact ⟨by intro e; rw [e] at h; simp at h, h.2⟩

def RState.enter (st : RState) (name : Str) : RState :=
  let isDefault := !(st.sections.lookup name).isSome && name == defaultSect
  { st with
    sections := if (st.sections.lookup name).isSome || name == defaultSect then st.sections
      else st.sections ++ [(name, [])]
    cur := if isDefault then .defaults else .named name
    seenSect := if isDefault then st.seenSect else name :: st.seenSect
    optname := none }

theorem enter_cur (st : RState) (name : Str) : (st.enter name).cur =
    if !(st.sections.lookup name).isSome && name == defaultSect then .defaults else .named name := rfl

theorem enter_seenSect (st : RState) (name : Str) : (st.enter name).seenSect =
    if !(st.sections.lookup name).isSome && name == defaultSect then st.seenSect else name :: st.seenSect := rfl

theorem header_eq (st : RState) (name : Str) : st.header name =
    if (st.sections.lookup name).isSome && st.seenSect.contains name then .error .dupSection
    else .ok (st.enter name) := by
  unfold RState.header RState.enter
  cases (st.sections.lookup name).isSome <;> cases st.seenSect.contains name <;> cases name == defaultSect <;> rfl

theorem enter_curOk (st : RState) (name : Str) : CurOk (st.enter name) := by
  unfold CurOk RState.enter
  cases h : (st.sections.lookup name).isSome <;> cases hd : name == defaultSect <;>
    simp [h, hd, List.lookup_append_single]

theorem finish_hasSection (st : RState) (n : Str) :
    (st.finish.sections.lookup n).isSome = (st.sections.lookup n).isSome := by
  unfold RState.finish
  rw [List.lookup_map_snd RSect.finish n st.sections, Option.isSome_map]

theorem enter_finish (st : RState) (name : Str) : (st.enter name).finish = ensureRaw st.finish name := by
  unfold ensureRaw
  rw [finish_hasSection]
  unfold RState.enter RState.finish
  split <;> simp [RSect.finish]

theorem enter_hasSection (st : RState) (name n : Str) : ((st.enter name).sections.lookup n).isSome =
    ((st.sections.lookup n).isSome || (n == name && name != defaultSect)) := by
  unfold RState.enter
  by_cases e : n = name
  · subst e
    cases h : (st.sections.lookup n).isSome <;> cases hd : n == defaultSect <;>
      simp [h, hd, List.lookup_append_single, bne]
  · split <;> simp [e, List.lookup_append_single]

theorem enter_inv (st : RState) (name : Str) : RInv (st.enter name) :=
  ⟨fun n hn => by have := enter_curOk st name; unfold CurOk at this; rw [hn] at this; exact this,
    fun k hk => by rw [openOpt_none _ rfl] at hk; cases hk⟩

theorem enter_mid (st : RState) (name : Str) (ht : Top st) : Mid (st.enter name) :=
  { enter_inv st name with
    indent0 := ht.indent0, notBad := ht.notBad
    nodefault := by rw [enter_hasSection, ht.nodefault]; simpa using fun e => e.symm
    curSome := by rw [enter_cur]; split <;> simp }

theorem enter_name (st : RState) (name : Str) : (st.enter name).cur.name = name := by
  rw [enter_cur]
  split
  · rename_i h
    simp only [Bool.and_eq_true, beq_iff_eq] at h
    exact h.2.symm
  · rfl

theorem header_spec (st : RState) (name : Str) (ht : Top st) (hname : cleanName name = true)
    (hfresh : name ∉ st.seenSect) : step st ('[' :: name ++ [']', '\n']) = .ok (st.enter name) := by
  obtain ⟨hne, _⟩ := cleanName_spec name hname
  have hedge : edgeClean ('[' :: name ++ [']']) = true := by
    simpa using edgeClean_sandwich ['['] name [']'] (by decide) (by decide) (by simp) (by simp)
  have hstrip : strip ('[' :: name ++ [']', '\n']) = '[' :: name ++ [']'] := by
    simpa using strip_pad [] _ ['\n'] allSpace_nil allSpace_nl hedge
  have hdup : ((st.sections.lookup name).isSome && st.seenSect.contains name) = false := by simp [hfresh]
  rw [step_normal st _ _ hstrip (by simp [isCommentLine]) (by simp)
    (by simpa using indentOf_nonspace '[' (name ++ [']', '\n']) (by decide)) ht.indent0,
    stepTail_header _ _ _ (sectHeader_line name hne), header_eq, hdup]
  rfl

theorem cleanSect_spec (s : Sect) (h : cleanSect s = true) :
    (∀ kv ∈ s, cleanKey kv.1 = true ∧ cleanValue kv.2 = true) ∧ (s.map (·.1)).Nodup := by
  simp only [cleanSect, Bool.and_eq_true, List.all_eq_true, decide_eq_true_eq] at h
  exact h

/-- everything this file has added so far (`elements_added`) belongs to sections named in `used` -/
def SeenIn (st : RState) (used : List Str) : Prop := (∀ x ∈ st.seenSect, x ∈ used) ∧ ∀ p ∈ st.seenOpt, p.1 ∈ used

theorem section_spec (st : RState) (sec : Str × Sect) (used : List Str) (ht : Top st) (hseen : SeenIn st used)
    (hfresh : sec.1 ∉ used) (hname : cleanName sec.1 = true) (hsect : cleanSect sec.2 = true) :
    ∃ st1, (sectLines sec).foldlM step st = .ok st1 ∧ Top st1 ∧ SeenIn st1 (sec.1 :: used) ∧
      st1.finish = loadRaw1 st.finish sec := by
  obtain ⟨hkv, hnd⟩ := cleanSect_spec sec.2 hsect
  have hs1 := header_spec st sec.1 ht hname (fun h => hfresh (hseen.1 _ h))
  have hn1 := enter_name st sec.1
  obtain ⟨st2, hs2, hm2, hc2, hS2, hO2, hf2⟩ := optsFold sec.2 _ (enter_mid st sec.1 ht) hkv hnd
    (by intro kv _ h; rw [hn1] at h; exact hfresh (hseen.2 _ h))
  obtain ⟨st3, hs3, hm3, hf3, hS3, hO3⟩ := blank_spec st2 hm2
  refine ⟨st3, ?_, hm3.toTop, ⟨fun x hx => ?_, fun p hp => ?_⟩, ?_⟩
  · unfold sectLines
    rw [List.cons_append, PyM.foldlM_cons_ok step hs1, PyM.foldlM_append_ok step hs2]
    simp [List.foldlM_cons, hs3]
  · rw [hS3, hS2, enter_seenSect] at hx
    split at hx
    · exact List.mem_cons_of_mem _ (hseen.1 x hx)
    · exact (List.mem_cons.mp hx).elim (fun e => e ▸ List.mem_cons_self) fun h => List.mem_cons_of_mem _ (hseen.1 x h)
  · rw [hO3] at hp
    rcases hO2 p hp with h | h
    · exact List.mem_cons_of_mem _ (hseen.2 p h)
    · rw [hn1] at h
      exact h ▸ List.mem_cons_self
  · rw [hf3, hf2, enter_finish, hn1]
    rfl

theorem file_spec (f : FileC) (st : RState) (used : List Str) (ht : Top st) (hseen : SeenIn st used)
    (hclean : ∀ sec ∈ f, cleanName sec.1 = true ∧ cleanSect sec.2 = true) (hnd : (f.map (·.1)).Nodup)
    (hfresh : ∀ sec ∈ f, sec.1 ∉ used) :
    ∃ st1, (f.flatMap sectLines).foldlM step st = .ok st1 ∧ st1.bad = false ∧
      st1.finish = f.foldl loadRaw1 st.finish := by
  induction f generalizing st used with
  | nil => exact ⟨st, by simp, ht.notBad, rfl⟩
  | cons sec rest ih =>
    have hnd' : sec.1 ∉ rest.map (·.1) ∧ (rest.map (·.1)).Nodup := by simpa using hnd
    obtain ⟨st1, hs1, ht1, hseen1, hf1⟩ := section_spec st sec used ht hseen (hfresh sec (by simp))
      (hclean sec (by simp)).1 (hclean sec (by simp)).2
    obtain ⟨st2, hs2, hb2, hf2⟩ := ih st1 (sec.1 :: used) ht1 hseen1 (fun x hx => hclean x (by simp [hx])) hnd'.2
      (fun x hx hm => (List.mem_cons.mp hm).elim (fun e => hnd'.1 (e ▸ List.mem_map_of_mem hx))
        (hfresh x (by simp [hx])))
    exact ⟨st2, by rw [List.flatMap_cons, PyM.foldlM_append_ok step hs1]; exact hs2, hb2, by rw [hf2, hf1]; rfl⟩

theorem sectLines_isLine (sec : Str × Sect) (hname : cleanName sec.1 = true) (hsect : cleanSect sec.2 = true) :
    ∀ l ∈ sectLines sec, IsLine l := by
  obtain ⟨_, hnl⟩ := cleanName_spec sec.1 hname
  obtain ⟨hkv, _⟩ := cleanSect_spec sec.2 hsect
  intro l hl
  simp only [sectLines, optLines, List.mem_cons, List.mem_append, List.mem_flatMap, List.mem_map,
    List.not_mem_nil, or_false] at hl
  rcases hl with (rfl | ⟨kv, hkvm, rfl | ⟨x, hx, rfl⟩⟩) | rfl
  · exact ⟨'[' :: sec.1 ++ [']'], by simp, by simpa using hnl⟩
  · obtain ⟨c, cs, _, _, _, _, _, _, _, _, _, hknl⟩ := cleanKey_spec kv.1 (hkv kv hkvm).1
    exact ⟨_, rfl, by simpa [delim] using ⟨hknl, (nlLines_no_nl kv.2).1⟩⟩
  · exact ⟨'\t' :: x, by simp, by simpa using (nlLines_no_nl kv.2).2 x hx⟩
  · exact ⟨[], rfl, by simp⟩

theorem finish_init (c : Ini) : (RState.init c).finish = c := by
  have hs : ∀ s : Sect, RSect.finish (RSect.ofSect s) = s := by
    intro s
    simp [RSect.finish, RSect.ofSect, RVal.finish, List.map_map, Function.comp_def]
  obtain ⟨d, ss⟩ := c
  simp only [RState.finish, RState.init, hs, List.map_map, Function.comp_def, List.map_id']

theorem iniReadInto_fileOf (c0 : Ini) (f : FileC) (hc0 : (c0.sections.lookup defaultSect).isSome = false)
    (hclean : ∀ sec ∈ f, cleanName sec.1 = true ∧ cleanSect sec.2 = true) (hnd : (f.map (·.1)).Nodup) :
    iniReadInto c0 ((f.flatMap sectLines).flatten) = .ok (f.foldl loadRaw1 c0) := by
  have hlines : ∀ l ∈ f.flatMap sectLines, IsLine l := by
    intro l hl
    obtain ⟨sec, hsec, hl⟩ := List.mem_flatMap.mp hl
    exact sectLines_isLine sec (hclean sec hsec).1 (hclean sec hsec).2 l hl
  have hnodef : ((RState.init c0).sections.lookup defaultSect).isSome = false := by
    have := List.lookup_map_snd RSect.ofSect defaultSect c0.sections
    simp only [RState.init, this, Option.isSome_map, hc0]
  obtain ⟨st1, hs1, hb1, hf1⟩ := file_spec f (RState.init c0) [] ⟨rfl, rfl, hnodef⟩
    ⟨fun _ h => (nomatch h), fun _ h => (nomatch h)⟩ hclean hnd (fun _ _ h => nomatch h)
  unfold iniReadInto
  rw [splitLines_flatten _ hlines, hs1]
  simp only [PyM.ok_bind, hb1, Bool.false_eq_true, if_false, PyM.pure_eq]
  rw [hf1, finish_init]

end Ofx.IniText
