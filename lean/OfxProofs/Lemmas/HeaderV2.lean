/-
C05, v2 files: the XML declaration on the first line, the search for the OFX declaration, the body.
-/
import OfxProofs.Lemmas.HeaderV1
namespace Ofx.Header
open Ofx Ofx.Codec Ofx.Spec.HeaderLayout
attribute [-simp] String.reduceToList

theorem lit_version : "version".toList = ['v', 'e', 'r', 's', 'i', 'o', 'n'] := String.toList_ofList
theorem lit_encoding : "encoding".toList = ['e', 'n', 'c', 'o', 'd', 'i', 'n', 'g'] := String.toList_ofList
theorem lit_standalone : "standalone".toList = ['s', 't', 'a', 'n', 'd', 'a', 'l', 'o', 'n', 'e'] :=
  String.toList_ofList

theorem lit_ofxOpen : "<?OFX".toList = ['<', '?', 'O', 'F', 'X'] := String.toList_ofList
theorem lit_close : "?>".toList = ['?', '>'] := String.toList_ofList

theorem eq_version : "version=".toList = "version".toList ++ ['='] := by
  rw [lit_version]; exact String.toList_ofList
theorem eq_encoding : "encoding=".toList = "encoding".toList ++ ['='] := by
  rw [lit_encoding]; exact String.toList_ofList
theorem eq_standalone : "standalone=".toList = "standalone".toList ++ ['='] := by
  rw [lit_standalone]; exact String.toList_ofList
theorem eq_OFXHEADER : "OFXHEADER=".toList = "OFXHEADER".toList ++ ['='] := by
  rw [lit_OFXHEADER]; exact String.toList_ofList
theorem eq_VERSION : "VERSION=".toList = "VERSION".toList ++ ['='] := by
  rw [lit_VERSION]; exact String.toList_ofList
theorem eq_SECURITY : "SECURITY=".toList = "SECURITY".toList ++ ['='] := by
  rw [lit_SECURITY]; exact String.toList_ofList
theorem eq_OLDFILEUID : "OLDFILEUID=".toList = "OLDFILEUID".toList ++ ['='] := by
  rw [lit_OLDFILEUID]; exact String.toList_ofList
theorem eq_NEWFILEUID : "NEWFILEUID=".toList = "NEWFILEUID".toList ++ ['='] := by
  rw [lit_NEWFILEUID]; exact String.toList_ofList

theorem v2_nomatch (s : Str) (h : "<?OFX".toList.isPrefixOf s = false) : reMatch v2Regex s = none :=
  step_lit_none _ _ _ _ h

theorem reSearch_skip_noLt (pre s : Str) (h : '<' ∉ pre) : reSearch v2Regex (pre ++ s) = reSearch v2Regex s := by
  refine reSearch_append_of_none _ _ _ (fun t hne hsuf => v2_nomatch _ ?_)
  obtain ⟨c, cs, rfl⟩ := List.exists_cons_of_ne_nil hne
  have hc : ('<' == c) = false := by simpa using fun e : '<' = c => h (e ▸ hsuf.subset (by simp))
  rw [lit_ofxOpen]
  simp [List.isPrefixOf, hc]

theorem reSearch_skip_xml (X' s : Str) : reSearch v2Regex ('<' :: '?' :: 'x' :: (X' ++ s)) =
    reSearch v2Regex ('?' :: 'x' :: (X' ++ s)) :=
  reSearch_cons_none _ _ _ (v2_nomatch _ (by rw [lit_ofxOpen]; simp [List.isPrefixOf]))

theorem quote_cases (q : Quote) : q.ch = '"' ∨ q.ch = '\'' := by cases q <;> simp [Quote.ch]

/-- `NAME=(["'])(class+)\1` in front of `K` -/
def qfield (nm : Str) (p : Char → Bool) (K : St → Str → Option Res) : St → Str → Option Res :=
  stepItem (.lit (nm ++ ['='])) (stepItem .openq (stepItem (.cap p) (stepItem .closeq K)))

theorem matchItems_qfield (nm : Str) (p : Char → Bool) (K : St → Str → Option Res) :
    matchItems [.lit (nm ++ ['=']), .openq, .cap p, .closeq] K = qfield nm p K := rfl

theorem qfield_match (nm : Str) (p : Char → Bool) (K : St → Str → Option Res) (st : St) (v s : Str) (r : Res)
    (q : Quote) (hv : inClass p v) (hpq : ∀ q : Quote, p q.ch = false)
    (hok : K { caps := some v :: st.caps, quote := some q.ch } s = some r) :
    qfield nm p K st (nm ++ '=' :: q.ch :: (v ++ q.ch :: s)) = some r := by
  have e : nm ++ '=' :: q.ch :: (v ++ q.ch :: s) = (nm ++ ['=']) ++ (q.ch :: (v ++ q.ch :: s)) := by simp
  rw [qfield, e, step_lit, step_openq _ _ _ _ (quote_cases q)]
  apply step_cap_stop p _ _ v _ r hv.1 hv.2 (by intro c hc; simp at hc; subst hc; exact hpq q)
  rw [step_closeq _ _ _ _ rfl]
  exact hok

theorem name_head (nm t : Str) (hn : isName nm) : ∀ c ∈ (nm ++ t).head?, isSpace c = false := by
  obtain ⟨hne, _, hns⟩ := hn
  cases nm with
  | nil => exact absurd rfl hne
  | cons d ds => intro c hc; simp at hc; subst hc; exact hns _ (by simp)

theorem ws1_qfield_match (nm : Str) (p : Char → Bool) (K : St → Str → Option Res) (st : St) (w v s : Str) (r : Res)
    (q : Quote) (hn : nm ∈ names9) (hne : w ≠ []) (hw : allSpace w) (hv : inClass p v)
    (hpq : ∀ q : Quote, p q.ch = false)
    (hok : K { caps := some v :: st.caps, quote := some q.ch } s = some r) :
    stepItem .ws1 (qfield nm p K) st (w ++ (nm ++ '=' :: q.ch :: (v ++ q.ch :: s))) = some r := by
  rw [step_ws1 w _ _ _ hne hw (name_head nm _ (names9_isName nm hn))]
  exact qfield_match nm p K st v s r q hv hpq hok

theorem reMatch_v2 (s : Str) : reMatch v2Regex s =
    stepItem (.lit "<?OFX".toList) (stepItem .ws1
      (qfield "OFXHEADER".toList isDigit (stepItem .ws1
      (qfield "VERSION".toList isDigit (stepItem .ws1
      (qfield "SECURITY".toList isWord (stepItem .ws1
      (qfield "OLDFILEUID".toList isWordDash (stepItem .ws1
      (qfield "NEWFILEUID".toList isWordDash
        (stepItem .ws0 (stepItem (.lit "?>".toList) (stepItem .ws0 finish))))))))))))) {} s := by
  simp only [reMatch, v2Regex, L, eq_OFXHEADER, eq_VERSION, eq_SECURITY, eq_OLDFILEUID, eq_NEWFILEUID]
  rfl

def xmlNF (xs1 xs2 xs3 xs4 rest : Str) (qv qe qs : Char) : Str :=
  "<?xml".toList ++ (xs1 ++ ("version=".toList ++ (qv :: ("1.0".toList ++ (qv :: (xs2 ++
    ("encoding=".toList ++ (qe :: ("UTF-8".toList ++ (qe :: (xs3 ++ ("standalone=".toList ++ (qs ::
    ("no".toList ++ (qs :: (xs4 ++ ("?>".toList ++ rest)))))))))))))))))

def ofxNF (s0 v1 s1 v2 s2 v3 s3 v4 s4 v5 bc gap R : Str) (q0 q1 q2 q3 q4 : Char) : Str :=
  "<?OFX".toList ++ (s0 ++ ("OFXHEADER=".toList ++ (q0 :: (v1 ++ (q0 :: (s1 ++ ("VERSION=".toList ++ (q1 :: (v2 ++
    (q1 :: (s2 ++ ("SECURITY=".toList ++ (q2 :: (v3 ++ (q2 :: (s3 ++ ("OLDFILEUID=".toList ++ (q3 :: (v4 ++
    (q3 :: (s4 ++ ("NEWFILEUID=".toList ++ (q4 :: (v5 ++ (q4 :: (bc ++ ("?>".toList ++
    (gap ++ R))))))))))))))))))))))))))))

theorem v2_match (s0 v1 s1 v2 s2 v3 s3 v4 s4 v5 bc gap R : Str) (q0 q1 q2 q3 q4 : Quote)
    (n0 : s0 ≠ []) (a0 : allSpace s0) (n1 : s1 ≠ []) (a1 : allSpace s1) (n2 : s2 ≠ []) (a2 : allSpace s2)
    (n3 : s3 ≠ []) (a3 : allSpace s3) (n4 : s4 ≠ []) (a4 : allSpace s4) (abc : allSpace bc) (ag : allSpace gap)
    (c1 : inClass isDigit v1) (c2 : inClass isDigit v2) (c3 : inClass isWord v3) (c4 : inClass isWordDash v4)
    (c5 : inClass isWordDash v5) (hR : ∀ c ∈ R.head?, isSpace c = false) :
    reMatch v2Regex (ofxNF s0 v1 s1 v2 s2 v3 s3 v4 s4 v5 bc gap R q0.ch q1.ch q2.ch q3.ch q4.ch) =
      some ([some v1, some v2, some v3, some v4, some v5], R) := by
  have hq : ∀ {p : Char → Bool}, p '"' = false → p '\'' = false → ∀ q : Quote, p q.ch = false := by
    intro p h1 h2 q; cases q <;> assumption
  simp only [reMatch_v2, ofxNF, eq_OFXHEADER, eq_VERSION, eq_SECURITY, eq_OLDFILEUID, eq_NEWFILEUID,
    List.append_assoc, List.cons_append, List.nil_append]
  rw [step_lit]
  apply ws1_qfield_match _ _ _ _ _ _ _ _ _ (by simp [names9]) n0 a0 c1 (hq (by decide) (by decide))
  apply ws1_qfield_match _ _ _ _ _ _ _ _ _ (by simp [names9]) n1 a1 c2 (hq (by decide) (by decide))
  apply ws1_qfield_match _ _ _ _ _ _ _ _ _ (by simp [names9]) n2 a2 c3 (hq (by decide) (by decide))
  apply ws1_qfield_match _ _ _ _ _ _ _ _ _ (by simp [names9]) n3 a3 c4 (hq (by decide) (by decide))
  apply ws1_qfield_match _ _ _ _ _ _ _ _ _ (by simp [names9]) n4 a4 c5 (hq (by decide) (by decide))
  rw [step_ws0 bc _ _ _ abc (by rw [lit_close]; intro c hc; simp at hc; subst hc; decide), step_lit,
    step_ws0 gap R _ _ ag hR]
  rfl

structure ValidV2 (p : V2P) (h : V2) : Prop where
  oh0 : 0 ≤ h.ofxheader ∧ h.ofxheader < 1000
  oh : pyStrInt h.ofxheader ∈ p.ofxheader
  ver0 : 0 ≤ h.version ∧ h.version < 1000
  ver : pyStrInt h.version ∈ p.version
  sec : h.security ∈ p.security ∧ inClass isWord h.security
  old : inClass isWordDash h.oldfileuid ∧ ∀ n, p.oldLen = some n → h.oldfileuid.length ≤ n
  new : inClass isWordDash h.newfileuid ∧ ∀ n, p.newLen = some n → h.newfileuid.length ≤ n

theorem ctorV2_valid (p : V2P) (h : V2) (hv : ValidV2 p h) :
    ctorV2 p (.str (pyStrInt h.version)) (.str (pyStrInt h.ofxheader)) (some h.security)
      (some h.oldfileuid) (some h.newfileuid) = .ok h := by
  obtain ⟨hoc, hoi⟩ := pyStrInt_nonneg _ hv.oh0.1
  obtain ⟨_, hvi⟩ := pyStrInt_nonneg _ hv.ver0.1
  rw [ctorV2_ok_iff, orElse_str _ _ hoc.1, orStr_some _ _ hv.sec.2.1, orStr_some _ _ hv.old.1.1,
    orStr_some _ _ hv.new.1.1, unescape_uid _ hv.old.1.2, unescape_uid _ hv.new.1.2]
  exact ⟨_, _, (toInt_str_ok_iff _ _).2 hvi, hv.ver, (toInt_str_ok_iff _ _).2 hoi, hv.oh, hv.sec.1, hv.old.2,
    hv.new.2, rfl⟩

def plain (c : Char) : Prop := c.toNat < 128 ∧ c ≠ '\n' ∧ c ≠ '<'

theorem plain_ws (w : Str) (h : wsNoLF w = true) : ∀ c ∈ w, plain c := by
  obtain ⟨hs, ha, hn⟩ := wsNoLF_spec w h
  intro c hc
  refine ⟨ha c hc, ?_, ?_⟩
  · intro e; subst e
    exact hasLF_eq_false.1 hn hc
  · intro e; subst e
    exact absurd (hs _ hc) (by decide)

theorem plain_quote (q : Quote) : plain q.ch := by cases q <;> exact ⟨by decide, by decide, by decide⟩

theorem v2Xml_nf (lay : V2Lay) (qv qe qs : Quote) (h1 : lay.xmlVersion = some qv) (h2 : lay.xmlEncoding = some qe)
    (h3 : lay.xmlStandalone = some qs) (rest : Str) :
    v2Xml lay ++ rest = xmlNF lay.xs1 lay.xs2 lay.xs3 lay.xs4 rest qv.ch qe.ch qs.ch := by
  simp [v2Xml, pseudo, xmlNF, h1, h2, h3, eq_version, eq_encoding, eq_standalone]

theorem v2Ofx_nf (lay : V2Lay) (h : V2) (R : Str) :
    v2Ofx lay h ++ R = ofxNF lay.s0 (pyStrInt h.ofxheader) lay.s1 (pyStrInt h.version) lay.s2 h.security lay.s3
      h.oldfileuid lay.s4 h.newfileuid lay.beforeClose lay.gap R lay.q0.ch lay.q1.ch lay.q2.ch lay.q3.ch lay.q4.ch := by
  simp [v2Ofx, qattr, ofxNF, eq_OFXHEADER, eq_VERSION, eq_SECURITY, eq_OLDFILEUID, eq_NEWFILEUID]

def pseudoS (nm v : Str) : Option Quote → Str
  | some q => nm ++ '=' :: q.ch :: (v ++ [q.ch])
  | none => []

theorem pseudo_eq (name v : String) (oq : Option Quote) : pseudo name v oq = pseudoS name.toList v.toList oq := by
  cases oq <;> rfl

theorem dropWhile_space_qmark (s : Str) : ('?' :: s).dropWhile isSpace = '?' :: s := by
  simp [List.dropWhile, show isSpace '?' = false by decide]

/-- When the pseudo-attribute is absent the optional group has to fail rather than match further on: what comes
    next must not start with the name's first letter (`habs`). -/
theorem xml_stage (nm : Str) (c0 : Char) (nm' : Str) (v : Str) (p : Char → Bool) (oq : Option Quote) (xs T : Str)
    (more : List Seg) (st : St) (hnm : nm = c0 :: nm') (hc0 : isSpace c0 = false)
    (hv : v ≠ []) (hp : ∀ c ∈ v, p c = true) (hpq : ∀ q : Quote, p q.ch = false) (hxs : allSpace xs)
    (habs : oq = none → ∀ c ∈ (T.dropWhile isSpace).head?, c ≠ c0)
    (hnext : ∀ st', (stepItem .ws0 (matchSegs more) st' T).isSome = true) :
    (stepItem .ws0 (matchSegs (.opt [.lit (nm ++ ['=']), .openq, .cap p, .closeq] :: W0 :: more)) st
      (pseudoS nm v oq ++ (xs ++ T))).isSome = true := by
  cases oq with
  | some q =>
    simp only [pseudoS]
    have e : nm ++ '=' :: q.ch :: (v ++ [q.ch]) ++ (xs ++ T) = (nm ++ ['=']) ++ (q.ch :: (v ++ (q.ch :: (xs ++ T)))) := by
      simp
    rw [e, ws0_def]
    have hd : ((nm ++ ['=']) ++ (q.ch :: (v ++ (q.ch :: (xs ++ T))))).dropWhile isSpace =
        (nm ++ ['=']) ++ (q.ch :: (v ++ (q.ch :: (xs ++ T)))) := by
      subst hnm
      simp [List.dropWhile, hc0]
    rw [hd]
    obtain ⟨r, hr⟩ := Option.isSome_iff_exists.1 (hnext { caps := some v :: st.caps, quote := some q.ch })
    rw [matchSegs_opt, matchItems_qfield, List.append_assoc, List.singleton_append,
      qfield_match nm p _ st v _ r q ⟨hv, hp⟩ hpq (by rw [W0, matchSegs_item, ws0_absorb _ _ _ _ hxs]; exact hr)]
    rfl
  | none =>
    simp only [pseudoS, List.nil_append]
    rw [ws0_absorb _ _ _ _ hxs, ws0_def, matchSegs_opt]
    have hfail : matchItems [.lit (nm ++ ['=']), .openq, .cap p, .closeq] (matchSegs (W0 :: more)) st
        (T.dropWhile isSpace) = none := by
      show stepItem (.lit (nm ++ ['='])) _ st _ = none
      exact lit_head_fail _ _ _ _ c0 (nm' ++ ['=']) (by subst hnm; rfl) (habs rfl)
    rw [hfail]
    simp only
    rw [W0, matchSegs_item, ws0_def, List.dropWhile_of_head (head_dropWhile_space T)]
    have := hnext { st with caps := List.replicate (capCount [.lit (nm ++ ['=']), .openq, .cap p, .closeq]) none ++ st.caps }
    rw [ws0_def] at this
    exact this

/-- the hypothesis `habs` of `xml_stage`, computed -/
theorem head_after_pseudoS (nm : Str) (c0 : Char) (nm' v : Str) (oq : Option Quote) (xs T : Str) (hnm : nm = c0 :: nm')
    (hc0 : isSpace c0 = false) (hxs : allSpace xs) :
    ((pseudoS nm v oq ++ (xs ++ T)).dropWhile isSpace).head? =
      match oq with
      | some _ => some c0
      | none => (T.dropWhile isSpace).head? := by
  cases oq with
  | some q => subst hnm; simp [pseudoS, List.dropWhile, hc0]
  | none => simp only [pseudoS, List.nil_append]; rw [List.dropWhile_append_of_pos hxs]

theorem xmlRegex_eq : xmlRegex =
    [ L "<?xml", W1,
      .opt [.lit ("version".toList ++ ['=']), .openq, .cap isDigitDot, .closeq], W0,
      .opt [.lit ("encoding".toList ++ ['=']), .openq, .cap isWordDash, .closeq], W0,
      .opt [.lit ("standalone".toList ++ ['=']), .openq, .cap isWord, .closeq], W0,
      L "?>", W0 ] := by
  rw [xmlRegex, eq_version, eq_encoding, eq_standalone]

/-- `XML_REGEX` matches every XML declaration of the layout family: each pseudo-attribute present (either quote)
    or absent, any whitespace -/
theorem xml_match_gen (lay : V2Lay) (rest : Str) (h1 : lay.xs1 ≠ []) (a1 : allSpace lay.xs1) (a2 : allSpace lay.xs2)
    (a3 : allSpace lay.xs3) (a4 : allSpace lay.xs4) :
    (reMatch xmlRegex (v2Xml lay ++ rest)).isSome = true := by
  have qdd : ∀ q : Quote, isDigitDot q.ch = false := by intro q; cases q <;> decide
  have qwd : ∀ q : Quote, isWordDash q.ch = false := by intro q; cases q <;> decide
  have qw : ∀ q : Quote, isWord q.ch = false := by intro q; cases q <;> decide
  have etext : v2Xml lay ++ rest = "<?xml".toList ++ (lay.xs1 ++ (pseudo "version" "1.0" lay.xmlVersion ++ (lay.xs2 ++
      (pseudo "encoding" "UTF-8" lay.xmlEncoding ++ (lay.xs3 ++ (pseudo "standalone" "no" lay.xmlStandalone ++
      (lay.xs4 ++ ("?>".toList ++ rest)))))))) := by
    simp [v2Xml]
  have hfin : ∀ st', (stepItem .ws0 (matchSegs [L "?>", W0]) st' ("?>".toList ++ rest)).isSome = true := by
    intro st'
    rw [ws0_def]
    have : ("?>".toList ++ rest).dropWhile isSpace = "?>".toList ++ rest := by
      have : "?>".toList = ['?', '>'] := by decide
      rw [this]; exact dropWhile_space_qmark _
    rw [this]
    rw [L, matchSegs_item, step_lit]
    rfl
  have hq : (("?>".toList ++ rest).dropWhile isSpace).head? = some '?' := by
    have : "?>".toList = ['?', '>'] := by decide
    rw [this]; simp only [List.cons_append, List.nil_append, dropWhile_space_qmark]; rfl
  rw [etext, xmlRegex_eq]
  simp only [pseudo_eq]
  unfold reMatch
  rw [L, W1, matchSegs_item, step_lit, matchSegs_item, ws1_to_ws0 _ _ _ _ h1 a1]
  apply xml_stage _ 'v' "ersion".toList _ _ _ _ _ _ _ (by decide) (by decide) (by decide) (by decide) qdd a2
  · intro _ c hc
    rw [head_after_pseudoS _ 'e' "ncoding".toList _ _ _ _ (by decide) (by decide) a3,
      head_after_pseudoS _ 's' "tandalone".toList _ _ _ _ (by decide) (by decide) a4, hq] at hc
    revert hc
    cases lay.xmlEncoding <;> cases lay.xmlStandalone <;> intro hc <;> simp at hc <;> subst hc <;> decide
  intro st1
  apply xml_stage _ 'e' "ncoding".toList _ _ _ _ _ _ _ (by decide) (by decide) (by decide) (by decide) qwd a3
  · intro _ c hc
    rw [head_after_pseudoS _ 's' "tandalone".toList _ _ _ _ (by decide) (by decide) a4, hq] at hc
    revert hc
    cases lay.xmlStandalone <;> intro hc <;> simp at hc <;> subst hc <;> decide
  intro st2
  apply xml_stage _ 's' "tandalone".toList _ _ _ _ _ _ _ (by decide) (by decide) (by decide) (by decide) qw a4
  · intro _ c hc
    rw [hq] at hc
    simp at hc; subst hc; decide
  exact hfin

theorem xml_match (xs1 xs2 xs3 xs4 rest : Str) (qv qe qs : Quote) (h1 : xs1 ≠ []) (a1 : allSpace xs1)
    (a2 : allSpace xs2) (a3 : allSpace xs3) (a4 : allSpace xs4) :
    (reMatch xmlRegex (xmlNF xs1 xs2 xs3 xs4 rest qv.ch qe.ch qs.ch)).isSome = true := by
  let lay : V2Lay := { (default : V2Lay) with xmlVersion := some qv, xmlEncoding := some qe, xmlStandalone := some qs,
                                               xs1 := xs1, xs2 := xs2, xs3 := xs3, xs4 := xs4 }
  rw [← v2Xml_nf lay qv qe qs rfl rfl rfl]
  exact xml_match_gen lay rest h1 a1 a2 a3 a4

theorem plain_pseudo (name v : String) (oq : Option Quote) (hn : ∀ c ∈ name.toList, plain c)
    (hv : ∀ c ∈ v.toList, plain c) : ∀ c ∈ pseudo name v oq, plain c := by
  cases oq with
  | none => intro c hc; simp [pseudo] at hc
  | some q =>
    simp only [pseudo, List.forall_mem_append, List.forall_mem_cons, List.not_mem_nil, false_imp_iff, implies_true,
      and_true]
    exact ⟨hn, ⟨by decide, by decide, by decide⟩, plain_quote q, hv, plain_quote q⟩

theorem v2Xml_shape (lay : V2Lay) (w1 : wsNoLF lay.xs1 = true) (w2 : wsNoLF lay.xs2 = true)
    (w3 : wsNoLF lay.xs3 = true) (w4 : wsNoLF lay.xs4 = true) :
    ∃ X', (∀ rest, v2Xml lay ++ rest = '<' :: '?' :: 'x' :: (X' ++ rest)) ∧ ∀ c ∈ X', plain c := by
  refine ⟨"ml".toList ++ (lay.xs1 ++ (pseudo "version" "1.0" lay.xmlVersion ++ (lay.xs2 ++
    (pseudo "encoding" "UTF-8" lay.xmlEncoding ++ (lay.xs3 ++ (pseudo "standalone" "no" lay.xmlStandalone ++
    (lay.xs4 ++ "?>".toList))))))), ?_, ?_⟩
  · intro rest
    have : "<?xml".toList = '<' :: '?' :: 'x' :: "ml".toList := by decide
    simp [v2Xml, this]
  · simp only [List.forall_mem_append]
    exact ⟨by unfold plain; decide, plain_ws _ w1,
      plain_pseudo "version" "1.0" lay.xmlVersion (by unfold plain; decide) (by unfold plain; decide), plain_ws _ w2,
      plain_pseudo "encoding" "UTF-8" lay.xmlEncoding (by unfold plain; decide) (by unfold plain; decide), plain_ws _ w3,
      plain_pseudo "standalone" "no" lay.xmlStandalone (by unfold plain; decide) (by unfold plain; decide),
      plain_ws _ w4, by unfold plain; decide⟩

theorem xmlNF_shape (xs1 xs2 xs3 xs4 : Str) (qv qe qs : Quote) (w1 : wsNoLF xs1 = true) (w2 : wsNoLF xs2 = true)
    (w3 : wsNoLF xs3 = true) (w4 : wsNoLF xs4 = true) :
    ∃ X', (∀ rest, xmlNF xs1 xs2 xs3 xs4 rest qv.ch qe.ch qs.ch = '<' :: '?' :: 'x' :: (X' ++ rest)) ∧
      ∀ c ∈ X', plain c := by
  let lay : V2Lay := { (default : V2Lay) with xmlVersion := some qv, xmlEncoding := some qe, xmlStandalone := some qs,
                                               xs1 := xs1, xs2 := xs2, xs3 := xs3, xs4 := xs4 }
  obtain ⟨X', h, hp⟩ := v2Xml_shape lay w1 w2 w3 w4
  exact ⟨X', fun rest => (v2Xml_nf lay qv qe qs rfl rfl rfl rest).symm.trans (h rest), hp⟩

theorem nonEmptyWs_spec (s : Str) (h : nonEmptyWs s = true) : s ≠ [] ∧ allSpace s ∧ isAscii s := by
  simp only [nonEmptyWs, Bool.and_eq_true, Bool.not_eq_true', List.isEmpty_eq_false_iff] at h
  exact ⟨h.1, asciiSpace_spec s h.2⟩

theorem noLt_space (w : Str) (h : allSpace w) : '<' ∉ w := fun hm => absurd (h _ hm) (by decide)

theorem quote_ascii (q : Quote) : q.ch.toNat < 128 := by cases q <;> decide

theorem isAscii_ofxNF (s0 v1 s1 v2 s2 v3 s3 v4 s4 v5 bc gap : Str) (q0 q1 q2 q3 q4 : Quote) (h0 : isAscii s0)
    (h1 : isAscii s1) (h2 : isAscii s2) (h3 : isAscii s3) (h4 : isAscii s4) (hbc : isAscii bc) (hg : isAscii gap)
    (a1 : isAscii v1) (a2 : isAscii v2) (a3 : isAscii v3) (a4 : isAscii v4) (a5 : isAscii v5) :
    isAscii (ofxNF s0 v1 s1 v2 s2 v3 s3 v4 s4 v5 bc gap [] q0.ch q1.ch q2.ch q3.ch q4.ch) := by
  have n : ∀ nm ∈ names9, isAscii nm := names9_ascii
  simp only [ofxNF, eq_OFXHEADER, eq_VERSION, eq_SECURITY, eq_OLDFILEUID, eq_NEWFILEUID, lit_ofxOpen, lit_close,
    isAscii_append, isAscii_cons]
  exact ⟨⟨by decide, by decide, by decide, by decide, by decide, isAscii_nil⟩, h0,
    ⟨n _ (by simp [names9]), by decide, isAscii_nil⟩, quote_ascii q0, a1, quote_ascii q0, h1,
    ⟨n _ (by simp [names9]), by decide, isAscii_nil⟩, quote_ascii q1, a2, quote_ascii q1, h2,
    ⟨n _ (by simp [names9]), by decide, isAscii_nil⟩, quote_ascii q2, a3, quote_ascii q2, h3,
    ⟨n _ (by simp [names9]), by decide, isAscii_nil⟩, quote_ascii q3, a4, quote_ascii q3, h4,
    ⟨n _ (by simp [names9]), by decide, isAscii_nil⟩, quote_ascii q4, a5, quote_ascii q4, hbc,
    ⟨by decide, by decide, isAscii_nil⟩, hg, isAscii_nil⟩

theorem parseHeader_v2_branch (p1 : V1P) (p2 : V2P) (tbl : List (Option Nat)) (file : Bytes) (x : Nat × Str × Nat)
    (r : Res) (decoded : Str) (hfind : findHeader file 8 0 = .ok x) (hxml : reMatch xmlRegex x.2.1 = some r)
    (hdec : decodeUtf8 file = .ok decoded) :
    parseHeader p1 p2 tbl file =
      (do let (h, e) ← parseV2 p2 decoded
          pure (.v2 h, decoded.drop e)) := by
  obtain ⟨hs, line, pos⟩ := x
  unfold parseHeader
  simp only [hfind, PyM.ok_bind, hxml, hdec]

theorem decodeUtf8_text_body (tbl : List (Option Nat)) (A body : Str) (bb : Bytes) (hA : isAscii A)
    (henc : encode tbl .utf8 body = .ok bb) : decodeUtf8 (asciiBytes A ++ bb) = .ok (A ++ body) := by
  rw [decodeUtf8_asciiBytes_append _ hA, show decodeUtf8 bb = .ok body from decode_encode tbl .utf8 body bb henc]
  rfl

theorem parseV2_of_search (p : V2P) (pre rest oh ver sec old new : Str) (h : V2)
    (hs : reSearch v2Regex (pre ++ rest) = some ([some oh, some ver, some sec, some old, some new], rest))
    (hc : ctorV2 p (.str ver) (.str oh) (some sec) (some old) (some new) = .ok h) :
    parseV2 p (pre ++ rest) = .ok (h, pre.length) := by
  rw [parseV2, hs]
  simp only [hc, PyM.ok_bind, PyM.pure_eq, List.length_append, Nat.add_sub_cancel]

theorem parseHeader_v2_text (p1 : V1P) (p2 : V2P) (tbl : List (Option Nat)) (lay : V2Lay) (Z body : Str) (bb : Bytes)
    (tlen : lay.leading.length ≤ 7) (tlead : ∀ l ∈ lay.leading, wsNoLF l = true) (x1ne : lay.xs1 ≠ [])
    (tx1 : wsNoLF lay.xs1 = true) (tx2 : wsNoLF lay.xs2 = true) (tx3 : wsNoLF lay.xs3 = true)
    (tx4 : wsNoLF lay.xs4 = true) (iZ : isAscii Z) (henc : encode tbl .utf8 body = .ok bb) :
    parseHeader p1 p2 tbl (asciiBytes (leadingText lay.leading ++ (v2Xml lay ++ Z)) ++ bb) =
      (do let (h, e) ← parseV2 p2 ((leadingText lay.leading ++ (v2Xml lay ++ Z)) ++ body)
          pure (.v2 h, ((leadingText lay.leading ++ (v2Xml lay ++ Z)) ++ body).drop e)) := by
  obtain ⟨X', hXml, hX'⟩ := v2Xml_shape lay tx1 tx2 tx3 tx4
  have iX : isAscii ('<' :: '?' :: 'x' :: X') :=
    isAscii_cons.2 ⟨by decide, isAscii_cons.2 ⟨by decide, isAscii_cons.2 ⟨by decide, fun c hc => (hX' c hc).1⟩⟩⟩
  have hXlf : hasLF ('<' :: '?' :: 'x' :: X') = false := hasLF_eq_false.2 (by
    simp only [List.mem_cons, not_or]
    exact ⟨by decide, by decide, by decide, fun h => (hX' _ h).2.1 rfl⟩)
  have hfile : asciiBytes (leadingText lay.leading ++ (v2Xml lay ++ Z)) ++ bb =
      asciiBytes (leadingText lay.leading) ++ (asciiBytes ('<' :: '?' :: 'x' :: X') ++ (asciiBytes Z ++ bb)) := by
    rw [hXml, ← List.cons_append, ← List.cons_append, ← List.cons_append, asciiBytes_append, asciiBytes_append,
      List.append_assoc, List.append_assoc]
  have hline1 : chars (splitLine (asciiBytes ('<' :: '?' :: 'x' :: X') ++ (asciiBytes Z ++ bb))) =
      ('<' :: '?' :: 'x' :: X') ++ chars (splitLine (asciiBytes Z ++ bb)) := by
    rw [splitLine_noLF _ _ iX hXlf, chars_append, chars_asciiBytes _ iX]
  obtain ⟨_, hfind⟩ := findHeader_start _ lay.leading tlead tlen _ hfile '<' (by rw [hline1]; simp) (by decide)
  obtain ⟨xr, hxml⟩ := Option.isSome_iff_exists.1 (by
    have := xml_match_gen lay (chars (splitLine (asciiBytes Z ++ bb)))
      x1ne (wsNoLF_spec _ tx1).1 (wsNoLF_spec _ tx2).1 (wsNoLF_spec _ tx3).1 (wsNoLF_spec _ tx4).1
    rw [hXml] at this
    simpa [hline1] using this :
      (reMatch xmlRegex (chars (splitLine (asciiBytes ('<' :: '?' :: 'x' :: X') ++ (asciiBytes Z ++ bb))))).isSome = true)
  have iT : isAscii (leadingText lay.leading ++ (v2Xml lay ++ Z)) :=
    isAscii_append.2 ⟨(leadingText_spec lay.leading tlead).2, by rw [hXml]; exact isAscii_append.2 ⟨iX, iZ⟩⟩
  exact parseHeader_v2_branch p1 p2 tbl _ _ xr _ hfind hxml (decodeUtf8_text_body tbl _ body bb iT henc)

/-- any payload that starts with `<`: for v2 nothing is stripped -/
theorem parse_v2_gen (p1 : V1P) (p2 : V2P) (tbl : List (Option Nat)) (lay : V2Lay) (h : V2) (body : Str) (bb : Bytes)
    (hv : ValidV2 p2 h) (henc : encode tbl .utf8 body = .ok bb)
    (hb0 : body.head? = some '<')
    (htol : lay.tolerated = true) :
    parseHeader p1 p2 tbl (renderV2 lay h bb) = .ok (.v2 h, body) := by
  simp only [V2Lay.tolerated, Bool.and_eq_true, decide_eq_true_eq, Bool.not_eq_true', List.isEmpty_eq_false_iff] at htol
  obtain ⟨⟨⟨⟨⟨⟨⟨⟨⟨⟨⟨⟨⟨⟨tlen, tlead⟩, x1ne⟩, tx1⟩, tx2⟩, tx3⟩, tx4⟩, taft⟩, ts0⟩, ts1⟩, ts2⟩, ts3⟩, ts4⟩, tbc⟩, tgap⟩ := htol
  have tlead' : ∀ l ∈ lay.leading, wsNoLF l = true := by simpa [List.all_eq_true] using tlead
  obtain ⟨n0, a0, i0⟩ := nonEmptyWs_spec _ ts0
  obtain ⟨n1, a1, i1⟩ := nonEmptyWs_spec _ ts1
  obtain ⟨n2, a2, i2⟩ := nonEmptyWs_spec _ ts2
  obtain ⟨n3, a3, i3⟩ := nonEmptyWs_spec _ ts3
  obtain ⟨n4, a4, i4⟩ := nonEmptyWs_spec _ ts4
  obtain ⟨abc, ibc⟩ := asciiSpace_spec _ tbc
  obtain ⟨ag, ig⟩ := asciiSpace_spec _ tgap
  obtain ⟨aaft, iaft⟩ := asciiSpace_spec _ taft
  obtain ⟨c1, _⟩ := pyStrInt_nonneg _ hv.oh0.1
  obtain ⟨c2, _⟩ := pyStrInt_nonneg _ hv.ver0.1
  obtain ⟨X', hXml, hX'⟩ := v2Xml_shape lay tx1 tx2 tx3 tx4
  obtain ⟨brest, hbody⟩ := List.head?_eq_some_iff.1 hb0
  have hOR := v2Ofx_nf lay h
  have iO : isAscii (v2Ofx lay h) := by
    rw [← List.append_nil (v2Ofx lay h), hOR]
    exact isAscii_ofxNF _ _ _ _ _ _ _ _ _ _ _ _ _ _ _ _ _ i0 i1 i2 i3 i4 ibc ig
      (isAscii_class _ digit_wordDash _ c1.2) (isAscii_class _ digit_wordDash _ c2.2)
      (isAscii_class _ word_wordDash _ hv.sec.2.2) (isAscii_class _ (fun _ h => h) _ hv.old.1.2)
      (isAscii_class _ (fun _ h => h) _ hv.new.1.2)
  have hsearch : reSearch v2Regex ((leadingText lay.leading ++ (v2Xml lay ++ (lay.afterXml ++ v2Ofx lay h))) ++ body) =
      some ([some (pyStrInt h.ofxheader), some (pyStrInt h.version), some h.security, some h.oldfileuid,
        some h.newfileuid], body) := by
    rw [List.append_assoc, reSearch_skip_noLt _ _ (noLt_space _ (leadingText_spec lay.leading tlead').1), hXml]
    have e : '<' :: '?' :: 'x' :: (X' ++ (lay.afterXml ++ v2Ofx lay h)) ++ body =
        '<' :: '?' :: 'x' :: ((X' ++ lay.afterXml) ++ (v2Ofx lay h ++ body)) := by simp
    rw [e, reSearch_skip_xml]
    have e2 : '?' :: 'x' :: ((X' ++ lay.afterXml) ++ (v2Ofx lay h ++ body)) =
        ('?' :: 'x' :: (X' ++ lay.afterXml)) ++ (v2Ofx lay h ++ body) := by simp
    rw [e2, reSearch_skip_noLt _ _ (by
      intro hm
      simp only [List.mem_cons, List.mem_append] at hm
      rcases hm with hm | hm | hm | hm
      · exact absurd hm (by decide)
      · exact absurd hm (by decide)
      · exact (hX' _ hm).2.2 rfl
      · exact noLt_space _ aaft hm)]
    apply reSearch_of_match
    rw [hOR]
    exact v2_match _ _ _ _ _ _ _ _ _ _ _ _ _ _ _ _ _ _ n0 a0 n1 a1 n2 a2 n3 a3 n4 a4 abc ag c1 c2 hv.sec.2 hv.old.1 hv.new.1
      (by rw [hbody]; intro c hc; simp at hc; subst hc; decide)
  show parseHeader p1 p2 tbl (asciiBytes (leadingText lay.leading ++ (v2Xml lay ++ (lay.afterXml ++ v2Ofx lay h))) ++ bb) = _
  rw [parseHeader_v2_text p1 p2 tbl lay _ body bb tlen tlead' x1ne tx1 tx2 tx3 tx4 (isAscii_append.2 ⟨iaft, iO⟩) henc,
    parseV2_of_search p2 _ body _ _ _ _ _ h hsearch (ctorV2_valid p2 h hv)]
  show Except.ok (Hdr.v2 h, List.drop _ _) = _
  rw [List.drop_left]

/-- C05 for v2 files, every tolerated layout -/
theorem parse_v2 (p1 : V1P) (p2 : V2P) (tbl : List (Option Nat)) (lay : V2Lay) (h : V2) (body : Str) (bb : Bytes)
    (hv : ValidV2 p2 h) (henc : encode tbl .utf8 body = .ok bb)
    (hb0 : body.head? = some '<') (_hb1 : body.getLast? = some '>') (htol : lay.tolerated = true) :
    parseHeader p1 p2 tbl (renderV2 lay h bb) = .ok (.v2 h, body) :=
  parse_v2_gen p1 p2 tbl lay h body bb hv henc hb0 htol

end Ofx.Header
