/-
Lemmas for C18 (persistence through the file): what reading the written text does to the parser content
(`loadRaw1`, from `Lemmas/IniRead.lean`), expressed (a) as the configuration that was written and (b) as the
API-level `Ini.loadFile … toFile` of `Ofx/Ofxget.lean`.
-/
import OfxProofs.Lemmas.IniRead
import OfxProofs.Lemmas.OfxgetFiles


namespace Ofx.IniText
open Ofx Ofx.Ofxget

def HasSect (I : Ini) (name : Str) : Prop := name = defaultSect ∨ (I.sections.lookup name).isSome = true

theorem setSect_getSect (I : Ini) (name : Str) (h : HasSect I name) : setSect I name (getSect I name) = I := by
  unfold setSect getSect
  by_cases hd : name = defaultSect
  · simp [hd]
  · have hdb : (name == defaultSect) = false := by simpa using hd
    simp only [hdb, Bool.false_eq_true, if_false, Ini.sect]
    rcases h with h | h
    · exact absurd h hd
    · cases hl : I.sections.lookup name with
      | none => rw [hl] at h; cases h
      | some x => simp [mapSet_of_lookup name x I.sections hl]

theorem getSect_setSect (I : Ini) (name : Str) (s : Sect) : getSect (setSect I name s) name = s := by
  unfold setSect getSect
  by_cases hd : name = defaultSect
  · simp [hd]
  · have hdb : (name == defaultSect) = false := by simpa using hd
    simp [hdb, Ini.sect, lookup_mapSet_self]

theorem setSect_setSect (I : Ini) (name : Str) (s s' : Sect) : setSect (setSect I name s) name s' = setSect I name s' := by
  unfold setSect
  by_cases hd : name = defaultSect
  · simp [hd]
  · have hdb : (name == defaultSect) = false := by simpa using hd
    simp [hdb, mapSet_mapSet]

theorem hasSect_setSect (I : Ini) (name : Str) (s : Sect) : HasSect (setSect I name s) name := by
  unfold HasSect setSect
  by_cases hd : name = defaultSect
  · exact Or.inl hd
  · have hdb : (name == defaultSect) = false := by simpa using hd
    right
    simp [hdb, lookup_mapSet_self]

theorem foldl_set (kvs : Sect) (I : Ini) (name : Str) (h : HasSect I name) (hlow : ∀ kv ∈ kvs, lower kv.1 = kv.1) :
    kvs.foldl (fun I kv => I.set name kv.1 kv.2) I =
      setSect I name (kvs.foldl (fun s kv => mapSet kv.1 kv.2 s) (getSect I name)) := by
  induction kvs generalizing I with
  | nil => simp [setSect_getSect I name h]
  | cons kv rest ih =>
    simp only [List.foldl_cons]
    rw [set_eq_setSect I name kv.1 kv.2 (hlow kv (by simp)),
      ih _ (hasSect_setSect _ _ _) (fun x hx => hlow x (by simp [hx])), getSect_setSect, setSect_setSect]

theorem hasSect_ensureRaw (I : Ini) (name : Str) : HasSect (ensureRaw I name) name := by
  unfold ensureRaw HasSect
  by_cases hd : name = defaultSect
  · exact Or.inl hd
  · right
    have hdb : (name == defaultSect) = false := by simpa using hd
    cases hl : (I.sections.lookup name).isSome with
    | true => simp [hl]
    | false =>
      simp only [hdb, Bool.or_self, Bool.false_eq_true, if_false]
      rw [List.lookup_append_single]
      simp

theorem loadRaw1_eq (I : Ini) (sec : Str × Sect) (hlow : ∀ kv ∈ sec.2, lower kv.1 = kv.1) :
    loadRaw1 I sec = setSect I sec.1 (sec.2.foldl (fun s kv => mapSet kv.1 kv.2 s) (getSect I sec.1)) := by
  unfold loadRaw1
  rw [foldl_set sec.2 _ sec.1 (hasSect_ensureRaw I sec.1) hlow]
  unfold ensureRaw
  split
  · rfl
  · rename_i hp
    obtain ⟨hl, hdb⟩ := Bool.or_eq_false_iff.mp (Bool.not_eq_true _ ▸ hp)
    have hnone : I.sections.lookup sec.1 = none := by simpa using hl
    have hnm : sec.1 ∉ I.sections.map (·.1) := by
      intro hm
      have := List.mem_keys_iff_lookup.mp hm
      rw [hnone] at this
      cases this
    unfold setSect getSect
    simp only [hdb, Bool.false_eq_true, if_false, Ini.sect]
    rw [List.lookup_append_single, hnone]
    simp only [if_true, Option.none_or, Option.getD_some, Option.getD_none]
    rw [mapSet_append_single _ _ _ _ hnm, mapSet_absent _ _ _ hnm]

theorem iniClean_spec (c : Ini) (h : iniClean c = true) :
    cleanSect c.defaults = true ∧
      (∀ s ∈ c.sections, cleanName s.1 = true ∧ s.1 ≠ defaultSect ∧ cleanSect s.2 = true) ∧
      (c.sections.map (·.1)).Nodup := by
  simp only [iniClean, Bool.and_eq_true, List.all_eq_true, decide_eq_true_eq, bne_iff_ne, ne_eq] at h
  exact ⟨h.1.1, fun s hs => ⟨(h.1.2 s hs).1.1, (h.1.2 s hs).1.2, (h.1.2 s hs).2⟩, h.2⟩

theorem cleanSect_lower (s : Sect) (h : cleanSect s = true) : ∀ kv ∈ s, lower kv.1 = kv.1 := by
  intro kv hkv
  obtain ⟨_, _, _, _, _, _, _, hlow, _⟩ := cleanKey_spec kv.1 ((cleanSect_spec s h).1 kv hkv).1
  exact hlow

theorem foldl_loadRaw1_sections (ss pre : List (Str × Sect)) (d : Sect) (hnd : (ss.map (·.1)).Nodup)
    (hdis : ∀ s ∈ ss, s.1 ∉ pre.map (·.1)) (hnodef : ∀ s ∈ ss, s.1 ≠ defaultSect)
    (hsec : ∀ s ∈ ss, cleanSect s.2 = true) :
    ss.foldl loadRaw1 ⟨d, pre⟩ = ⟨d, pre ++ ss⟩ := by
  induction ss generalizing pre with
  | nil => simp
  | cons s rest ih =>
    have hnd' : s.1 ∉ rest.map (·.1) ∧ (rest.map (·.1)).Nodup := by simpa using hnd
    have hsd : (s.1 == defaultSect) = false := by simpa using hnodef s (by simp)
    have habs := hdis s (by simp)
    have h1 : loadRaw1 ⟨d, pre⟩ s = ⟨d, pre ++ [s]⟩ := by
      rw [loadRaw1_eq _ s (cleanSect_lower s.2 (hsec s (by simp)))]
      unfold setSect getSect
      simp only [hsd, Bool.false_eq_true, if_false, Ini.sect, List.lookup_eq_none_iff_not_mem_keys.mpr habs,
        Option.getD_none]
      rw [foldl_mapSet_nodup s.2 [] (cleanSect_spec s.2 (hsec s (by simp))).2 (by simp), mapSet_absent _ _ _ habs]
      simp
    simp only [List.foldl_cons, h1]
    rw [ih (pre ++ [s]) hnd'.2 ?_ (fun x hx => hnodef x (by simp [hx])) (fun x hx => hsec x (by simp [hx]))]
    · simp
    · intro x hx hm
      simp only [List.map_append, List.map_cons, List.map_nil, List.mem_append, List.mem_singleton] at hm
      rcases hm with hm | hm
      · exact hdis x (by simp [hx]) hm
      · exact hnd'.1 (by rw [← hm]; exact List.mem_map_of_mem hx)

theorem fileOf_load_empty (c : Ini) (h : iniClean c = true) : (fileOf c).foldl loadRaw1 Ini.empty = c := by
  obtain ⟨hd, hs, hnd⟩ := iniClean_spec c h
  obtain ⟨d, ss⟩ := c
  unfold fileOf
  rw [List.foldl_append]
  have hA : (if d.isEmpty then [] else [(defaultSect, d)]).foldl loadRaw1 Ini.empty = ⟨d, []⟩ := by
    cases d with
    | nil => rfl
    | cons kv rest =>
      simp only [List.isEmpty_cons, Bool.false_eq_true, if_false, List.foldl_cons, List.foldl_nil]
      rw [loadRaw1_eq _ _ (cleanSect_lower _ hd)]
      unfold setSect getSect
      simp only [BEq.rfl, if_true, Ini.empty]
      rw [foldl_mapSet_nodup _ [] (cleanSect_spec _ hd).2 (by simp)]
      simp
  simp only at hA ⊢
  rw [hA, foldl_loadRaw1_sections ss [] d hnd (by simp) (fun s hs' => (hs s hs').2.1) (fun s hs' => (hs s hs').2.2)]
  simp

def loadStep (c : Ini) (sec : Str × List (Str × Str)) : Ini :=
  if sec.1 == defaultSect then { c with defaults := sectUpdate c.defaults sec.2 }
  else { c with sections := mapSet sec.1 (sectUpdate (c.sect sec.1) sec.2) c.sections }

theorem loadFile_eq_foldl (c : Ini) (f : FileC) : c.loadFile f = f.foldl loadStep c := rfl

theorem loadStep_eq (I : Ini) (sec : Str × List (Str × Str)) :
    loadStep I sec = setSect I sec.1 (sectUpdate (getSect I sec.1) sec.2) := by
  unfold loadStep setSect getSect
  split <;> rfl

theorem sectUpdate_clean (s : Sect) (kvs : List (Str × Str)) (h : ∀ kv ∈ kvs, lower kv.1 = kv.1 ∧ strip kv.2 = kv.2) :
    sectUpdate s kvs = kvs.foldl (fun s kv => mapSet kv.1 kv.2 s) s := by
  unfold sectUpdate
  induction kvs generalizing s with
  | nil => rfl
  | cons kv rest ih =>
    simp only [List.foldl_cons]
    rw [(h kv (by simp)).1, (h kv (by simp)).2]
    exact ih _ (fun x hx => h x (by simp [hx]))

theorem loadRaw1_eq_loadStep (I : Ini) (sec : Str × Sect) (h : ∀ kv ∈ sec.2, lower kv.1 = kv.1 ∧ strip kv.2 = kv.2) :
    loadRaw1 I sec = loadStep I sec := by
  rw [loadRaw1_eq I sec (fun kv hkv => (h kv hkv).1), loadStep_eq, sectUpdate_clean _ _ h]

theorem valuesStripped_spec (c : Ini) (h : valuesStripped c = true) :
    (∀ kv ∈ c.defaults, strip kv.2 = kv.2) ∧ ∀ s ∈ c.sections, ∀ kv ∈ s.2, strip kv.2 = kv.2 := by
  simp only [valuesStripped, Bool.and_eq_true, List.all_eq_true] at h
  exact ⟨fun kv hkv => strip_edgeClean _ (h.1 kv hkv), fun s hs kv hkv => strip_edgeClean _ (h.2 s hs kv hkv)⟩

theorem fileOf_load (c0 c : Ini) (h : iniClean c = true) (hv : valuesStripped c = true) :
    (fileOf c).foldl loadRaw1 c0 = c0.loadFile c.toFile := by
  obtain ⟨hd, hs, _⟩ := iniClean_spec c h
  obtain ⟨hvd, hvs⟩ := valuesStripped_spec c hv
  have hfold : ∀ (f : List (Str × Sect)) (I : Ini),
      (∀ sec ∈ f, ∀ kv ∈ sec.2, lower kv.1 = kv.1 ∧ strip kv.2 = kv.2) → f.foldl loadRaw1 I = f.foldl loadStep I := by
    intro f
    induction f with
    | nil => intro I _; rfl
    | cons sec rest ih =>
      intro I hf
      simp only [List.foldl_cons]
      rw [loadRaw1_eq_loadStep I sec (hf sec (by simp)), ih _ (fun x hx => hf x (by simp [hx]))]
  have hsec : ∀ sec ∈ c.sections, ∀ kv ∈ sec.2, lower kv.1 = kv.1 ∧ strip kv.2 = kv.2 :=
    fun sec hsec kv hkv => ⟨cleanSect_lower _ (hs sec hsec).2.2 kv hkv, hvs sec hsec kv hkv⟩
  rw [loadFile_eq_foldl]
  unfold fileOf Ini.toFile
  rw [List.foldl_append, List.foldl_cons]
  have hA : (if c.defaults.isEmpty then [] else [(defaultSect, c.defaults)]).foldl loadRaw1 c0 =
      loadStep c0 (defaultSect, c.defaults) := by
    cases hde : c.defaults with
    | nil =>
      simp only [List.isEmpty_nil, if_true, List.foldl_nil]
      unfold loadStep
      simp [sectUpdate]
    | cons kv rest =>
      simp only [List.isEmpty_cons, Bool.false_eq_true, if_false, List.foldl_cons, List.foldl_nil]
      apply loadRaw1_eq_loadStep
      intro x hx
      rw [← hde] at hx
      exact ⟨cleanSect_lower _ hd x hx, hvd x hx⟩
  rw [hA]
  exact hfold _ _ hsec

end Ofx.IniText
