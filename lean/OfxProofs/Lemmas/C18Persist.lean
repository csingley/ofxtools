/-
Lemmas for `Props/C18.lean` and `Props/C18Persist.lean`: what `test_cfg_val` answers, what `mk_server_cfg` leaves in
the server's section for one option, what the next run reads, which values read back from the text written for them
(`savedReadsBack`, type by type); and the comma count by which a list with a member holding `,` never does.
-/
import OfxModel.Spec.PersistOk
import OfxProofs.Lemmas.OfxgetPersist

namespace Ofx.Ofxget
open Ofx Ofx.Spec.Ofxget Ofx.Spec.Persist

theorem testCfgVal_ok (T : Tables) (g : Str) (libCfg : Map) (k : Name) (v d : CfgVal)
    (hd : T.defaults.lookup k = some d) :
    testCfgVal T (.ok g) libCfg k v = .ok
      (if isNullArg v then CfgAction.skip
       else if (k == "clientuid".toList) && pyEq v (.str g) then CfgAction.skip
       else if pyEq v ((libCfg.lookup k).getD d) then CfgAction.ifStored else CfgAction.write) := by
  unfold testCfgVal
  generalize "clientuid".toList = cu
  by_cases hn : isNullArg v = true
  · simp [hn]
  · have hnf : isNullArg v = false := by simpa using hn
    simp only [hnf, Bool.false_eq_true, if_false, PyM.ok_bind, hd]
    by_cases hk : (k == cu) = true
    · simp only [hk, if_true, PyM.pure_eq, Bool.true_and]
      by_cases hp : pyEq v (.str g) = true
      · simp [hp]
      · have hpf : pyEq v (.str g) = false := by simpa using hp
        simp [hpf]
    · have hkf : (k == cu) = false := Bool.eq_false_iff.mpr hk
      simp [hkf]

/-- the decision of one turn of the loop, on the configuration as it stands -/
def turnSaves (cfg : Ini) (libCfg : Map) (s : Str) (k : Name) (v d : CfgVal) (g : Str) : Bool :=
  !isNullArg v && !((k == "clientuid".toList) && pyEq v (.str g)) &&
    (!pyEq v ((libCfg.lookup k).getD d) || ((cfg.look s k).isSome || (cfg.defaults.lookup k).isSome))

theorem get_isSome (c : Ini) (s : Str) (hs : s ≠ defaultSect) (k : Name) :
    (c.get s k).isSome = ((c.look s k).isSome || (c.defaults.lookup k).isSome) := by
  simp only [Ini.get, Ini.raw, Ini.look, hs, if_false]
  cases (c.sect s).lookup k <;> simp

theorem writeOpt_eq (T : Tables) (args : Chain) (libCfg : Map) (s : Str) (hs : s ≠ defaultSect)
    (cfg : Ini) (hc : Canon cfg) (k : Name) (ty : CfgTy) (hk : lower k = k) (v d : CfgVal) (g : Str)
    (hv : args.get? k = some v) (hd : T.defaults.lookup k = some d)
    (hg : cfg.defaults.lookup "clientuid".toList = some g) :
    writeOpt T args libCfg s cfg (k, ty) =
      if turnSaves cfg libCfg s k v d g then (arg2config ty v).map (cfg.set s k) else .ok cfg := by
  unfold writeOpt turnSaves
  simp only [hv, PyM.ok_bind, get_default cfg hc, hg, PyM.pure_eq, testCfgVal_ok T g libCfg k v d hd,
    hk, get_isSome cfg s hs k]
  -- both sides are the same function of four Booleans
  generalize ((k == "clientuid".toList) && pyEq v (.str g)) = uidSkip
  generalize ((cfg.look s k).isSome || (cfg.defaults.lookup k).isSome) = stored
  cases isNullArg v <;> cases uidSkip <;> cases pyEq v ((libCfg.lookup k).getD d) <;> cases stored <;>
    first | rfl | (cases arg2config ty v <;> rfl)

theorem writeOpt_self (T : Tables) (args : Chain) (libCfg : Map) (s : Str) (hs : s ≠ defaultSect)
    (cfg cfg' : Ini) (hc : Canon cfg) (k : Name) (ty : CfgTy) (hk : lower k = k) (v d : CfgVal) (g : Str)
    (hv : args.get? k = some v) (hd : T.defaults.lookup k = some d)
    (hg : cfg.defaults.lookup "clientuid".toList = some g)
    (h : writeOpt T args libCfg s cfg (k, ty) = .ok cfg') :
    (turnSaves cfg libCfg s k v d g = true → ∃ txt, arg2config ty v = .ok txt ∧ cfg' = cfg.set s k txt) ∧
    (turnSaves cfg libCfg s k v d g = false → cfg' = cfg) := by
  rw [writeOpt_eq T args libCfg s hs cfg hc k ty hk v d g hv hd hg] at h
  refine ⟨fun hsv => ?_, fun hsv => ?_⟩
  · rw [hsv, if_pos rfl] at h
    obtain ⟨txt, htxt, hc'⟩ := PyM.map_ok h
    exact ⟨txt, htxt, hc'.symm⟩
  · rw [hsv] at h
    exact (Except.ok.inj h).symm

theorem turnSaves_congr (c1 c2 : Ini) (libCfg : Map) (s : Str) (k : Name) (v d : CfgVal) (g : Str)
    (h1 : c1.look s k = c2.look s k) (h2 : c1.defaults = c2.defaults) :
    turnSaves c1 libCfg s k v d g = turnSaves c2 libCfg s k v d g := by
  unfold turnSaves
  rw [h1, h2]

/-- the turn of the write loop that is about option `k`: the configuration it starts from agrees with the re-read
    one in what the turn looks at, and the later turns leave its result for `k` alone (CONFIGURABLE names are
    distinct) -/
theorem mkServerCfg_turn (T : Tables) (hlow : ∀ ot ∈ T.configurable, lower ot.1 = ot.1)
    (hnd : (T.configurable.map (·.1)).Nodup)
    (args : Chain) (mem lib : Ini) (hmem : Canon mem) (disk : FileC) (uuid : Str) (cfg' : Ini) (s : Str)
    (hs : s ≠ defaultSect) (hnick : serverNick args = .ok s)
    (h : mkServerCfg T args mem lib disk uuid = .ok cfg')
    (k : Name) (ty : CfgTy) (hkt : (k, ty) ∈ T.configurable) (libCfg : Map) (hlib : readConfig T lib s = .ok libCfg) :
    ∃ bm bk, bm.defaults = (reloadCfg mem disk uuid).defaults ∧ Canon bm ∧
      bm.look s k = (reloadCfg mem disk uuid).look s k ∧
      writeOpt T args libCfg s bm (k, ty) = .ok bk ∧ cfg'.look s k = bk.look s k := by
  obtain ⟨s', libCfg', hs', hlib', h⟩ := mkServerCfg_ok h
  cases hnick.symm.trans hs'
  cases hlib.symm.trans hlib'
  obtain ⟨pre, post, hsplit⟩ := List.append_of_mem hkt
  rw [hsplit, List.foldlM_append] at h
  obtain ⟨bm, hpre, hrest⟩ := PyM.bind_ok h
  rw [List.foldlM_cons] at hrest
  obtain ⟨bk, hturn, hrest⟩ := PyM.bind_ok hrest
  have hnd' : (pre.map (·.1) ++ k :: post.map (·.1)).Nodup := by
    have := hnd
    rw [hsplit] at this
    simpa using this
  have hkpre : ∀ ot ∈ pre, k ≠ lower ot.1 := by
    intro ot hot heq
    rw [hlow ot (by rw [hsplit]; simp [hot])] at heq
    exact (List.nodup_append.mp hnd').2.2 ot.1 (List.mem_map_of_mem hot) k (by simp) heq.symm
  have hkpost : ∀ ot ∈ post, k ≠ lower ot.1 := by
    intro ot hot heq
    rw [hlow ot (by rw [hsplit]; simp [hot])] at heq
    exact (List.nodup_cons.mp (List.nodup_append.mp hnd').2.1).1 (heq ▸ List.mem_map_of_mem hot)
  have hbm := writeLoop_ind (fun c => c.defaults = (reloadCfg mem disk uuid).defaults ∧ Canon c ∧
      c.look s k = (reloadCfg mem disk uuid).look s k) hpre
    ⟨ensureSection_defaults _ _ hs, canon_ensureSection _ (canon_reloadCfg mem hmem disk uuid) s hs,
      by rw [ensureSection_look, if_neg (fun h => hs h.2.1)]⟩
    fun cfg hc ot hot _ txt _ _ => ⟨(set_defaults _ _ _ _ hs).trans hc.1, canon_set _ hc.2.1 _ _ _,
      by rw [set_look, if_neg (fun e => hkpre ot hot e.2)]; exact hc.2.2⟩
  exact ⟨bm, bk, hbm.1, hbm.2.1, hbm.2.2, hturn,
    writeLoop_ind (fun c => c.look s k = bk.look s k) hrest rfl
      fun cfg hc ot hot _ txt _ _ => by rw [set_look, if_neg (fun e => hkpost ot hot e.2)]; exact hc⟩

theorem mkServerCfg_look (T : Tables) (hlow : ∀ ot ∈ T.configurable, lower ot.1 = ot.1)
    (hnd : (T.configurable.map (·.1)).Nodup)
    (args : Chain) (mem lib : Ini) (hmem : Canon mem) (disk : FileC) (uuid : Str) (cfg' : Ini) (s : Str)
    (hs : s ≠ defaultSect) (hnick : serverNick args = .ok s)
    (h : mkServerCfg T args mem lib disk uuid = .ok cfg')
    (k : Name) (ty : CfgTy) (hkt : (k, ty) ∈ T.configurable) (v : CfgVal) (hv : args.get? k = some v)
    (libCfg : Map) (hlib : readConfig T lib s = .ok libCfg)
    (d : CfgVal) (hd : T.defaults.lookup k = some d)
    (g : Str) (hg : (reloadCfg mem disk uuid).defaults.lookup "clientuid".toList = some g) :
    (turnSaves (reloadCfg mem disk uuid) libCfg s k v d g = true →
        ∃ txt, arg2config ty v = .ok txt ∧ cfg'.look s k = some txt) ∧
    (turnSaves (reloadCfg mem disk uuid) libCfg s k v d g = false →
        cfg'.look s k = (reloadCfg mem disk uuid).look s k) := by
  obtain ⟨bm, bk, hdef, hcan, hlk, hturn, hpost⟩ :=
    mkServerCfg_turn T hlow hnd args mem lib hmem disk uuid cfg' s hs hnick h k ty hkt libCfg hlib
  have hself := writeOpt_self T args libCfg s hs bm bk hcan k ty (hlow _ hkt) v d g hv hd (by rw [hdef]; exact hg) hturn
  rw [turnSaves_congr bm (reloadCfg mem disk uuid) libCfg s k v d g hlk hdef] at hself
  refine ⟨fun hsv => ?_, fun hsv => ?_⟩
  · obtain ⟨txt, htxt, hbk⟩ := hself.1 hsv
    refine ⟨txt, htxt, ?_⟩
    rw [hpost, hbk, set_look, if_pos ⟨rfl, (hlow _ hkt).symm⟩]
  · rw [hpost, hself.2 hsv]
    exact hlk

/-- none of the three tests of `test_cfg_val` turns the option away: sufficient for its being written, not necessary (an
    option equal to its default is written too when the section already stores it, `.ifStored`) -/
structure WillWrite (T : Tables) (cfgDefaults : Sect) (libCfg : Map) (k : Name) (v : CfgVal) : Prop where
  notNull : isNullArg v = false
  notGlobalUid : k = "clientuid".toList → ∀ u, cfgDefaults.lookup "clientuid".toList = some u → pyEq v (.str u) = false
  notDefault : ∀ dflt, T.defaults.lookup k = some dflt → pyEq v ((libCfg.lookup k).getD dflt) = false


theorem WillWrite.turnSaves {T : Tables} {cfg : Ini} {libCfg : Map} {k : Name} {v d : CfgVal} {g : Str} (s : Str)
    (hw : WillWrite T cfg.defaults libCfg k v) (hd : T.defaults.lookup k = some d)
    (hg : cfg.defaults.lookup "clientuid".toList = some g) : turnSaves cfg libCfg s k v d g = true := by
  have hu : ((k == "clientuid".toList) && pyEq v (.str g)) = false := by
    cases hk : (k == "clientuid".toList)
    · rfl
    · rw [hw.notGlobalUid (eq_of_beq hk) g hg]
      rfl
  unfold Ofxget.turnSaves
  rw [hw.notNull, hu, hw.notDefault d hd]
  rfl

theorem ohSource_eq_ohRecord (lookup : Str → Option OhRec) (three : Chain) :
    ohSource lookup three = ohRecord lookup (three.get? "ofxhome".toList) := by
  unfold ohSource
  generalize three.get? "ofxhome".toList = o
  cases o with
  | none => rfl
  | some v => cases v <;> rfl

theorem ohRecord_lookup_ofxhome (lookup : Str → Option OhRec) (id : Option CfgVal) :
    (ohRecord lookup id).lookup "ofxhome".toList = none := by
  unfold ohRecord
  split
  · split
    · rfl
    · split
      · rfl
      · rfl
  · rfl

theorem ohRecord_lookup_some (lookup : Str → Option OhRec) (id : Option CfgVal) (k : Name) (x : CfgVal)
    (h : (ohRecord lookup id).lookup k = some x) : k ∈ ohKeys := by
  unfold ohRecord at h
  split at h
  · split at h
    · cases h
    · split at h
      · simp only [OhRec.toMap, List.lookup_cons_ite, List.lookup_nil] at h
        refine Classical.byContradiction fun hk => ?_
        simp only [ohKeys, List.mem_cons, List.mem_nil_iff, or_false, not_or] at hk
        rw [if_neg hk.1, if_neg hk.2.1, if_neg hk.2.2.1, if_neg hk.2.2.2] at h
        cases h
      · cases h
  · cases h

theorem lowOf_ofxhome (T : Tables) (lookup : Str → Option OhRec) (id : Option CfgVal) :
    lowOf T lookup id "ofxhome".toList = T.defaults.lookup "ofxhome".toList := by
  simp only [lowOf, firstSetter, ohRecord_lookup_ofxhome]
  cases T.defaults.lookup "ofxhome".toList <;> rfl

theorem loadLib_look (fidb : FileC) (s : Str) (k : Name) : (loadLib fidb).look s k = fileLookup fidb s k := by
  unfold loadLib
  rw [loadFile_look, empty_look, Option.or_none]

theorem strip_idem (s : Str) : strip (strip s) = strip s := strip_strip s

theorem kvsLookup_strip (kvs : List (Str × Str)) (k : Name) : (kvsLookup kvs k).map strip = kvsLookup kvs k := by
  induction kvs with
  | nil => rfl
  | cons kv rest ih =>
    simp only [kvsLookup]
    cases hr : kvsLookup rest k with
    | some x => rw [hr] at ih; simpa using ih
    | none =>
      simp only [Option.none_or]
      split
      · simp [strip_idem]
      · rfl

theorem fileLookup_strip (f : FileC) (s : Str) (k : Name) : (fileLookup f s k).map strip = fileLookup f s k := by
  induction f with
  | nil => rfl
  | cons sec rest ih =>
    simp only [fileLookup]
    cases hr : fileLookup rest s k with
    | some x => rw [hr] at ih; simpa using ih
    | none =>
      simp only [Option.none_or]
      split
      · exact kvsLookup_strip _ _
      · rfl

theorem reloadCfg_look_sect (mem : Ini) (user : FileC) (uuid s : Str) (hs : s ≠ defaultSect) (k : Name) :
    (reloadCfg mem user uuid).look s k = fileLookup user s k := by
  rw [reloadCfg_look, if_neg hs, if_neg (fun h => hs h.1), Option.or_none, Option.or_none]

theorem loadUser_default (fidb user : FileC) (k : Name) :
    (loadUser fidb user).defaults.lookup k = (fileLookup user defaultSect k).or (fileLookup fidb defaultSect k) := by
  rw [← look_default, loadUser, loadFile_look, loadFile_look, empty_look, Option.or_none]

theorem reloadCfg_look_default (fidb user : FileC) (uuid : Str) (k : Name) (hk : k ≠ "clientuid".toList) :
    (reloadCfg (loadUser fidb user) user uuid).defaults.lookup k =
      (fileLookup user defaultSect k).or (fileLookup fidb defaultSect k) := by
  rw [← look_default, reloadCfg_look, if_pos rfl, if_neg (fun h => hk h.2), Option.or_none, loadUser_default]
  cases fileLookup user defaultSect k <;> rfl

theorem map_strip_or (a b : Option Str) : (a.or b).map strip = (a.map strip).or (b.map strip) := by
  cases a <;> rfl

theorem fileLookup_no_section (f : FileC) (s : Str) (k : Name) (h : fileHasSection f s = false) :
    fileLookup f s k = none := by
  induction f with
  | nil => rfl
  | cons sec rest ih =>
    simp only [fileHasSection, List.any_cons, Bool.or_eq_false_iff] at h
    have hne : ¬ sec.1 = s := by simpa using h.1
    simp only [fileLookup, hne, if_false, Option.or_none]
    exact ih (by simpa [fileHasSection] using h.2)

theorem firstSetter_skip (a b o d : Map) (k : Name) (h : o.lookup k = none) :
    firstSetter [a, b, o, d] k = firstSetter [a, b, d] k := by
  simp only [firstSetter, h]

/-- the OFX Home id in effect is found above the OFX Home record (a record never sets `ofxhome`) -/
theorem effective_ofxhome {T : Tables} {lookup : Str → Option OhRec} {cli userCfg : Map} {c : Chain}
    (he : ∀ k, effective c k = firstSetter [cli, userCfg, ohSource lookup [cli, userCfg, T.defaults], T.defaults] k) :
    effective c "ofxhome".toList = Chain.get? [cli, userCfg, T.defaults] "ofxhome".toList := by
  rw [he, ohSource_eq_ohRecord, firstSetter_skip _ _ _ _ _ (ohRecord_lookup_ofxhome _ _), firstSetter_eq_get?]

/-- what a run under the nickname `s` has in effect for a CONFIGURABLE option its command line does not give.  `he`:
    the command-line source is `extractns ns`, no "URL as server" detour (from `--dryrun`, or from `serverNick`).
    Stated in the form of `keptReads_iff` and `savedReadsBack_iff`, which it meets in `C18_persist_iff`. -/
theorem run_reads (T : Tables) (lookup : Str → Option OhRec) (ns : Map) (fidb user : FileC) (c : Chain) (s : Str)
    (hs : s ≠ defaultSect) (hsrv : (extractns ns).lookup "server".toList = some (.str s)) (userCfg : Map)
    (hu : userCfgOf T (loadUser fidb user) (extractns ns) = .ok userCfg)
    (he : ∀ k, effective c k =
      firstSetter [extractns ns, userCfg, ohSource lookup [extractns ns, userCfg, T.defaults], T.defaults] k)
    (k : Name) (ty : CfgTy) (hty : T.configurable.lookup k = some ty) (hk : (extractns ns).lookup k = none)
    (v : CfgVal) :
    effective c k = some v ↔
      match filesSay fidb user s k with
      | some t => typedOfStr T ty t = .ok v
      | none => lowOf T lookup (effective c "ofxhome".toList) k = some v := by
  have hl := userCfg_lookup T fidb user s hs userCfg (userCfgOf_server T _ _ userCfg s hsrv hu) k ty hty
  split
  · rename_i t ht
    rw [ht] at hl
    obtain ⟨tv, htv, hlk⟩ := hl
    rw [he k, htv]
    simp only [firstSetter, hk, hlk, Option.some.injEq, Except.ok.injEq]
  · rename_i ht
    rw [ht] at hl
    rw [effective_ofxhome he, he k]
    simp only [firstSetter, hk, hl, lowOf, ohSource_eq_ohRecord]

/-- the next run, on the file the save produced -/
theorem rerun_effective (T : Tables) (hwf : T.WF = true) (hnd : (T.configurable.map (·.1)).Nodup)
    (lookup : Str → Option OhRec) (fidb : FileC) (cfg' : Ini) (hcanon : Canon cfg') (s : Str)
    (hs : s ≠ defaultSect) (hhas : cfg'.hasSection s = true)
    (k : Name) (ty : CfgTy) (hkt : (k, ty) ∈ T.configurable)
    (ns2 : Map) (c2 : Chain) (dr : CfgVal)
    (hsrv2 : (extractns ns2).lookup "server".toList = some (.str s))
    (hdry2 : (extractns ns2).lookup "dryrun".toList = some dr) (htd : truthy dr = true)
    (hk2 : (extractns ns2).lookup k = none)
    (h2 : mergeConfig T lookup ns2 (loadUser fidb cfg'.toFile) = .ok c2) (v : CfgVal) :
    effective c2 k = some v ↔
      match (((cfg'.look s k).map strip).or (fileLookup fidb s k)).or
          (((cfg'.look defaultSect k).map strip).or (fileLookup fidb defaultSect k)) with
      | some t => typedOfStr T ty t = .ok v
      | none => lowOf T lookup (effective c2 "ofxhome".toList) k = some v := by
  obtain ⟨userCfg, hu, he⟩ := mergeConfig_effective_dry T hwf lookup ns2 _ c2 dr hdry2 htd h2
  have := run_reads T lookup ns2 fidb cfg'.toFile c2 s hs hsrv2 userCfg hu he k ty (List.lookup_of_mem_nodup hnd hkt) hk2 v
  rwa [filesSay, fileHasSection_toFile _ _ hs, hhas, Bool.or_true, if_pos rfl, fileLookup_toFile cfg' hcanon,
    fileLookup_toFile cfg' hcanon] at this

theorem PersistOk_saved {T : Tables} {w : View} (h : saves w = true) :
    PersistOk T w = savedReadsBack T w.ty w.v := by
  rw [PersistOk, if_pos h]

theorem PersistOk_kept {T : Tables} {w : View} (h : saves w = false) : PersistOk T w = keptReads T w := by
  rw [PersistOk, h]
  rfl

theorem saves_null (w : View) (h : isNullArg w.v = true) : saves w = false := by
  simp [saves, h]

theorem savedReadsBack_iff {T : Tables} {ty : CfgTy} {v : CfgVal} {txt : Str} (h : arg2config ty v = .ok txt) :
    savedReadsBack T ty v = true ↔ typedOfStr T ty (strip txt) = .ok v := by
  rw [savedReadsBack, h]
  cases hr : typedOfStr T ty (strip txt) <;> simp [hr]

theorem savedReadsBack_str (T : Tables) (s : Str) : savedReadsBack T .str (.str s) = true ↔ strip s = s := by
  simp [savedReadsBack, arg2config, typedOfStr]

theorem savedReadsBack_int (T : Tables) (i : Int) : savedReadsBack T .int (.int i) = true := by
  simp [savedReadsBack, arg2config, pyStr, typedOfStr, pyInt_roundtrip]

theorem savedReadsBack_bool (T : Tables) (hb : T.BoolOk = true) (b : Bool) :
    savedReadsBack T .bool (.bool b) = true := by
  simp only [Tables.BoolOk, Bool.and_eq_true, beq_iff_eq] at hb
  have h1 : strip ['t', 'r', 'u', 'e'] = ['t', 'r', 'u', 'e'] := by decide
  have h2 : strip ['f', 'a', 'l', 's', 'e'] = ['f', 'a', 'l', 's', 'e'] := by decide
  have hb1 : pyBoolOfStr T ['t', 'r', 'u', 'e'] = some true := hb.1
  have hb2 : pyBoolOfStr T ['f', 'a', 'l', 's', 'e'] = some false := hb.2
  cases b
  · simp [savedReadsBack, arg2config, typedOfStr, h2, hb2]
  · simp [savedReadsBack, arg2config, typedOfStr, h1, hb1]

theorem savedReadsBack_list (T : Tables) (l : List Str) (hne : l ≠ []) (h : ∀ m ∈ l, CleanMember m) :
    savedReadsBack T .list (.list l) = true := by
  simp [savedReadsBack, arg2config, pyStr, typedOfStr, list_roundtrip l hne h]

theorem keptReads_iff (T : Tables) (w : View) :
    keptReads T w = true ↔
      match keptText w with
      | some t => typedOfStr T w.ty t = .ok w.v
      | none => w.low = some w.v := by
  unfold keptReads
  cases keptText w with
  | none => simp
  | some t => cases hr : typedOfStr T w.ty t <;> simp [hr]

/-- the bridge from the specification's `saves` to the test the write loop makes: it holds by unfolding because `viewOf`
    fills the view from the same `reloadCfg` state the loop tests against -/
theorem saves_viewOf (ns1 : Map) (fidb user : FileC) (uuid s : Str) (hs : s ≠ defaultSect) (k : Name) (ty : CfgTy)
    (v d : CfgVal) (libCfg : Map) (lowSave low : Option CfgVal) (g : Str)
    (hg : (reloadCfg (loadUser fidb user) user uuid).defaults.lookup "clientuid".toList = some g) :
    saves (viewOf ns1 fidb user uuid s k ty v ((libCfg.lookup k).getD d) lowSave low) =
      turnSaves (reloadCfg (loadUser fidb user) user uuid) libCfg s k v d g := by
  simp only [saves, uidSkip, stored, viewOf, turnSaves, hg, Ini.look, hs, if_false]

theorem keptText_viewOf (ns1 : Map) (fidb user : FileC) (uuid s : Str) (hs : s ≠ defaultSect) (k : Name) (ty : CfgTy)
    (v ld : CfgVal) (lowSave low : Option CfgVal) :
    keptText (viewOf ns1 fidb user uuid s k ty v ld lowSave low) =
      ((((reloadCfg (loadUser fidb user) user uuid).look s k).map strip).or (fileLookup fidb s k)).or
        ((((reloadCfg (loadUser fidb user) user uuid).look defaultSect k).map strip).or
          (fileLookup fidb defaultSect k)) := by
  rw [← loadLib_look, ← loadLib_look]
  simp only [keptText, viewOf, Ini.look, hs, if_false, if_true]

theorem splitOn_go_length (sep : Char) (cur s : Str) : (splitOn.go sep cur s).length = s.count sep + 1 := by
  induction s generalizing cur with
  | nil => simp [splitOn.go]
  | cons c cs ih =>
    by_cases hc : c = sep
    · subst hc
      simp [splitOn.go, ih]
    · have hb : (c == sep) = false := beq_false_of_ne hc
      simp [splitOn.go, hc, ih]

theorem convertList_length (t : Str) : (convertList t).length = t.count ',' + 1 := by
  simp only [convertList, splitOn, List.length_map, splitOn_go_length]

theorem count_dropWhile (p : Char → Bool) (a : Char) (ha : p a = false) (s : Str) :
    (s.dropWhile p).count a = s.count a := by
  induction s with
  | nil => rfl
  | cons c cs ih =>
    by_cases hc : p c = true
    · have hne : (c == a) = false := by
        simp only [beq_eq_false_iff_ne, ne_eq]
        intro e; rw [e, ha] at hc; cases hc
      simp [hc, ih, List.count_cons, hne]
    · simp [hc]

theorem count_lstrip (a : Char) (ha : isSpace a = false) (s : Str) : (lstrip s).count a = s.count a := by
  rw [lstrip_eq_dropWhile]
  exact count_dropWhile isSpace a ha s

theorem count_strip (a : Char) (ha : isSpace a = false) (s : Str) : (strip s).count a = s.count a := by
  simp [strip, rstrip, List.count_reverse, count_lstrip a ha]

theorem count_stripChars (chars : List Char) (a : Char) (ha : chars.contains a = false) (s : Str) :
    (stripChars chars s).count a = s.count a := by
  simp [stripChars, List.count_reverse, count_dropWhile _ a ha]

theorem count_writeList (s : Str) : (writeList s).count ',' = s.count ',' := by
  unfold writeList
  have : "'".toList = ['\''] := rfl
  rw [this, replace_single_nil, List.count_filter (by decide), count_stripChars _ _ (by decide)]

theorem count_flatMap_ge (f : Char → Str) (a : Char) (h : 1 ≤ (f a).count a) (s : Str) :
    s.count a ≤ (s.flatMap f).count a := by
  induction s with
  | nil => simp
  | cons c cs ih =>
    simp only [List.flatMap_cons, List.count_append, List.count_cons]
    by_cases hc : c = a
    · subst hc; simp; omega
    · have : (c == a) = false := beq_false_of_ne hc
      simp [this]; omega

/-- the escaping `repr` applies to one character inside quotes `q`: a copy of the local `esc` of `pyReprStr`, which must
    stay the same term, since `pyReprStr_eq` below is `rfl` -/
def reprEsc (q c : Char) : Str :=
  if c = '\\' then ['\\', '\\']
  else if c = q then ['\\', q]
  else if c = '\t' then ['\\', 't']
  else if c = '\n' then ['\\', 'n']
  else if c = '\r' then ['\\', 'r']
  else if c.toNat < 32 || c.toNat = 127 then '\\' :: 'x' :: [hexDigit (c.toNat / 16), hexDigit (c.toNat % 16)]
  else [c]

theorem pyReprStr_eq (s : Str) (q : Char) (hq : q = if s.contains '\'' && !s.contains '"' then '"' else '\'') :
    pyReprStr s = q :: (s.flatMap (reprEsc q) ++ [q]) := by
  subst hq
  rfl

theorem count_pyReprStr_ge (m : Str) : m.count ',' ≤ (pyReprStr m).count ',' := by
  by_cases hq : (m.contains '\'' && !m.contains '"') = true
  · rw [pyReprStr_eq m '"' (by simp only [hq, if_true])]
    have := count_flatMap_ge (reprEsc '"') ',' (by decide) m
    simp only [List.count_cons, List.count_append]
    omega
  · have hqf : (m.contains '\'' && !m.contains '"') = false := Bool.eq_false_iff.mpr hq
    rw [pyReprStr_eq m '\'' (by rw [hqf]; rfl)]
    have := count_flatMap_ge (reprEsc '\'') ',' (by decide) m
    simp only [List.count_cons, List.count_append]
    omega

theorem count_join_comma (xs : List Str) :
    xs.length ≤ (join ", ".toList xs).count ',' + 1 ∧
    ((∃ m ∈ xs, 1 ≤ m.count ',') → xs.length ≤ (join ", ".toList xs).count ',') := by
  induction xs with
  | nil => simp [join]
  | cons p ps ih =>
    cases ps with
    | nil =>
      simp only [join, List.length_cons, List.length_nil]
      refine ⟨by omega, ?_⟩
      rintro ⟨m, hm, hc⟩
      simp only [List.mem_singleton] at hm
      subst hm
      omega
    | cons r rest =>
      have hsep : (", ".toList).count ',' = 1 := by decide
      simp only [join, List.count_append, hsep, List.length_cons] at ih ⊢
      refine ⟨by omega, ?_⟩
      rintro ⟨m, hm, hc⟩
      rcases List.mem_cons.mp hm with e | e
      · subst e; omega
      · have := ih.2 ⟨m, e, hc⟩
        omega

theorem count_saved_list (l : List Str) (h : ∃ m ∈ l, ',' ∈ m) :
    l.length ≤ (strip (writeList (pyStrList l))).count ',' := by
  rw [count_strip ',' (by decide), count_writeList]
  unfold pyStrList
  simp only [List.count_cons, List.count_append]
  have hj := (count_join_comma (l.map pyReprStr)).2 (by
    obtain ⟨m, hm, hc⟩ := h
    refine ⟨pyReprStr m, List.mem_map_of_mem hm, ?_⟩
    have h1 : 1 ≤ m.count ',' := List.count_pos_iff.mpr hc
    exact Nat.le_trans h1 (count_pyReprStr_ge m))
  simp only [List.length_map] at hj
  omega

theorem savedReadsBack_list_comma (T : Tables) (l : List Str) (h : ∃ m ∈ l, ',' ∈ m) :
    savedReadsBack T .list (.list l) = false := by
  cases hr : savedReadsBack T .list (.list l) with
  | false => rfl
  | true =>
    exfalso
    simp only [savedReadsBack, arg2config, pyStr, typedOfStr, beq_iff_eq, CfgVal.list.injEq] at hr
    have hlen := convertList_length (strip (writeList (pyStrList l)))
    rw [hr] at hlen
    have := count_saved_list l h
    omega

end Ofx.Ofxget
