/-
Lemmas about `Ofx.Builder`: `_groomstring` on padded data, and the effect of one regex match of each
shape on the builder state.
-/
import OfxModel.Ofx.Builder
import OfxModel.Spec.Renders
import OfxProofs.Lemmas.Lexer
import OfxProofs.Lemmas.Str
import OfxProofs.Lemmas.PyM

namespace Ofx.Builder
open Ofx Ofx.Lexer Ofx.Spec

theorem ws_iff (w : Str) : ws w = true ↔ ∀ c ∈ w, isSpace c = true := by simp [ws]

theorem strip_of_trimmed {d : Str} (ht : trimmed d = true) : strip d = d := by
  rw [strip_eq_self_iff]
  unfold trimmed at ht
  cases h1 : d.head? <;> cases h2 : d.getLast? <;> simp_all

theorem strip_pad (w1 d w2 : Str) (h1 : ws w1 = true) (h2 : ws w2 = true) (ht : trimmed d = true) :
    strip (w1 ++ (d ++ w2)) = d :=
  strip_pad_of_space ((ws_iff w1).mp h1) ((ws_iff w2).mp h2) (strip_of_trimmed ht)

theorem groom_pad (w1 d w2 : Str) (h1 : ws w1 = true) (h2 : ws w2 = true) (hne : d ≠ []) (ht : trimmed d = true) :
    groom (optStr (w1 ++ (d ++ w2))) = some d := by
  have hs := strip_pad w1 d w2 h1 h2 ht
  cases hx : w1 ++ (d ++ w2) with
  | nil =>
    obtain ⟨-, h⟩ := List.append_eq_nil_iff.mp hx
    exact absurd (List.append_eq_nil_iff.mp h).1 hne
  | cons c cs =>
    rw [hx] at hs
    simp only [optStr, groom, hs]

theorem truthy_groom (o : Option Str) : truthy (groom o) = !blank o := by
  cases o with
  | none => rfl
  | some x =>
    by_cases hb : x.all isSpace = true
    · have : strip x = [] := (strip_eq_nil_iff x).2 ((ws_iff x).1 hb)
      simp [groom, this, truthy, blank, hb]
    · have hb' : x.all isSpace = false := by simpa using hb
      obtain ⟨c, hc, hs⟩ : ∃ c, c ∈ x ∧ isSpace c = false := by
        simp only [List.all_eq_false] at hb'
        obtain ⟨c, hc, h⟩ := hb'
        exact ⟨c, hc, by simpa using h⟩
      have hne := strip_ne_nil_of_mem x c hc hs
      simp only [groom, blank, hb']
      cases h : strip x with
      | nil => exact absurd h hne
      | cons a as => rfl

theorem not_blank_optStr {x : Str} {c : Char} (hc : c ∈ x) (hs : isSpace c = false) : blank (optStr x) = false := by
  cases x with
  | nil => cases hc
  | cons a as =>
    simp only [optStr, blank, List.all_eq_false]
    exact ⟨c, hc, by simp [hs]⟩

/-! `St.emit`, `St.closed` and `St.push` are not part of the model: they name what its `St.start` / `St.end_` do to a state. -/

def St.emit (t : Tree) (st : St) : St :=
  match st.stack with
  | [] => { st with root := some t }
  | f :: fs => { st with stack := f.add t :: fs }

/-- the root is complete: a start tag is refused here (`St.start` answers the TreeBuilder's "multiple elements on top
    level") -/
def St.closed (st : St) : Bool := st.stack.isEmpty && st.root.isSome

abbrev St.CanStart (st : St) : Prop := st.closed = false

theorem canStart_of_stack {st : St} (h : st.stack ≠ []) : st.CanStart := by
  obtain ⟨stack, root⟩ := st
  cases stack with
  | nil => exact absurd rfl h
  | cons _ _ => rfl

def St.push (tag : Str) (st : St) : St := { st with stack := ⟨tag, none, []⟩ :: st.stack }

theorem end_push (tag : Str) (tx : Option Str) (cs : List Tree) (st : St) :
    St.end_ tag { st with stack := ⟨tag, tx, cs⟩ :: st.stack } = .ok (st.emit (.node tag tx none cs)) := by
  obtain ⟨stack, root⟩ := st
  cases stack with
  | nil => simp [St.end_, St.emit, Frame.toTree]
  | cons f fs => simp [St.end_, St.emit, Frame.toTree]

theorem tagOk_cons {t : Str} (h : tagOk t = true) : ∃ c cs, t = c :: cs ∧ c ≠ '/' ∧ ∀ x ∈ c :: cs, isNameChar x = true := by
  simp only [tagOk, Bool.and_eq_true, List.all_eq_true] at h
  cases t with
  | nil => simp at h
  | cons c cs => exact ⟨c, cs, rfl, name_ne_slash (h.2 c (by simp)), h.2⟩

theorem isEndTag_cons_ne (c : Char) (cs : Str) (h : c ≠ '/') : isEndTag (c :: cs) = false := by
  unfold isEndTag
  split
  · rename_i heq; cases heq; exact absurd rfl h
  · rfl

theorem start_eq (tag : Str) (st : St) :
    st.start tag = if st.closed = true then .error .parse else .ok (st.push tag) := by
  obtain ⟨stack, root⟩ := st
  cases stack <;> cases root <;> rfl

/-- the element data of a match, as `feed` computes it -/
def dataOf (m : Match) : Option Str := if truthy m.cdata = true then m.cdata else groom m.text

theorem endName_cons_ne (c : Char) (cs : Str) (h : c ≠ '/') : endName (c :: cs) = none := by
  unfold endName
  split
  · rename_i heq; cases heq; exact absurd rfl h
  · rfl

theorem startElem_eq (tag : Str) (d ct : Option Str) (st : St) :
    startElem tag d ct st =
      if st.closed = true then .error .parse
      else if truthy d = true then .ok (st.emit (.node tag d none []))
      else if truthy ct = true then .ok (st.emit (.node tag none none []))
      else .ok (st.push tag) := by
  unfold startElem
  rw [start_eq]
  cases st.closed with
  | true => rfl
  | false =>
    have e := end_push tag none [] st
    match d with
    | some (c :: cs) => simpa [St.push, St.data, truthy] using end_push tag (some (c :: cs)) [] st
    | some [] => cases truthy ct <;> simp [truthy] <;> exact e
    | none => cases truthy ct <;> simp [truthy] <;> exact e

theorem hasData_eq (m : Match) (hw : WfMatch m) : truthy (dataOf m) = hasData m := by
  obtain ⟨-, -, hc⟩ := hw
  unfold hasData dataOf
  rcases hc with h | ⟨h1, c, cs, h2⟩
  · rw [h]; exact truthy_groom m.text
  · simp [h1, h2, truthy, nonEmpty]

theorem step_eq (m : Match) (st : St) (hw : WfMatch m) :
    step m st =
      if blank m.tail = false then .error .parse
      else match endName m.tag with
        | some name => if hasData m = true then .error .parse else st.end_ name
        | none =>
          if st.closed = true then .error .parse
          else if hasData m = true then .ok (st.emit (.node m.tag (dataOf m) none []))
          else if m.closetag.isSome = true then .ok (st.emit (.node m.tag none none []))
          else .ok (st.push m.tag) := by
  have hd := hasData_eq m hw
  obtain ⟨htag, hclose, hc⟩ := hw
  obtain ⟨a, as, ha⟩ := List.exists_cons_of_ne_nil htag
  -- the two `assert`s hold
  have hassert : (truthy m.cdata && truthy (groom m.text)) = false := by
    rcases hc with h | ⟨h, -⟩ <;> simp [h, truthy, groom]
  have hcl : (m.closetag == none || m.closetag == some m.tag) = true ∧ truthy m.closetag = m.closetag.isSome := by
    rcases hclose with h | h <;> simp [h, ha, truthy]
  have hne : m.tag.isEmpty = false := by rw [ha]; rfl
  unfold step feedMatch
  rw [truthy_groom]
  cases blank m.tail with
  | false => rfl
  | true =>
    simp only [hassert, hcl.1, hne, Bool.not_true, Bool.false_eq_true, Bool.true_eq_false, if_false]
    rw [show (if truthy m.cdata = true then m.cdata else groom m.text) = dataOf m from rfl, startElem_eq, hd, hcl.2, ha]
    by_cases hs : a = '/'
    · subst hs; rfl
    · rw [isEndTag_cons_ne a as hs, endName_cons_ne a as hs]; rfl

theorem step_tail (m : Match) (st : St) (h : blank m.tail = false) : step m st = .error .parse := by
  unfold step
  rw [truthy_groom, h]
  rfl

theorem endName_name {t : Str} (ht : tagOk t = true) : endName t = none := by
  obtain ⟨c, cs, rfl, hne, -⟩ := tagOk_cons ht
  exact endName_cons_ne c cs hne

theorem tagOk_ne_nil {t : Str} (ht : tagOk t = true) : t ≠ [] := by
  obtain ⟨c, cs, rfl, -, -⟩ := tagOk_cons ht
  exact List.cons_ne_nil _ _

theorem step_start (m : Match) (st : St) (hw : WfMatch m) (ht : tagOk m.tag = true) (htail : blank m.tail = true)
    (hst : st.CanStart) :
    step m st =
      if hasData m = true then .ok (st.emit (.node m.tag (dataOf m) none []))
      else if m.closetag.isSome = true then .ok (st.emit (.node m.tag none none []))
      else .ok (st.push m.tag) := by
  rw [step_eq m st hw, htail, endName_name ht, hst]
  rfl

theorem blank_optStr {w : Str} (hw : ws w = true) : blank (optStr w) = true := by
  cases w <;> simp [optStr, blank, ws] at hw ⊢ <;> exact hw

theorem step_leaf (m : Match) (st : St) (d : Str) (hw : WfMatch m) (ht : tagOk m.tag = true) (htail : blank m.tail = true)
    (hd : dataOf m = some d) (hne : d ≠ []) (hst : st.CanStart) : step m st = .ok (st.emit (Tree.leaf m.tag d)) := by
  have : hasData m = true := by
    rw [← hasData_eq m hw, hd]
    cases d with
    | nil => exact absurd rfl hne
    | cons _ _ => rfl
  rw [step_start m st hw ht htail hst, this, hd]
  rfl

theorem dataOf_cdata {d : Str} (hne : d ≠ []) (t : Str) (tx ct tl : Option Str) (n : Nat) :
    dataOf ⟨t, some d, tx, ct, tl, n⟩ = some d := by
  cases d with
  | nil => exact absurd rfl hne
  | cons _ _ => rfl

theorem wf_cdata {t d : Str} (ht : t ≠ []) (hd : d ≠ []) {ct : Option Str} (hc : ct = none ∨ ct = some t)
    (tl : Option Str) (n : Nat) : WfMatch ⟨t, some d, none, ct, tl, n⟩ := by
  obtain ⟨c, cs, rfl⟩ := List.exists_cons_of_ne_nil hd
  exact ⟨ht, hc, Or.inr ⟨rfl, c, cs, rfl⟩⟩

theorem step_open (t : Str) (text : Option Str) (len : Nat) (st : St) (ht : tagOk t = true)
    (htext : blank text = true) (hst : st.CanStart) :
    step ⟨t, none, text, none, none, len⟩ st = .ok (st.push t) := by
  rw [step_start _ st ⟨tagOk_ne_nil ht, Or.inl rfl, Or.inl rfl⟩ ht rfl hst]
  simp [hasData, nonEmpty, htext]

/-- `<T> ws </T> x`: what follows is the match's `tail` -/
theorem step_empty (t : Str) (text tail : Option Str) (len : Nat) (st : St) (ht : tagOk t = true)
    (htext : blank text = true) (hst : st.CanStart) :
    step ⟨t, none, text, some t, tail, len⟩ st =
      if blank tail = true then .ok (st.emit (Tree.agg t [])) else .error .parse := by
  cases htl : blank tail with
  | false => exact step_tail _ st htl
  | true =>
    rw [step_start _ st ⟨tagOk_ne_nil ht, Or.inr rfl, Or.inl rfl⟩ ht htl hst]
    simp [hasData, nonEmpty, htext, Tree.agg]

/-- `</NAME> x`: what follows is the match's `text` -/
theorem step_end (name : Str) (text : Option Str) (len : Nat) (st : St) :
    step ⟨'/' :: name, none, text, none, none, len⟩ st =
      if blank text = true then st.end_ name else .error .parse := by
  rw [step_eq _ st ⟨by simp, Or.inl rfl, Or.inl rfl⟩]
  cases h : blank text <;> simp [endName, hasData, nonEmpty, h, show blank none = true from rfl]

theorem step_done (m : Match) (root : Tree) (hw : WfMatch m) : step m ⟨[], some root⟩ = .error .parse := by
  rw [step_eq m _ hw]
  cases blank m.tail <;> cases endName m.tag <;> cases hasData m <;> rfl

end Ofx.Builder
