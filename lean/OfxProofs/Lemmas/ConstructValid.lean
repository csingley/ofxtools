/-
Where the instances the aggregate round trip speaks of (`Valid`, Lemmas/NodeRT.lean) come from: an instance returned
by `Agg.construct` (= `Cls(*args, **kwargs)`) is `Valid`, given the class-level premises of the round trip (`ClsAny`:
concrete, found by its own name, `ClsWF`, `GroomOk`; `ClsPlain`: moreover no `ElementList` and no rename):
`construct_valid_any` (used by Props/C01Constructed.lean and Lemmas/ComposeMade.lean) and its special case
`construct_valid` (used by Lemmas/Compose.lean).
-/
import OfxProofs.Lemmas.NodeRT
import OfxProofs.Props.C04

namespace Ofx.Agg
open Ofx

section
variable (S : Schema) (cv : Conv) (esc : Str → Str) (Dom : Kind → Bool → Val → Prop)

structure ClsAny (c : Cls) (ci : Nat) : Prop where
  hc : S.cls? ci = some c
  concrete : c.abstract = false
  hfind : S.findIdx? c.name = some ci
  wf : ClsWF S c
  gr : GroomOk c

structure ClsPlain (c : Cls) (ci : Nat) : Prop where
  hc : S.cls? ci = some c
  concrete : c.abstract = false
  hfind : S.findIdx? c.name = some ci
  wf : ClsWF S c
  hel : c.elementList = false
  hg : c.groom = none
  hug : c.ungroom = none

theorem validFields_of_match : ∀ {L : List Attr} {fs : List (Str × Node)},
    FieldsMatch (fun _ v => v.isAgg = true → Valid S cv esc Dom v) L fs → ValidFields S cv esc Dom fs := by
  intro L fs h
  induction h with
  | nil => simp [ValidFields]
  | unsup b L fs hb _ ih => exact ih
  | field b v L fs hb hp _ ih => exact ⟨hp, ih⟩

theorem validItems_of_forall : ∀ (items : List Node), (∀ m ∈ items, Valid S cv esc Dom m) →
    ValidItems S cv esc Dom items
  | [], _ => by simp [ValidItems]
  | m :: r, h => ⟨fun _ => h m (by simp), validItems_of_forall r (fun x hx => h x (List.mem_cons_of_mem _ hx))⟩

theorem validItems_of_vals : ∀ (items : List Node), (∀ m ∈ items, m.isAgg = false) →
    ValidItems S cv esc Dom items
  | [], _ => by simp [ValidItems]
  | m :: r, h => ⟨fun hagg => (by rw [h m (by simp)] at hagg; cases hagg),
      validItems_of_vals r (fun x hx => h x (List.mem_cons_of_mem _ hx))⟩

theorem construct_valid_any {c : Cls} {ci : Nat} (hp : ClsAny S c ci) {args : List Node} {kw : List (Str × Node)}
    {n : Node} (h : construct S cv ci args kw = .ok n)
    (hfield : ∀ a ∈ specNoList c, a.kind.isUnsupported = false → ∀ v,
      setAttr S cv a ((lookup a.name kw).getD (.val .none)) = .ok (some v) →
      FieldOk Dom a v ∧ (v.isAgg = true → Valid S cv esc Dom v))
    (hargs : c.elementList = false → ∀ m ∈ args, Valid S cv esc Dom m ∧
      ∃ cj f i cjc, m = .agg cj f i ∧ S.cls? cj = some cjc ∧ '.' ∉ cjc.name)
    (hargsEl : c.elementList = true → ∀ a ∈ c.spec, ∀ inner ireq, a.kind = .listElem inner ireq →
      ∀ m ∈ args, ∀ x, cv.convert S.enums inner ireq (Node.toVal m) = .ok x → x ≠ .none ∧ Dom inner ireq x)
    (hvalidate : ∀ fields items, setAttrs S cv (specNoList c) kw = .ok fields → applyArgs S cv c args = .ok items →
      validateArgs S c (rawItemsOf S cv esc c items) (rawKwOf S cv esc fields c.spec) = .ok ()) :
    Valid S cv esc Dom n := by
  obtain ⟨c', fields, items, hc', _, hs, ha, _, rfl⟩ := (construct_ok_iff S cv ci args kw n).mp h
  rw [hp.hc] at hc'; injection hc' with hc'; subst hc'
  have hfm := setAttrs_specNoList_fieldsMatch hs
  have hfm' := hfm.withLookup (specNoList_nodup c hp.wf.nodup)
  have hboth : FieldsMatch (fun a v => FieldOk Dom a v ∧ (v.isAgg = true → Valid S cv esc Dom v))
      (specNoList c) fields :=
    hfm'.imp (fun a ha v hv => hfield a ha hv.2.1 v hv.1)
  have hval := hvalidate fields items hs ha
  cases hel : c.elementList with
  | false =>
    obtain ⟨rfl, hmem⟩ := (applyArgs_ok ha).2.1 hel
    have hex : ∀ m ∈ items, ∃ cj f i cjc, m = .agg cj f i ∧ S.cls? cj = some cjc ∧
        (listAggNames c).contains (lower cjc.name) = true ∧ '.' ∉ cjc.name := by
      intro m hm
      obtain ⟨_, cj, f, i, cjc, rfl, hcj, hdot⟩ := hargs hel m hm
      obtain ⟨_, _, _, he, hcon⟩ := hmem _ hm
      injection he with he; subst he
      simp only [clsName, hcj] at hcon
      exact ⟨cj, f, i, cjc, rfl, hcj, hcon, hdot⟩
    refine ⟨⟨c, ?_⟩, ?_, ?_⟩
    · refine ⟨hp.hc, hp.concrete, hp.hfind, hp.wf, hp.gr,
        hboth.imp (fun _ _ _ hv => hv.1), fun _ => hex, (fun h => by rw [hel] at h; cases h), ?_, hval⟩
      intro hno
      cases items with
      | nil => rfl
      | cons m r =>
        obtain ⟨_, _, _, cjc, _, _, hcon, _⟩ := hex m (by simp)
        have hmem : lower cjc.name ∈ listAggNames c := by simpa using hcon
        simp only [listAggNames, hel, Bool.false_eq_true, if_false, List.mem_map, List.mem_filter] at hmem
        obtain ⟨a, ⟨ha, hk⟩, _⟩ := hmem
        exact absurd (Kind.isList_of_isListAgg hk) (by simpa using List.any_eq_false.mp hno a ha)
    · exact validFields_of_match S cv esc Dom (hboth.imp (fun _ _ _ hv => hv.2))
    · exact validItems_of_forall S cv esc Dom items (fun m hm => (hargs hel m hm).1)
  | true =>
    obtain ⟨a0, inner, ireq, hfilt, hk0, hmem⟩ := (applyArgs_ok ha).2.2 hel
    obtain ⟨a1, _, _, hfilt1, _, honly⟩ := hp.wf.elOk hel
    obtain rfl : a0 = a1 := by rw [hfilt] at hfilt1; injection hfilt1
    have ha0 : a0 ∈ c.spec := by
      have : a0 ∈ c.spec.filter (fun a => a.kind.isListElem) := by rw [hfilt]; simp
      exact (List.mem_filter.mp this).1
    refine ⟨⟨c, ?_⟩, ?_, ?_⟩
    · refine ⟨hp.hc, hp.concrete, hp.hfind, hp.wf, hp.gr,
        hboth.imp (fun _ _ _ hv => hv.1), (fun h => by rw [hel] at h; cases h), ?_, ?_, hval⟩
      · intro _ a ha inner' ireq' hk m hm
        have haeq : a = a0 := honly a ha (by rw [hk]; rfl)
        subst haeq
        rw [hk0] at hk; injection hk with hk1 hk2; subst hk1; subst hk2
        obtain ⟨r, hr, x, hx, rfl⟩ := hmem m hm
        obtain ⟨h1, h2⟩ := hargsEl hel a ha inner ireq hk0 r hr x hx
        exact ⟨x, rfl, h1, h2⟩
      · intro hno
        have hall := List.any_eq_false.mp hno a0 ha0
        rw [hk0] at hall
        exact absurd rfl hall
    · exact validFields_of_match S cv esc Dom (hboth.imp (fun _ _ _ hv => hv.2))
    · refine validItems_of_vals S cv esc Dom items (fun m hm => ?_)
      obtain ⟨_, _, x, _, rfl⟩ := hmem m hm
      rfl

theorem construct_valid {c : Cls} {ci : Nat} (hp : ClsPlain S c ci) {args : List Node} {kw : List (Str × Node)}
    {n : Node} (h : construct S cv ci args kw = .ok n)
    (hfield : ∀ a ∈ specNoList c, a.kind.isUnsupported = false → ∀ v,
      setAttr S cv a ((lookup a.name kw).getD (.val .none)) = .ok (some v) →
      FieldOk Dom a v ∧ (v.isAgg = true → Valid S cv esc Dom v))
    (hargs : ∀ m ∈ args, Valid S cv esc Dom m ∧
      ∃ cj f i cjc, m = .agg cj f i ∧ S.cls? cj = some cjc ∧ '.' ∉ cjc.name)
    (hvalidate : ∀ fields, setAttrs S cv (specNoList c) kw = .ok fields →
      validateArgs S c args (rawKwOf S cv esc fields c.spec) = .ok ()) :
    Valid S cv esc Dom n := by
  refine construct_valid_any S cv esc Dom ⟨hp.hc, hp.concrete, hp.hfind, hp.wf, Or.inl ⟨hp.hg, hp.hug⟩⟩ h hfield
    (fun _ => hargs) (fun hel => by rw [hp.hel] at hel; cases hel) ?_
  intro fields items hs ha
  rw [rawItemsOf_plain S cv esc c items hp.hel, ((applyArgs_ok ha).2.1 hp.hel).1]
  exact hvalidate fields hs

end
end Ofx.Agg
