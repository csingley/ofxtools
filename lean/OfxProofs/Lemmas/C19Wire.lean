/-
Lemmas for `Props/C19Wire.lean`: the typed request lists its statements name (`wireStmt`, `wireStmtend`, `reqKey`);
`OfxgetWire.stmtBytes` / `stmtendBytes`, as one function of the command, taken apart
(which `Cfg`, password, dates and typed request list reach `Compose.requestStatements`); how the `OFXClient` attributes
follow from the mapping; what `DateTime().convert` makes of a date text of the notation (from C09); the wrappers of each
kind in an instance that satisfies `RequestSpec`, counted.
-/
import OfxModel.Ofx.OfxgetWire
import OfxProofs.Lemmas.OfxgetAll
import OfxProofs.Props.C09
import OfxProofs.Lemmas.Compose

namespace Ofx.OfxgetWire
open Ofx Ofx.Ofxget Ofx.Compose Ofx.Spec.Ofxget

/-- `ofxget stmt`: one typed request per configured account; the account type is the upper-cased option name -/
def wireStmt (a : Accounts) (ds de da : Option DT) (t oo pos bal : Option Bool) : List Req :=
  a.checking.map (fun id => Req.stmt (some id) (some "CHECKING".toList) ds de t) ++
  a.savings.map (fun id => Req.stmt (some id) (some "SAVINGS".toList) ds de t) ++
  a.moneymrkt.map (fun id => Req.stmt (some id) (some "MONEYMRKT".toList) ds de t) ++
  a.creditline.map (fun id => Req.stmt (some id) (some "CREDITLINE".toList) ds de t) ++
  a.creditcard.map (fun id => Req.ccStmt (some id) ds de t) ++
  a.investment.map (fun id => Req.invStmt (some id) ds de da t oo pos bal)

/-- `ofxget stmtend`: bank and credit-card accounts only -/
def wireStmtend (a : Accounts) (ds de : Option DT) : List Req :=
  a.checking.map (fun id => Req.stmtEnd (some id) (some "CHECKING".toList) ds de) ++
  a.savings.map (fun id => Req.stmtEnd (some id) (some "SAVINGS".toList) ds de) ++
  a.moneymrkt.map (fun id => Req.stmtEnd (some id) (some "MONEYMRKT".toList) ds de) ++
  a.creditline.map (fun id => Req.stmtEnd (some id) (some "CREDITLINE".toList) ds de) ++
  a.creditcard.map (fun id => Req.ccStmtEnd (some id) ds de)

def _root_.Ofx.Spec.Ofxget.Accounts.ids (a : Accounts) : List Str :=
  a.checking ++ a.savings ++ a.moneymrkt ++ a.creditline ++ a.creditcard ++ a.investment

theorem wireStmt_length (a : Accounts) (ds de da : Option DT) (t oo pos bal : Option Bool) :
    (wireStmt a ds de da t oo pos bal).length = a.ids.length := by
  simp [wireStmt, Accounts.ids]

theorem toReqs_append (l₁ l₂ : List (Rq DT)) (r₁ r₂ : List Req) (h₁ : toReqs l₁ = .ok r₁) (h₂ : toReqs l₂ = .ok r₂) :
    toReqs (l₁ ++ l₂) = .ok (r₁ ++ r₂) := by
  unfold toReqs at *
  rw [List.mapM_append, h₁, h₂]
  rfl

theorem toReqs_map (ids : List Str) (f : Str → Rq DT) (g : Str → Req) (h : ∀ id, toReq (f id) = .ok (g id)) :
    toReqs (ids.map f) = .ok (ids.map g) := by
  unfold toReqs
  induction ids with
  | nil => rfl
  | cons id ids ih => simp [List.mapM_cons, ih, h id]

theorem toReqs_specStmt (a : Accounts) (ds de da : Option DT) (t oo pos bal : CfgVal) (tb oob posb balb : Option Bool)
    (ht : optBoolArg t = .ok tb) (hoo : optBoolArg oo = .ok oob) (hpos : optBoolArg pos = .ok posb)
    (hbal : optBoolArg bal = .ok balb) :
    toReqs (specStmt a ⟨ds, de, da, t, oo, pos, bal⟩) = .ok (wireStmt a ds de da tb oob posb balb) := by
  unfold specStmt wireStmt bankStmts
  refine toReqs_append _ _ _ _ (toReqs_append _ _ _ _ (toReqs_append _ _ _ _ (toReqs_append _ _ _ _
    (toReqs_append _ _ _ _ ?_ ?_) ?_) ?_) ?_) ?_
  all_goals
    apply toReqs_map
    intro id
    simp [toReq, ht, hoo, hpos, hbal]

theorem toReqs_specStmtend (a : Accounts) (ds de da : Option DT) (t oo pos bal : CfgVal) :
    toReqs (specStmtend a ⟨ds, de, da, t, oo, pos, bal⟩) = .ok (wireStmtend a ds de) := by
  unfold specStmtend wireStmtend bankStmtends
  refine toReqs_append _ _ _ _ (toReqs_append _ _ _ _ (toReqs_append _ _ _ _ (toReqs_append _ _ _ _ ?_ ?_) ?_) ?_) ?_
  all_goals
    apply toReqs_map
    intro id
    simp [toReq]

theorem planBytes_ok {S : Schema} {cv : Conv} {env : Compose.Env} {plan : Plan DT} {pw : Str} {x : Ext} {text : Str}
    (h : planBytes S cv env plan pw x = .ok text) :
    ∃ cfg nonew reqs, clientOfKw plan.client = .ok cfg ∧ plan.args.getItem "nonewfileuid".toList = .ok nonew ∧
      toReqs plan.requests = .ok reqs ∧
      requestBytes S cv env cfg pw reqs (!truthy nonew) x.uuid x.dtclient = .ok text := by
  unfold planBytes at h
  obtain ⟨cfg, hcfg, h⟩ := PyM.bind_ok h
  obtain ⟨_, _, h⟩ := PyM.bind_ok h
  obtain ⟨nonew, hnonew, h⟩ := PyM.bind_ok h
  obtain ⟨_, _, h⟩ := PyM.bind_ok h
  obtain ⟨reqs, hreqs, h⟩ := PyM.bind_ok h
  exact ⟨cfg, nonew, reqs, hcfg, hnonew, hreqs, h⟩

/-- `stmtBytes` / `stmtendBytes` with the command as a parameter: they differ in nothing else -/
def bytesWith (run : (Option Str → PyM (Option DT)) → Chain → PyM (List AcctInfo) → PyM (Plan DT))
    (S : Schema) (cv : Conv) (env : Compose.Env) (args : Chain) (x : Ext) : PyM Str := do
  let _ ← convertDatetime dateConvert args
  let pw ← getPasswd args x.typed
  let plan ← run dateConvert args x.acct
  planBytes S cv env plan pw x

theorem stmtBytes_eq : @stmtBytes = bytesWith requestStmt := rfl

theorem stmtendBytes_eq : @stmtendBytes = bytesWith requestStmtend := rfl

theorem bytesWith_ok {S : Schema} {cv : Conv} {env : Compose.Env} {loops : Dates DT → Chain → PyM (List (Rq DT))}
    {args : Chain} {x : Ext} {text : Str} (h : bytesWith (requestWith loops) S cv env args x = .ok text) :
    ∃ pw plan dt cfg nonew reqs, getPasswd args x.typed = .ok pw ∧
      requestWith loops dateConvert args x.acct = .ok plan ∧ convertDatetime dateConvert args = .ok dt ∧
      loops dt plan.args = .ok plan.requests ∧ clientCfg plan.args = .ok cfg ∧
      plan.args.getItem "nonewfileuid".toList = .ok nonew ∧ toReqs plan.requests = .ok reqs ∧
      requestBytes S cv env cfg pw reqs (!truthy nonew) x.uuid x.dtclient = .ok text := by
  unfold bytesWith at h
  obtain ⟨_, _, h⟩ := PyM.bind_ok h
  obtain ⟨pw, hpw, h⟩ := PyM.bind_ok h
  obtain ⟨plan, hplan, h⟩ := PyM.bind_ok h
  obtain ⟨cfg, nonew, reqs, hcfg, hnonew, hreqs, hb⟩ := planBytes_ok h
  obtain ⟨dt, hdt, _, hrqs, hcl⟩ := requestWith_ok hplan
  refine ⟨pw, plan, dt, cfg, nonew, reqs, hpw, hplan, hdt, hrqs, ?_, hnonew, hreqs, hb⟩
  simp [clientCfg, hcl, hcfg]

theorem bytes_configured {S : Schema} {cv : Conv} {env : Compose.Env} {closing : Bool} {args : Chain} {x : Ext}
    {v : CfgVal} (hall : args.get? "all".toList = some v) (hnot : truthy v = false) {cfg : Cfg} {pw : Str}
    {dt : Dates DT} (hcfg : clientCfg args = .ok cfg) (hpw : getPasswd args x.typed = .ok pw)
    (hdt : convertDatetime dateConvert args = .ok dt) {text : Str}
    (h : bytesWith (requestWith (loopsOf closing)) S cv env args x = .ok text) :
    ∃ nonew reqs, toReqs (specOf closing (accountsOf args) (optsOf dt args)) = .ok reqs ∧
      requestBytes S cv env cfg pw reqs (!truthy nonew) x.uuid x.dtclient = .ok text := by
  obtain ⟨pw', plan, dt', cfg', nonew, reqs, hpw', hplan, hdt', -, hcfg', -, hreqs, hb⟩ := bytesWith_ok h
  obtain ⟨dt'', hdt'', hrq, -, hargs⟩ := plan_configured hall hnot hplan
  rw [hargs] at hcfg'
  cases hcfg.symm.trans hcfg'
  cases hpw.symm.trans hpw'
  cases hdt.symm.trans hdt'
  cases hdt.symm.trans hdt''
  rw [hrq] at hreqs
  exact ⟨nonew, reqs, hreqs, hb⟩

theorem ok_bind {α β : Type} (a : α) (f : α → PyM β) : ((Except.ok a : PyM α) >>= f) = f a := PyM.ok_bind a f

theorem kwGet_of_lookup {m : Map} {k : String} {v : CfgVal} (h : m.lookup k.toList = some v) : kwGet m k = .ok v := by
  rw [kwGet, h]; rfl

theorem clientArgs_kwOf (url user clientuid org fid version appid appver language pretty unclosed bankid brokerid
    useragent : CfgVal) (a : InitArgs)
    (h : clientArgs (kwOf url user clientuid org fid version appid appver language pretty unclosed bankid brokerid
      useragent) = .ok a) :
    optStrArg (Ofxget.orNone bankid) = .ok a.bankid ∧ optStrArg (Ofxget.orNone brokerid) = .ok a.brokerid ∧
      a.closeElements = some (!truthy unclosed) ∧ optVersionArg version = .ok a.version ∧
      optBoolArg pretty = .ok a.prettyprint := by
  obtain ⟨e1, e2, e3, e4, e5⟩ := kwOf_lookups url user clientuid org fid version appid appver language pretty unclosed
    bankid brokerid useragent
  unfold clientArgs at h
  simp only [kwGet_of_lookup e1, kwGet_of_lookup e2, kwGet_of_lookup e3, kwGet_of_lookup e4, kwGet_of_lookup e5,
    PyM.ok_bind] at h
  -- `url` … `fid`, then `appid`, `appver`, `language`: each looked up and converted, whatever they hold
  iterate 10 obtain ⟨_, _, h⟩ := PyM.bind_ok h
  obtain ⟨ver, hver, h⟩ := PyM.bind_ok h
  iterate 6 obtain ⟨_, _, h⟩ := PyM.bind_ok h
  obtain ⟨pp, hpp, h⟩ := PyM.bind_ok h
  obtain ⟨ce, hce, h⟩ := PyM.bind_ok h
  obtain ⟨bid, hbid, h⟩ := PyM.bind_ok h
  obtain ⟨kid, hkid, h⟩ := PyM.bind_ok h
  injection h with h
  subst h
  injection hce with hce
  exact ⟨hbid, hkid, hce.symm, hver, hpp⟩

theorem init_inv (a : InitArgs) (cfg : Cfg) (h : init a = .ok cfg) :
    cfg.bankid = a.bankid ∧ cfg.brokerid = a.brokerid ∧ cfg.closeElements = orDefault a.closeElements true ∧
      cfg.version = orDefault a.version 203 ∧ cfg.prettyprint = orDefault a.prettyprint false := by
  unfold init at h
  simp only at h
  split at h
  · cases h
  · injection h with h
    subst h
    exact ⟨rfl, rfl, rfl, rfl, rfl⟩

theorem clientCfg_fields (args : Chain) (cfg : Cfg) (h : clientCfg args = .ok cfg) :
    ∃ b k u ver pp verN ppB, args.getItem "bankid".toList = .ok b ∧ args.getItem "brokerid".toList = .ok k ∧
      args.getItem "unclosedelements".toList = .ok u ∧ args.getItem "version".toList = .ok ver ∧
      args.getItem "pretty".toList = .ok pp ∧
      optStrArg (Ofxget.orNone b) = .ok cfg.bankid ∧ optStrArg (Ofxget.orNone k) = .ok cfg.brokerid ∧
      cfg.closeElements = !truthy u ∧
      optVersionArg ver = .ok verN ∧ cfg.version = orDefault verN 203 ∧
      optBoolArg pp = .ok ppB ∧ cfg.prettyprint = orDefault ppB false := by
  unfold clientCfg at h
  obtain ⟨m, hm, h2⟩ := PyM.bind_ok h
  unfold clientOfKw at h2
  obtain ⟨a, ha, h3⟩ := PyM.bind_ok h2
  clear h h2
  obtain ⟨url, user, clientuid, org, fid, version, appid, appver, language, pretty, unclosed, bankid, brokerid,
    useragent, hb, hk, hu, hv, hp, rfl⟩ := initClient_inv args m hm
  obtain ⟨a1, a2, a3, a4, a5⟩ := clientArgs_kwOf _ _ _ _ _ _ _ _ _ _ _ _ _ _ a ha
  obtain ⟨i1, i2, i3, i4, i5⟩ := init_inv a cfg h3
  refine ⟨bankid, brokerid, unclosed, version, pretty, a.version, a.prettyprint, hb, hk, hu, hv, hp, ?_, ?_, ?_, a4, i4,
    a5, i5⟩
  · rw [i1]; exact a1
  · rw [i2]; exact a2
  · rw [i3, a3]; rfl

section
open Ofx.DateTime Ofx.Spec.Instant

theorem dateConvert_none : dateConvert none = .ok none := rfl

/-- `hr`: an instant in the years 1000..9999 -/
theorem dateConvert_notation (p : Parts) (hwf : p.wf false = true) (hg : lenOk p = true)
    (hr : us1000 ≤ 1000 * p.instant ∧ 1000 * p.instant < usEnd) :
    ∃ d, dateConvert (some p.render) = .ok (some d) ∧ dtUtcMs d ∧ dtInstantUs d = some (1000 * p.instant) := by
  have hrange : minInstant ≤ p.instant ∧ p.instant < endInstant := by
    unfold us1000 usEnd at hr; unfold minInstant endInstant; omega
  obtain ⟨v, hv, d, rfl, hvalid, htz, hinst⟩ := C09_read Ofx.Generated.tzs false p hwf hg hrange
  have hloc := dtInstantUs_local d utc hvalid htz
  rw [hinst] at hloc
  injection hloc with hloc
  have hoff : utc.offUs = 0 := rfl
  rw [hoff] at hloc
  refine ⟨d, ?_, ⟨hvalid, htz, ?_, by omega, by omega⟩, hinst⟩
  · unfold dateConvert
    show (dtConvertWith Ofx.Generated.tzs false (.str p.render) >>= _) = _
    rw [hv]; rfl
  · have : localUs d % 1000 = 0 := by omega
    unfold localUs Ofx.Cal.toUs at this
    omega

end

def reqKey : Req → Option AcctKey
  | .stmt (some id) (some ty) _ _ _ => some (.bank id ty)
  | .stmtEnd (some id) (some ty) _ _ => some (.bank id ty)
  | .ccStmt (some id) _ _ _ => some (.cc id)
  | .ccStmtEnd (some id) _ _ => some (.cc id)
  | .invStmt (some id) _ _ _ _ _ _ _ => some (.inv id)
  | _ => none

def _root_.Ofx.Spec.Ofxget.AcctKey.texts : AcctKey → List Str
  | .bank id ty => [id, ty]
  | .cc id => [id]
  | .inv id => [id]

def rqDates : Rq DT → List DT
  | .stmt _ _ s e _ => s.toList ++ e.toList
  | .ccstmt _ s e _ => s.toList ++ e.toList
  | .invstmt _ s e a _ _ _ _ => s.toList ++ e.toList ++ a.toList
  | .stmtend _ _ s e => s.toList ++ e.toList
  | .ccstmtend _ s e => s.toList ++ e.toList

theorem toReq_same (r : Rq DT) (q : Req) (h : toReq r = .ok q) :
    reqKey q = some (rqAcct r) ∧ q.texts = (rqAcct r).texts ∧ q.dates = rqDates r := by
  cases r with
  | stmt id ty s e t =>
    simp only [toReq] at h
    obtain ⟨tb, _, h⟩ := PyM.bind_ok h
    injection h with h; subst h
    exact ⟨rfl, rfl, rfl⟩
  | ccstmt id s e t =>
    simp only [toReq] at h
    obtain ⟨tb, _, h⟩ := PyM.bind_ok h
    injection h with h; subst h
    exact ⟨rfl, rfl, rfl⟩
  | invstmt id s e a t oo pos bal =>
    simp only [toReq] at h
    obtain ⟨tb, _, h⟩ := PyM.bind_ok h
    obtain ⟨ob, _, h⟩ := PyM.bind_ok h
    obtain ⟨pb, _, h⟩ := PyM.bind_ok h
    obtain ⟨bb, _, h⟩ := PyM.bind_ok h
    injection h with h; subst h
    exact ⟨rfl, rfl, rfl⟩
  | stmtend id ty s e =>
    simp only [toReq, PyM.pure_eq] at h
    injection h with h; subst h
    exact ⟨rfl, rfl, rfl⟩
  | ccstmtend id s e =>
    simp only [toReq, PyM.pure_eq] at h
    injection h with h; subst h
    exact ⟨rfl, rfl, rfl⟩

theorem toReqs_keys (l : List (Rq DT)) (qs : List Req) (h : toReqs l = .ok qs) :
    qs.map reqKey = l.map (fun r => some (rqAcct r)) :=
  PyM.mapM_map_eq (fun r q hq => (toReq_same r q hq).1) h

theorem toReqs_length (l : List (Rq DT)) (qs : List Req) (h : toReqs l = .ok qs) : qs.length = l.length := by
  have := congrArg List.length (toReqs_keys l qs h)
  simpa using this

theorem toReqs_mem (l : List (Rq DT)) (qs : List Req) (h : toReqs l = .ok qs) :
    ∀ q ∈ qs, ∃ r ∈ l, toReq r = .ok q :=
  fun _ hq => PyM.mapM_mem_right h hq

def _root_.Ofx.Ofxget.Dates.all (dt : Dates DT) : List DT := dt.start.toList ++ dt.end.toList ++ dt.asof.toList

theorem toReqs_texts {rqs : List (Rq DT)} {reqs : List Req} (h : toReqs rqs = .ok reqs) {P : Str → Prop}
    (hP : ∀ r ∈ rqs, ∀ s ∈ (rqAcct r).texts, P s) : ∀ q ∈ reqs, ∀ s ∈ q.texts, P s := by
  intro q hq s hs
  obtain ⟨r, hr, hrq⟩ := toReqs_mem rqs reqs h q hq
  rw [(toReq_same r q hrq).2.1] at hs
  exact hP r hr s hs

theorem toReqs_dates {rqs : List (Rq DT)} {reqs : List Req} (h : toReqs rqs = .ok reqs) {P : DT → Prop}
    (hP : ∀ r ∈ rqs, ∀ d ∈ rqDates r, P d) : ∀ q ∈ reqs, ∀ d ∈ q.dates, P d := by
  intro q hq d hd
  obtain ⟨r, hr, hrq⟩ := toReqs_mem rqs reqs h q hq
  rw [(toReq_same r q hrq).2.2] at hd
  exact hP r hr d hd

theorem specOf_dates (closing : Bool) (a : Accounts) (dt : Dates DT) (args : Chain) :
    ∀ r ∈ specOf closing a (optsOf dt args), ∀ d ∈ rqDates r, d ∈ dt.all := by
  intro r hr d hd
  cases closing <;>
    simp only [specOf, specStmt, specStmtend, bankStmts, bankStmtends, List.mem_append, List.mem_map] at hr
  · rcases hr with ((((⟨_, _, rfl⟩ | ⟨_, _, rfl⟩) | ⟨_, _, rfl⟩) | ⟨_, _, rfl⟩) | ⟨_, _, rfl⟩) | ⟨_, _, rfl⟩ <;>
      simp only [rqDates, optsOf, Dates.all, List.mem_append] at hd ⊢ <;> grind
  · rcases hr with (((⟨_, _, rfl⟩ | ⟨_, _, rfl⟩) | ⟨_, _, rfl⟩) | ⟨_, _, rfl⟩) | ⟨_, _, rfl⟩ <;>
      simp only [rqDates, optsOf, Dates.all, List.mem_append] at hd ⊢ <;> grind

theorem specOf_texts {δ : Type} (closing : Bool) (a : Accounts) (o : StmtOpts δ) :
    ∀ r ∈ specOf closing a o, ∀ s ∈ (rqAcct r).texts, s ∈ a.ids ∨ s ∈ requestableBankTypes := by
  intro r hr s hs
  cases closing <;>
    simp only [specOf, specStmt, specStmtend, bankStmts, bankStmtends, List.mem_append, List.mem_map] at hr
  · rcases hr with ((((⟨_, _, rfl⟩ | ⟨_, _, rfl⟩) | ⟨_, _, rfl⟩) | ⟨_, _, rfl⟩) | ⟨_, _, rfl⟩) | ⟨_, _, rfl⟩ <;>
      simp only [rqAcct, AcctKey.texts, List.mem_cons, List.mem_nil_iff, or_false] at hs <;>
      simp only [Accounts.ids, requestableBankTypes, List.mem_append, List.mem_cons] <;> grind
  · rcases hr with (((⟨_, _, rfl⟩ | ⟨_, _, rfl⟩) | ⟨_, _, rfl⟩) | ⟨_, _, rfl⟩) | ⟨_, _, rfl⟩ <;>
      simp only [rqAcct, AcctKey.texts, List.mem_cons, List.mem_nil_iff, or_false] at hs <;>
      simp only [Accounts.ids, requestableBankTypes, List.mem_append, List.mem_cons] <;> grind

theorem plan_dates {closing : Bool} {args : Chain} {acct : PyM (List AcctInfo)} {plan : Plan DT} {dt : Dates DT}
    (hplan : requestWith (loopsOf closing) dateConvert args acct = .ok plan)
    (hdt : convertDatetime dateConvert args = .ok dt) {P : DT → Prop} (hP : ∀ d ∈ dt.all, P d) :
    ∀ r ∈ plan.requests, ∀ d ∈ rqDates r, P d := by
  obtain ⟨dt', hdt', -, hrqs, -⟩ := requestWith_ok hplan
  cases hdt.symm.trans hdt'
  rw [loopsOf_ok hrqs]
  exact fun r hr d hd => hP d (specOf_dates closing _ dt _ r hr d hd)

theorem perm_keys {rqs : List (Rq DT)} {reqs : List Req} {l : List AcctKey} (hperm : (rqs.map rqAcct).Perm l)
    (hreqs : toReqs rqs = .ok reqs) : (reqs.map reqKey).Perm (l.map some) := by
  rw [toReqs_keys rqs reqs hreqs]
  have := hperm.map some
  rwa [List.map_map] at this

section
open Ofx.Spec.Request

theorem isNone_items (n : Node) (h : n.isNone = true) : n.items = [] := by
  cases n with
  | val v => rfl
  | agg c f i => simp [Node.isNone] at h

/-- from the `wrappers.K` clause of `RequestSpec`, which also matches them to the requests one to one, in order -/
theorem spec_count (S : Schema) (cfg : Cfg) (pw : Str) (dtc : DT) (reqs : List Req) (hv : Int) (root : Node)
    (h : RequestSpec S cfg pw dtc reqs hv root) (k : RKind) :
    ((fieldVal root k.msgset.attrName).items.filter (isWrapper S k)).length =
      (reqs.filter (fun r => decide (r.kind = k))).length := by
  unfold RequestSpec check at h
  have hm : msgsetClauses S cfg reqs k.msgset root = [] := by
    have h1 := (List.append_eq_nil_iff.mp h).1
    have h2 := (List.append_eq_nil_iff.mp h1).2
    rw [List.flatMap_eq_nil_iff] at h2
    exact h2 k.msgset (by cases k <;> simp [allMsgSets, RKind.msgset])
  unfold msgsetClauses at hm
  simp only at hm
  split at hm
  · rename_i hemp
    have hnone := clause_eq_nil.mp hm
    rw [isNone_items _ hnone]
    have : reqs.filter (fun r => decide (r.kind = k)) = [] := by
      rw [List.filter_eq_nil_iff]
      intro r hr hk
      have hk' : r.kind = k := by simpa using hk
      have : r ∈ reqs.filter (fun r => decide (r.kind.msgset = k.msgset)) := by
        rw [List.mem_filter]; exact ⟨hr, by simp [hk']⟩
      rw [List.isEmpty_iff.mp hemp] at this
      cases this
    simp [this]
  · have h3 := (List.append_eq_nil_iff.mp hm).2
    rw [List.flatMap_eq_nil_iff] at h3
    have h4 := clause_eq_nil.mp (h3 k (by cases k <;> simp [kindsUnder, RKind.msgset]))
    exact (all2_forall _ _ _ h4).1.symm

theorem spec_only_wrappers (S : Schema) (cfg : Cfg) (pw : Str) (dtc : DT) (reqs : List Req) (hv : Int) (root : Node)
    (h : RequestSpec S cfg pw dtc reqs hv root) (m : MsgSet) :
    ∀ w ∈ (fieldVal root m.attrName).items, ∃ k ∈ kindsUnder m, isWrapper S k w = true := by
  unfold RequestSpec check at h
  have hm : msgsetClauses S cfg reqs m root = [] := by
    have h1 := (List.append_eq_nil_iff.mp h).1
    have h2 := (List.append_eq_nil_iff.mp h1).2
    rw [List.flatMap_eq_nil_iff] at h2
    exact h2 m (by cases m <;> simp [allMsgSets])
  unfold msgsetClauses at hm
  simp only at hm
  split at hm
  · rw [isNone_items _ (clause_eq_nil.mp hm)]
    intro w hw; cases hw
  · have h3 := (List.append_eq_nil_iff.mp hm).1
    have h4 := clause_eq_nil.mp (List.append_eq_nil_iff.mp h3).2
    intro w hw
    have := List.all_eq_true.mp h4 w hw
    obtain ⟨k, hk, hkw⟩ := List.any_eq_true.mp this
    exact ⟨k, hk, hkw⟩

end

theorem kindCount (l : List Str) (g : Str → Req) (k k' : RKind) (h : ∀ id, (g id).kind = k') :
    ((l.map g).filter (fun r => decide (r.kind = k))).length = if k' = k then l.length else 0 := by
  induction l with
  | nil => simp
  | cons x xs ih =>
    by_cases hk : k' = k
    · simp only [hk, if_true] at ih ⊢
      simp [h x, hk, ih]
    · simp only [hk, if_false] at ih ⊢
      simp [h x, hk, ih]

theorem wireStmt_kinds (a : Accounts) (ds de da : Option DT) (t oo pos bal : Option Bool) (k : RKind) :
    ((wireStmt a ds de da t oo pos bal).filter (fun r => decide (r.kind = k))).length =
      match k with
      | .stmt => a.checking.length + a.savings.length + a.moneymrkt.length + a.creditline.length
      | .ccStmt => a.creditcard.length
      | .invStmt => a.investment.length
      | .stmtEnd => 0
      | .ccStmtEnd => 0 := by
  simp only [wireStmt, List.filter_append, List.length_append]
  rw [kindCount a.checking _ k .stmt (fun _ => rfl), kindCount a.savings _ k .stmt (fun _ => rfl),
    kindCount a.moneymrkt _ k .stmt (fun _ => rfl), kindCount a.creditline _ k .stmt (fun _ => rfl),
    kindCount a.creditcard _ k .ccStmt (fun _ => rfl), kindCount a.investment _ k .invStmt (fun _ => rfl)]
  cases k <;> simp

theorem wireStmtend_kinds (a : Accounts) (ds de : Option DT) (k : RKind) :
    ((wireStmtend a ds de).filter (fun r => decide (r.kind = k))).length =
      match k with
      | .stmtEnd => a.checking.length + a.savings.length + a.moneymrkt.length + a.creditline.length
      | .ccStmtEnd => a.creditcard.length
      | .stmt => 0
      | .ccStmt => 0
      | .invStmt => 0 := by
  simp only [wireStmtend, List.filter_append, List.length_append]
  rw [kindCount a.checking _ k .stmtEnd (fun _ => rfl), kindCount a.savings _ k .stmtEnd (fun _ => rfl),
    kindCount a.moneymrkt _ k .stmtEnd (fun _ => rfl), kindCount a.creditline _ k .stmtEnd (fun _ => rfl),
    kindCount a.creditcard _ k .ccStmtEnd (fun _ => rfl)]
  cases k <;> simp

end Ofx.OfxgetWire
