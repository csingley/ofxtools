/-
C03, type part, decimals: on the whole lexical space `[+-]?[0-9]*[.,]?[0-9]*` (≥ 1 digit), for every declared scale,
`Decimal.convert` returns exactly the value `Spec.denoteDecimal` assigns, and refuses (InvalidOperation) exactly when
that value does not exist (more than 28 digits at the quantum).  The literal goes by shape: a text of the lexical space
is a sign, digits and a tail; on such a text `Decimal(str)` gives the literal's value, or with a comma a refusal, and
the text with the comma replaced is of the same shape with a point.  Apart from the name nothing ties this file to
Lemmas/C03Deep.lean or Props/C03Deep.lean: Gen/C03Deep.lean alone imports it, for the decimal case of its type rule.
-/
import OfxProofs.Lemmas.Types
import OfxProofs.Lemmas.Dec

namespace Ofx
open Ofx.Spec

theorem natDigitsAux_length (fuel n : Nat) (acc : List Nat) :
    (natDigitsAux fuel n acc).length = numDigits.go fuel n acc.length := by
  induction fuel generalizing n acc with
  | zero => simp [natDigitsAux, numDigits.go]
  | succ f ih =>
    simp only [natDigitsAux, numDigits.go]
    split
    · simp
    · rw [ih]; simp

theorem ndigits_eq_numDigits (c : Nat) : ndigits c = numDigits c := by
  simpa [ndigits, natDigits, numDigits] using natDigitsAux_length (c + 1) c []

theorem roundHalfEven_eq_nearestEven (c k : Nat) : roundHalfEven c k = nearestEven c (10 ^ k) := by
  have hp : 0 < 10 ^ k := Nat.pow_pos (by decide)
  have hr : c - c / 10 ^ k * 10 ^ k = c % 10 ^ k := by
    have := Nat.div_add_mod c (10 ^ k)
    rw [Nat.mul_comm] at this
    omega
  have hlt : c % 10 ^ k < 10 ^ k := Nat.mod_lt _ hp
  unfold roundHalfEven nearestEven
  simp only [hr]
  generalize c / 10 ^ k = q at *
  generalize c % 10 ^ k = r at *
  generalize 10 ^ k = p at *
  by_cases h1 : 2 * r < p
  · have : ¬ (2 * r > p ∨ 2 * r = p ∧ q % 2 = 1) := by omega
    simp [h1, this]
  · by_cases h2 : 2 * r > p
    · simp [h1, h2]
    · have h3 : 2 * r = p := by omega
      by_cases h4 : q % 2 = 0
      · simp [h1, h2, h4]
      · have h5 : q % 2 = 1 := by omega
        simp [h3, h5]

theorem quantize_eq_atQuantum (neg : Bool) (c : Nat) (e qe : Int) :
    quantize (.fin neg c e) qe =
      (match atQuantum neg c e qe with | some d => .ok d | none => .error .decimal) := by
  unfold quantize atQuantum
  simp only [ndigits_eq_numDigits, roundHalfEven_eq_nearestEven, defaultPrec]
  by_cases hc : c = 0
  · simp [hc]
  · simp only [hc, if_false]
    by_cases h1 : e + (numDigits c : Int) - qe > ((28 : Nat) : Int)
    · have h1' : e + (numDigits c : Int) - qe > 28 := by simpa using h1
      simp [h1']
    · have h1' : ¬ (e + (numDigits c : Int) - qe > 28) := by simpa using h1
      simp only [h1, h1', if_false]
      split <;> (split <;> rfl)

theorem digitVal_of_not_isDigitC (c : Char) (h : isDigitC c = false) : digitVal c = none := by
  simp only [isDigitC, decide_eq_false_iff_not] at h
  simp [digitVal, h]

theorem spanDigits_eq_takeWhile (b : Str) :
    spanDigits b = ((b.takeWhile isDigitC).map digitOf, b.dropWhile isDigitC) := by
  induction b with
  | nil => rfl
  | cons c cs ih =>
    cases hc : isDigitC c
    · simp [spanDigits, digitVal_of_not_isDigitC c hc, List.takeWhile, List.dropWhile, hc]
    · simp [spanDigits, digitVal_of_isDigitC c hc, List.takeWhile, List.dropWhile, hc, ih]

theorem digitsVal_map_digitOf (l : Str) : digitsVal (l.map digitOf) = positional l := by
  induction l with
  | nil => rfl
  | cons c cs ih => simp [digitsVal_cons, positional, ih]

def DecBody (ip tl : Str) : Prop :=
  ip.all isDigitC = true ∧
  ((tl = [] ∧ ip ≠ []) ∨
   ∃ c fp, tl = c :: fp ∧ (c = '.' ∨ c = ',') ∧ fp.all isDigitC = true ∧ (ip ≠ [] ∨ fp ≠ []))

abbrev intDigits (s : Str) : Str := (dropSign s).takeWhile isDigitC
abbrev fracDigits (s : Str) : Str := ((dropSign s).dropWhile isDigitC).drop 1

theorem lexDecimal_shape (s : Str) (h : lexDecimal s = true) :
    ∃ sg ip tl, IsSign sg ∧ DecBody ip tl ∧ s = sg ++ (ip ++ tl) ∧
      isNegative s = (sg == ['-']) ∧ intDigits s = ip ∧ (dropSign s).dropWhile isDigitC = tl := by
  obtain ⟨sg, hsg, hs, hneg⟩ := sign_split s
  refine ⟨sg, _, _, hsg, ⟨List.all_takeWhile, ?_⟩, by rw [List.takeWhile_append_dropWhile]; exact hs, hneg, rfl, rfl⟩
  unfold lexDecimal lexDecimalBody at h
  cases hr : (dropSign s).dropWhile isDigitC with
  | nil => rw [hr] at h; exact Or.inl ⟨rfl, by simpa using h⟩
  | cons c fp =>
    rw [hr] at h
    simp only [Bool.and_eq_true, Bool.or_eq_true, decide_eq_true_eq, Bool.not_eq_true',
      List.isEmpty_eq_false_iff] at h
    exact Or.inr ⟨c, fp, rfl, h.1.1, h.1.2, h.2⟩

/-- what `Decimal(str)` asks of a character of the unsigned part: `numeric_as_ascii` passes it through, it is its own
    lower case, and it starts neither a sign nor `inf`, `nan`, `snan` -/
structure Quiet (c : Char) : Prop where
  plain : plainOk c = true
  lower : asciiLower c = c
  sign : c ≠ '-' ∧ c ≠ '+'
  special : c ≠ 'i' ∧ c ≠ 'n' ∧ c ≠ 's'

theorem quiet_digits (l : Str) (h : l.all isDigitC = true) : ∀ c ∈ l, Quiet c := by
  intro c hc
  obtain ⟨d, hd, rfl⟩ := isDigitC_digitChar c (List.all_eq_true.mp h c hc)
  exact ⟨digitChar_plainOk d hd, digitChar_lower d hd, digitChar_not_sign d hd, digitChar_not_special d hd⟩

theorem quiet_body {ip tl : Str} (hb : DecBody ip tl) : ∀ c ∈ ip ++ tl, Quiet c := by
  intro c hc
  rcases List.mem_append.mp hc with hc | hc
  · exact quiet_digits ip hb.1 c hc
  · rcases hb.2 with ⟨rfl, _⟩ | ⟨c0, fp, rfl, hsep, hfp, _⟩
    · cases hc
    · rcases List.mem_cons.mp hc with rfl | hc
      · rcases hsep with rfl | rfl <;> exact ⟨by decide, by decide, by decide, by decide⟩
      · exact quiet_digits fp hfp c hc

theorem decParse_quiet (sg b : Str) (hsg : IsSign sg) (hb : ∀ c ∈ b, Quiet c) :
    decParse (sg ++ b) = decNumeric (sg == ['-']) b := by
  have hok : AllOk (sg ++ b) :=
    AllOk_append (by rcases hsg with rfl | rfl | rfl <;> exact AllOk_lit _ (by decide)) (fun c hc => (hb c hc).plain)
  have hts : takeSign (sg ++ b) = (sg == ['-'], b) := by
    rcases hsg with rfl | rfl | rfl
    · cases b with
      | nil => rfl
      | cons c r => exact takeSign_other c r (hb c (by simp)).sign.1 (hb c (by simp)).sign.2
    · rfl
    · rfl
  have hl : lower b = b := by
    conv => rhs; rw [← List.map_id b]
    exact List.map_congr_left (fun c hc => (hb c hc).lower)
  unfold decParse
  rw [decClean_plain _ hok]
  simp only [decParseAscii, hts, hl]
  have e1 : ¬ (b = "inf".toList ∨ b = "infinity".toList) := by
    rintro (h | h) <;> exact (hb 'i' (by rw [h]; decide)).special.1 rfl
  simp only [e1, if_false]
  split
  · exact absurd rfl (hb 'n' (by simp)).special.2.1
  · exact absurd rfl (hb 's' (by simp)).special.2.2
  · rfl

theorem decNumeric_body (neg : Bool) {ip tl : Str} (hb : DecBody ip tl) :
    decNumeric neg (ip ++ tl) =
      if tl.head? = some ',' then none
      else some (.fin neg (positional (ip ++ tl.drop 1)) (-((tl.drop 1).length : Int))) := by
  unfold decNumeric
  simp only [spanDigits_eq_takeWhile]
  rcases hb.2 with ⟨rfl, hne⟩ | ⟨c, fp, rfl, rfl | rfl, hfp, hne⟩
  · have hi := takeWhile_digits_all ip hb.1
    simp [hi.1, hi.2, hne, digitsVal_map_digitOf]
  · have hi := takeWhile_digits_stop ip fp '.' hb.1 (by decide)
    have hf := takeWhile_digits_all fp hfp
    have : ¬ (ip = [] ∧ fp = []) := fun hh => hne.elim (· hh.1) (· hh.2)
    simp [hi.1, hi.2, hf.1, hf.2, this, ← List.map_append, digitsVal_map_digitOf]
  · have hi := takeWhile_digits_stop ip fp ',' hb.1 (by decide)
    simp [hi.1, hi.2]

theorem decParse_body (sg : Str) (hsg : IsSign sg) {ip tl : Str} (hb : DecBody ip tl) :
    decParse (sg ++ (ip ++ tl)) =
      if tl.head? = some ',' then none
      else some (.fin (sg == ['-']) (positional (ip ++ tl.drop 1)) (-((tl.drop 1).length : Int))) := by
  rw [decParse_quiet sg _ hsg (quiet_body hb), decNumeric_body _ hb]

def commaToPoint (c : Char) : Char := if c = ',' then '.' else c

theorem replace_comma (s : Str) : replace [','] ['.'] s = s.map commaToPoint := by
  rw [replace_single]
  induction s with
  | nil => rfl
  | cons c cs ih => by_cases h : c = ',' <;> simp [h, ih, commaToPoint]

theorem commaToPoint_digit (c : Char) (h : isDigitC c = true) : commaToPoint c = c := by
  have : c ≠ ',' := by intro e; subst e; exact absurd h (by decide)
  simp [commaToPoint, this]

theorem map_commaToPoint_digits (l : Str) (h : l.all isDigitC = true) : l.map commaToPoint = l := by
  conv => rhs; rw [← List.map_id l]
  exact List.map_congr_left (fun c hc => commaToPoint_digit c (List.all_eq_true.mp h c hc))

theorem replace_comma_body (sg ip fp : Str) (hsg : IsSign sg) (hi : ip.all isDigitC = true)
    (hf : fp.all isDigitC = true) :
    replace [','] ['.'] (sg ++ (ip ++ ',' :: fp)) = sg ++ (ip ++ '.' :: fp) := by
  rw [replace_comma, List.map_append, List.map_append, List.map_cons, map_commaToPoint_digits ip hi,
    map_commaToPoint_digits fp hf]
  rcases hsg with rfl | rfl | rfl <;> rfl

theorem decOfTextRaw_of_lex (s : Str) (h : lexDecimal s = true) :
    Ofx.Types.decOfTextRaw s = .ok (.fin (isNegative s) (positional (intDigits s ++ fracDigits s))
      (-((fracDigits s).length : Int))) := by
  obtain ⟨sg, ip, tl, hsg, hb, hs, hneg, hip, htl⟩ := lexDecimal_shape s h
  unfold Ofx.Types.decOfTextRaw fracDigits
  rw [hneg, hip, htl, hs, decParse_body sg hsg hb]
  rcases hb.2 with ⟨rfl, _⟩ | ⟨c, fp, rfl, rfl | rfl, hfp, hne⟩
  · rfl
  · rfl
  · rw [replace_comma_body sg ip fp hsg hb.1 hfp,
      decParse_body sg hsg ⟨hb.1, Or.inr ⟨_, fp, rfl, Or.inl rfl, hfp, hne⟩⟩]
    rfl

theorem decOfText_of_lex (s : Str) (h : lexDecimal s = true) :
    Ofx.Types.decOfText s = .ok (.fin (isNegative s) (positional (intDigits s ++ fracDigits s))
      (-((fracDigits s).length : Int))) := by
  unfold Ofx.Types.decOfText
  rw [decOfTextRaw_of_lex s h]
  rfl

/-- refusal is `decimal.InvalidOperation` -/
def denoteDecResult (o : Option Dec) : PyM Val :=
  match o with
  | some d => .ok (.dec d)
  | none => .error .decimal

theorem denoteDecimal_of_lex (q : Option Int) (s : Str) (h : lexDecimal s = true) :
    denoteDecimal q s =
      (match q with
       | none => some (.fin (isNegative s) (positional (intDigits s ++ fracDigits s)) (-((fracDigits s).length : Int)))
       | some qe => atQuantum (isNegative s) (positional (intDigits s ++ fracDigits s))
          (-((fracDigits s).length : Int)) qe) := by
  unfold denoteDecimal
  rw [h]
  rfl

/-- C03, type part, decimals: the statement at the head of this file -/
theorem convert_denotes_decimal (enums : List (List Str)) (q : Option Int) (r : Bool) (s : Str)
    (h : lexDecimal s = true) :
    Ofx.Types.convert enums (.decimal q) r (.str s) = denoteDecResult (denoteDecimal q s) := by
  rw [denoteDecimal_of_lex q s h]
  simp only [Ofx.Types.convert, Ofx.Types.decimalConvert, decOfText_of_lex s h, PyM.ok_bind]
  cases q with
  | none => rfl
  | some qe =>
    simp only [Ofx.Types.applyScale, quantize_eq_atQuantum]
    cases atQuantum (isNegative s) (positional (intDigits s ++ fracDigits s)) (-((fracDigits s).length : Int)) qe <;> rfl

theorem convert_denotes_decimal_denote (ext : DenoteExt) (enums : List (List Str)) (q : Option Int) (r : Bool)
    (s : Str) (h : lexDecimal s = true) :
    Ofx.Types.convert enums (.decimal q) r (.str s) =
      (match denote ext enums (.decimal q) s with
       | some v => .ok v
       | none => .error .decimal) := by
  have hne : s ≠ [] := by intro e; subst e; exact absurd h (by decide)
  obtain ⟨c, cs, rfl⟩ := List.exists_cons_of_ne_nil hne
  rw [convert_denotes_decimal enums q r _ h]
  simp only [denote]
  cases denoteDecimal q (c :: cs) <;> rfl

theorem convert_denotes_decimal_cases (enums : List (List Str)) (q : Option Int) (r : Bool) (s : Str)
    (h : lexDecimal s = true) :
    (∀ d, denoteDecimal q s = some d → Ofx.Types.convert enums (.decimal q) r (.str s) = .ok (.dec d)) ∧
    (denoteDecimal q s = none → Ofx.Types.convert enums (.decimal q) r (.str s) = .error .decimal) := by
  rw [convert_denotes_decimal enums q r s h]
  constructor
  · intro d hd; rw [hd]; rfl
  · intro hd; rw [hd]; rfl

theorem convert_decimal_noscale_ok (enums : List (List Str)) (r : Bool) (s : Str) (h : lexDecimal s = true) :
    ∃ d, denoteDecimal none s = some d ∧ Ofx.Types.decOfText s = .ok d ∧
      Ofx.Types.convert enums (.decimal none) r (.str s) = .ok (.dec d) := by
  refine ⟨_, denoteDecimal_of_lex none s h, decOfText_of_lex s h, ?_⟩
  rw [convert_denotes_decimal enums none r s h, denoteDecimal_of_lex none s h]
  rfl

example : lexDecimal "-1,50".toList = true := by decide
example : lexDecimal "+.5".toList = true := by decide
example : lexDecimal "5,".toList = true := by decide

example : Ofx.Types.decOfText "-1,50".toList = .ok (.fin true 150 (-2)) :=
  decOfText_of_lex "-1,50".toList (by decide)
example : Ofx.Types.decOfText "+.5".toList = .ok (.fin false 5 (-1)) :=
  decOfText_of_lex "+.5".toList (by decide)

/-- `-1,505` at scale 2: the tie `150.5` goes to the even neighbour -/
example : Ofx.Types.convert [] (.decimal (some (-2))) false (.str "-1,505".toList) = .ok (.dec (.fin true 150 (-2))) := by
  have hd : denoteDecimal (some (-2)) "-1,505".toList = some (.fin true 150 (-2)) := by decide
  rw [convert_denotes_decimal [] (some (-2)) false _ (by decide), hd]
  rfl

/-- the same value by evaluating the model alone -/
example : Ofx.Types.convert [] (.decimal (some (-2))) false (.str "-1,505".toList) = .ok (.dec (.fin true 150 (-2))) := rfl

/-- 29 significant digits at the quantum: refused -/
example : Ofx.Types.convert [] (.decimal (some (-2))) true (.str "123456789012345678901234567,5".toList)
    = .error .decimal := by
  have hd : denoteDecimal (some (-2)) "123456789012345678901234567,5".toList = none := by decide
  rw [convert_denotes_decimal [] (some (-2)) true _ (by decide), hd]
  rfl

end Ofx
