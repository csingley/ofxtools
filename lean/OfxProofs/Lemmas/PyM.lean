/-
`PyM` (`Except Err`) as the proofs use it: `simp` lemmas that step a `do` block (core has none for `Except`), and the
inversion of a `do` block or a `mapM` that returned.
-/
import OfxModel.Py.Err

namespace Ofx.PyM

/- also `↓` lemmas: a block whose first step is known is stepped before `simp` looks into the continuation, so the
   branches not taken are never simplified -/
@[simp, simp ↓] theorem ok_bind {ε α β} (a : α) (f : α → Except ε β) : (Except.ok a >>= f) = f a := rfl

@[simp, simp ↓] theorem error_bind {ε α β} (e : ε) (f : α → Except ε β) : (Except.error e >>= f) = .error e := rfl

@[simp] theorem pure_eq {ε α} (a : α) : (pure a : Except ε α) = .ok a := rfl

theorem bind_ok {α β} {x : PyM α} {f : α → PyM β} {b : β} (h : (x >>= f) = .ok b) :
    ∃ a, x = .ok a ∧ f a = .ok b := by
  cases x with
  | error e => cases h
  | ok a => exact ⟨a, rfl, h⟩

theorem bind_ok_iff {α β} (x : PyM α) (f : α → PyM β) (b : β) : (x >>= f) = .ok b ↔ ∃ a, x = .ok a ∧ f a = .ok b :=
  ⟨bind_ok, fun ⟨_, hx, hf⟩ => by rw [hx]; exact hf⟩

theorem not_ok_error {α} (x : PyM α) (h : ∀ a, x ≠ .ok a) : ∃ e, x = .error e := by
  cases x with
  | error e => exact ⟨e, rfl⟩
  | ok a => exact absurd rfl (h a)

theorem ok_of_toBool {α} {x : PyM α} (h : x.toBool = true) : ∃ a, x = .ok a := by
  cases x with
  | error e => cases h
  | ok a => exact ⟨a, rfl⟩

theorem map_ok {α β} {x : PyM α} {g : α → β} {b : β} (h : x.map g = .ok b) : ∃ a, x = .ok a ∧ g a = b := by
  cases x with
  | error e => cases h
  | ok a => injection h with h; exact ⟨a, rfl, h⟩

theorem mapM_cons_ok {α β} {f : α → PyM β} {x : α} {l : List α} {r : List β} (h : (x :: l).mapM f = .ok r) :
    ∃ y ys, f x = .ok y ∧ l.mapM f = .ok ys ∧ r = y :: ys := by
  rw [List.mapM_cons] at h
  obtain ⟨y, hy, h⟩ := bind_ok h
  obtain ⟨ys, hys, h⟩ := bind_ok h
  exact ⟨y, ys, hy, hys, by cases h; rfl⟩

theorem mapM_ok_iff {α β} {f : α → PyM β} : ∀ {l : List α} {r : List β},
    l.mapM f = .ok r ↔ l.map f = r.map .ok
  | [], r => by
    rw [List.mapM_nil]
    cases r with
    | nil => exact ⟨fun _ => rfl, fun _ => rfl⟩
    | cons y ys =>
      constructor
      · intro h; cases h
      · intro h; cases h
  | x :: l, r => by
    constructor
    · intro h
      obtain ⟨y, ys, hy, hys, rfl⟩ := mapM_cons_ok h
      rw [List.map_cons, List.map_cons, hy, mapM_ok_iff.mp hys]
    · intro h
      cases r with
      | nil => cases h
      | cons y ys =>
        rw [List.map_cons, List.map_cons] at h
        injection h with hy hys
        rw [List.mapM_cons, hy, mapM_ok_iff.mpr hys]
        rfl

theorem mapM_length {α β} {f : α → PyM β} {l : List α} {r : List β} (h : l.mapM f = .ok r) :
    r.length = l.length := by
  simpa using (congrArg List.length (mapM_ok_iff.mp h)).symm

theorem mapM_getElem? {α β} {f : α → PyM β} {l : List α} {r : List β} (h : l.mapM f = .ok r) (j : Nat) :
    l[j]?.map f = r[j]?.map .ok := by
  rw [← List.getElem?_map, ← List.getElem?_map, mapM_ok_iff.mp h]

theorem mapM_mem_right {α β} {f : α → PyM β} {l : List α} {r : List β} (h : l.mapM f = .ok r) {y : β}
    (hy : y ∈ r) : ∃ x ∈ l, f x = .ok y := by
  have : Except.ok y ∈ l.map f := by rw [mapM_ok_iff.mp h]; exact List.mem_map_of_mem hy
  exact List.mem_map.mp this

theorem mapM_mem_left {α β} {f : α → PyM β} {l : List α} {r : List β} (h : l.mapM f = .ok r) {x : α}
    (hx : x ∈ l) : ∃ y ∈ r, f x = .ok y := by
  have : f x ∈ r.map .ok := by rw [← mapM_ok_iff.mp h]; exact List.mem_map_of_mem hx
  obtain ⟨y, hy, he⟩ := List.mem_map.mp this
  exact ⟨y, hy, he.symm⟩

theorem mapM_self {α} (f : α → PyM α) (l : List α) (h : ∀ x ∈ l, f x = .ok x) : l.mapM f = .ok l :=
  mapM_ok_iff.mpr (List.map_congr_left h)

theorem mapM_map_eq {α β γ} {f : α → PyM β} {g : β → γ} {k : α → γ} (hfg : ∀ x y, f x = .ok y → g y = k x)
    {l : List α} {r : List β} (h : l.mapM f = .ok r) : r.map g = l.map k := by
  induction l generalizing r with
  | nil => cases h; rfl
  | cons x l ih =>
    obtain ⟨y, ys, hy, hys, rfl⟩ := mapM_cons_ok h
    rw [List.map_cons, List.map_cons, hfg x y hy, ih hys]

theorem mapM_eq_map {α β} {f : α → PyM β} {k : α → β} (hf : ∀ x y, f x = .ok y → y = k x)
    {l : List α} {r : List β} (h : l.mapM f = .ok r) : r = l.map k := by
  simpa using mapM_map_eq (g := id) hf h

theorem mapM_getElem_left {α β} {f : α → PyM β} {l : List α} {r : List β} (h : l.mapM f = .ok r) {j : Nat} {x : α}
    (hx : l[j]? = some x) : ∃ y, r[j]? = some y ∧ f x = .ok y := by
  have hj := mapM_getElem? h j
  rw [hx] at hj
  cases hr : r[j]? with
  | none => rw [hr] at hj; cases hj
  | some y => rw [hr] at hj; injection hj with hj; exact ⟨y, rfl, hj⟩

theorem mapM_getElem_right {α β} {f : α → PyM β} {l : List α} {r : List β} (h : l.mapM f = .ok r) {j : Nat} {y : β}
    (hy : r[j]? = some y) : ∃ x, l[j]? = some x ∧ f x = .ok y := by
  have hj := mapM_getElem? h j
  rw [hy] at hj
  cases hl : l[j]? with
  | none => rw [hl] at hj; cases hj
  | some x => rw [hl] at hj; injection hj with hj; exact ⟨x, rfl, hj⟩

theorem foldlM_cons_ok {ε α β} (f : β → α → Except ε β) {b b' : β} {a : α} (h : f b a = .ok b') (l : List α) :
    (a :: l).foldlM f b = l.foldlM f b' := by
  rw [List.foldlM_cons, h]; rfl

theorem foldlM_append_ok {ε α β} (f : β → α → Except ε β) {l : List α} {b b' : β} (h : l.foldlM f b = .ok b')
    (l' : List α) : (l ++ l').foldlM f b = l'.foldlM f b' := by
  rw [List.foldlM_append, h]
  rfl

theorem foldlM_preserves {ε α β} (f : β → α → Except ε β) (P : β → Prop) (l : List α)
    (hstep : ∀ b a b', a ∈ l → f b a = .ok b' → P b → P b') (b b' : β) (h : l.foldlM f b = .ok b') (hb : P b) : P b' := by
  induction l generalizing b with
  | nil => cases h; exact hb
  | cons a l ih =>
    rw [List.foldlM_cons] at h
    cases hfa : f b a with
    | error e => rw [hfa] at h; cases h
    | ok b1 =>
      rw [hfa] at h
      exact ih (fun b a' b' ha' => hstep b a' b' (List.mem_cons_of_mem _ ha')) b1 h
        (hstep b a b1 List.mem_cons_self hfa hb)

theorem mapM_id_cons_ok {α} (x : PyM α) (xs : List (PyM α)) (a : α) (as : List α)
    (hx : x = .ok a) (hxs : xs.mapM id = .ok as) : (x :: xs).mapM id = .ok (a :: as) := by
  simp [List.mapM_cons, hx, hxs]

end Ofx.PyM
