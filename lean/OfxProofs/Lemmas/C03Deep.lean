/-
Lemmas for Props/C03Deep.lean (one level by slots, whole documents): one step of the reader is the slot the
specification assigns to the child (`updateArgs_slot`), so the fold collects what the addressed children (`slots`)
supply, position by position (`fold_slots`, `FoldFacts`); the leaf values of an instance are those of its `entries`, one
step down.
`slot_cases` joins the two.  Rests on Props/C03.lean (`applyOne`) and Props/C04Order.lean (`fromEtree_is_construct`);
Lemmas/C04Groom.lean, and with it the tree route of C04, rests on `fold_slots`.
-/
import OfxProofs.Lemmas.Groom
import OfxProofs.Props.C03
import OfxProofs.Props.C04Order
import OfxModel.Spec.DocValues
namespace Ofx.Agg
open Ofx Ofx.Spec

theorem slotOf_skip (c : Cls) (rn : Bool) (tag : Str)
    (h : '.' ∈ (effTag c rn tag).1 ∨ c.spec.find? (fun a => a.name = lower (effTag c rn tag).1) = none) :
    slotOf c rn tag = (.skip, (effTag c rn tag).2) := by
  unfold slotOf
  by_cases hd : (effTag c rn tag).1.contains '.' = true
  · simp only [hd, if_true]
  · rcases h with h | h
    · exact absurd (by simpa using h) hd
    · simp only [hd, Bool.false_eq_true, if_false, h]

theorem slotOf_found (c : Cls) (rn : Bool) (tag : Str) (a : Attr) (hd : '.' ∉ (effTag c rn tag).1)
    (hf : c.spec.find? (fun a => a.name = lower (effTag c rn tag).1) = some a) :
    slotOf c rn tag =
      (if a.kind.isUnsupported then .unsup a else if repeated c a then .member a else .field a, (effTag c rn tag).2) := by
  unfold slotOf
  have hd : (effTag c rn tag).1.contains '.' = false := by simpa using hd
  simp only [hd, Bool.false_eq_true, if_false, hf]
  split
  · rfl
  · split <;> rfl

theorem slotOf_cases (c : Cls) (rn : Bool) (tag : Str) :
    slotOf c rn tag = (.skip, (effTag c rn tag).2) ∨
    ∃ a, a ∈ c.spec ∧ a.name = lower (effTag c rn tag).1 ∧ '.' ∉ (effTag c rn tag).1 ∧ slotOf c rn tag =
      (if a.kind.isUnsupported then .unsup a else if repeated c a then .member a else .field a, (effTag c rn tag).2) := by
  by_cases hd : '.' ∈ (effTag c rn tag).1
  · exact Or.inl (slotOf_skip c rn tag (Or.inl hd))
  · cases hf : c.spec.find? (fun a => a.name = lower (effTag c rn tag).1) with
    | none => exact Or.inl (slotOf_skip c rn tag (Or.inr hf))
    | some a =>
      exact Or.inr ⟨a, List.mem_of_find?_eq_some hf, by simpa using List.find?_some hf, hd, slotOf_found c rn tag a hd hf⟩

theorem slotOf_snd (c : Cls) (rn : Bool) (tag : Str) : (slotOf c rn tag).2 = (effTag c rn tag).2 := by
  rcases slotOf_cases c rn tag with h | ⟨_, _, _, _, h⟩ <;> rw [h]

theorem slotOf_field (c : Cls) (rn rn' : Bool) (tag : Str) (a : Attr) (h : slotOf c rn tag = (.field a, rn')) :
    a ∈ c.spec ∧ a.kind.isUnsupported = false ∧ repeated c a = false ∧
      a.name = lower (effTag c rn tag).1 ∧ '.' ∉ (effTag c rn tag).1 := by
  rcases slotOf_cases c rn tag with he | ⟨b, hb, hn, hd, he⟩ <;> rw [he] at h
  · cases h
  · cases hu : b.kind.isUnsupported <;> cases hr : repeated c b <;> simp only [hu, hr] at h <;> cases h
    exact ⟨hb, hu, hr, hn, hd⟩

theorem slotOf_member (c : Cls) (rn rn' : Bool) (tag : Str) (a : Attr) (h : slotOf c rn tag = (.member a, rn')) :
    a ∈ c.spec ∧ a.kind.isUnsupported = false ∧ repeated c a = true := by
  rcases slotOf_cases c rn tag with he | ⟨b, hb, _, _, he⟩ <;> rw [he] at h
  · cases h
  · cases hu : b.kind.isUnsupported <;> cases hr : repeated c b <;> simp only [hu, hr] at h <;> cases h
    exact ⟨hb, hu, hr⟩

theorem slotOf_field_of (c : Cls) (hnd : (c.spec.map (·.name)).Nodup) (rn : Bool) (tag : Str) (a : Attr)
    (ha : a ∈ c.spec) (hname : a.name = lower (effTag c rn tag).1) (hdot : '.' ∉ (effTag c rn tag).1)
    (hl : a.kind.isList = false) (hu : a.kind.isUnsupported = false) :
    slotOf c rn tag = (.field a, (effTag c rn tag).2) := by
  have hf : c.spec.find? (fun a => a.name = lower (effTag c rn tag).1) = some a := by
    cases hf : c.spec.find? (fun a => a.name = lower (effTag c rn tag).1) with
    | none => exact absurd hname (by simpa using List.find?_eq_none.mp hf a ha)
    | some b =>
      rw [nodup_map_inj hnd (List.mem_of_find?_eq_some hf) ha
        ((by simpa using List.find?_some hf : b.name = _).trans hname.symm)]
  rw [slotOf_found c rn tag a hdot hf, hu, repeated_of_nonlist c a hl]; rfl

def SlotStep (acc acc1 : Accum) (ch : Tree) (sub : PyM Node) : Slot × Bool → Prop
  | (.skip, rn) => acc1.kwargs = acc.kwargs ∧ acc1.args = acc.args ∧ acc1.renamed = rn
  | (.unsup a, rn) =>
    acc1.kwargs = acc.kwargs ++ [(a.name, .val .none)] ∧ hasKey a.name acc.kwargs = false ∧
      acc1.args = acc.args ∧ acc1.renamed = rn
  | (.field a, rn) =>
    ∃ raw, childValue ch sub = .ok raw ∧ acc1.kwargs = acc.kwargs ++ [(a.name, raw)] ∧
      hasKey a.name acc.kwargs = false ∧ acc1.args = acc.args ∧ acc1.renamed = rn
  | (.member _, rn) =>
    ∃ raw, childValue ch sub = .ok raw ∧ acc1.kwargs = acc.kwargs ∧ acc1.args = acc.args ++ [raw] ∧
      acc1.renamed = rn

theorem updateArgs_slot (c : Cls) (hnd : (c.spec.map (·.name)).Nodup) (acc acc1 : Accum) (ch : Tree)
    (sub : PyM Node) (h : updateArgs c acc ch sub = .ok acc1) :
    SlotStep acc acc1 ch sub (slotOf c acc.renamed ch.tag) := by
  obtain ⟨hrn, hstep⟩ := updateArgs_eff_ok h
  have hf := specIndex_find c (lower (effTag c acc.renamed ch.tag).1)
  rcases hstep with ⟨hk, ha, hsk⟩ | ⟨idx, raw, hd, hidx, hv, hcase⟩
  · rw [slotOf_skip c _ _ (hsk.imp id fun hi => by rw [hi] at hf; exact hf)]
    exact ⟨hk, ha, hrn⟩
  · rw [hidx] at hf
    obtain ⟨a, hfa, hget, hname, hmem⟩ := hf
    rw [show unsupportedAt c idx = a.kind.isUnsupported by simp [unsupportedAt, hget]] at hv
    rw [← hname, isListMember_eq_repeated c hnd a hmem] at hcase
    rw [slotOf_found c _ _ a hd hfa]
    cases hu : a.kind.isUnsupported with
    | true =>
      rw [hu, if_pos rfl] at hv
      subst hv
      rcases hcase with ⟨hr, _⟩ | ⟨_, hkey, hk, ha⟩
      · rw [repeated_of_unsupported c a hu] at hr; cases hr
      · exact ⟨hk, hkey, ha, hrn⟩
    | false =>
      rw [hu, if_neg (by simp)] at hv
      rcases hcase with ⟨hr, hk, ha⟩ | ⟨hr, hkey, hk, ha⟩ <;> simp only [hr, Bool.false_eq_true, if_false, if_true]
      · exact ⟨raw, hv, hk, ha, hrn⟩
      · exact ⟨raw, hv, hk, hkey, ha, hrn⟩

theorem docElemsIn_eq (S : Schema) (c : Cls) : ∀ (ts : List Tree) (rn : Bool) (pos : Nat),
    docElemsIn S c rn pos ts = (slots c rn pos ts).flatMap (slotElems S c)
  | [], rn, pos => by simp [docElemsIn, slots]
  | ch :: rest, rn, pos => by
    simp only [docElemsIn, slots]
    cases h : slotOf c rn ch.tag with
    | mk sl rn' =>
      cases sl <;> simp [slotElems, docElemsIn_eq S c rest]

theorem slots_facts (c : Cls) : ∀ (ts : List Tree) (rn : Bool) (pos : Nat) (st : Step) (a : Attr) (ch : Tree),
    (st, a, ch) ∈ slots c rn pos ts →
    ch ∈ ts ∧ a ∈ c.spec ∧ a.kind.isUnsupported = false ∧
      ((st = .attr a.name ∧ repeated c a = false) ∨ (∃ j, st = .item j ∧ pos ≤ j ∧ repeated c a = true))
  | [], rn, pos, st, a, ch, h => by simp [slots] at h
  | t :: rest, rn, pos, st, a, ch, h => by
    simp only [slots] at h
    cases hs : slotOf c rn t.tag with
    | mk sl rn' =>
      rw [hs] at h
      cases sl with
      | skip =>
        obtain ⟨h1, h2⟩ := slots_facts c rest rn' pos st a ch h
        exact ⟨by simp [h1], h2⟩
      | unsup b =>
        obtain ⟨h1, h2⟩ := slots_facts c rest rn' pos st a ch h
        exact ⟨by simp [h1], h2⟩
      | field b =>
        simp only [List.mem_cons, Prod.mk.injEq] at h
        rcases h with ⟨rfl, rfl, rfl⟩ | h
        · obtain ⟨k1, k2, k3, _⟩ := slotOf_field c rn rn' _ _ hs
          exact ⟨by simp, k1, k2, Or.inl ⟨rfl, k3⟩⟩
        · obtain ⟨h1, h2⟩ := slots_facts c rest rn' pos st a ch h
          exact ⟨by simp [h1], h2⟩
      | member b =>
        simp only [List.mem_cons, Prod.mk.injEq] at h
        rcases h with ⟨rfl, rfl, rfl⟩ | h
        · obtain ⟨k1, k2, k3⟩ := slotOf_member c rn rn' _ _ hs
          exact ⟨by simp, k1, k2, Or.inr ⟨pos, rfl, Nat.le_refl _, k3⟩⟩
        · obtain ⟨h1, h2, h3, h4⟩ := slots_facts c rest rn' (pos + 1) st a ch h
          refine ⟨by simp [h1], h2, h3, ?_⟩
          rcases h4 with h4 | ⟨j, hj, hle, hr⟩
          · exact Or.inl h4
          · exact Or.inr ⟨j, hj, by omega, hr⟩

theorem slots_mid (c : Cls) (ch : Tree) (post : List Tree) (a : Attr) (r2 : Bool) :
    ∀ (pre : List Tree) (rn : Bool) (pos : Nat),
    slotOf c (renamedAfter c rn pre) ch.tag = (.field a, r2) →
    (Step.attr a.name, a, ch) ∈ slots c rn pos (pre ++ ch :: post)
  | [], rn, pos, h => by
    simp only [renamedAfter] at h
    simp [slots, h]
  | t :: pre, rn, pos, h => by
    simp only [renamedAfter] at h
    have hrn := slotOf_snd c rn t.tag
    simp only [List.cons_append, slots]
    cases hs : slotOf c rn t.tag with
    | mk sl rn' =>
      rw [hs] at hrn; simp only at hrn; subst hrn
      cases sl with
      | skip => exact slots_mid c ch post a r2 pre _ pos h
      | unsup b => exact slots_mid c ch post a r2 pre _ pos h
      | field b => exact List.mem_cons_of_mem _ (slots_mid c ch post a r2 pre _ pos h)
      | member b => exact List.mem_cons_of_mem _ (slots_mid c ch post a r2 pre _ (pos + 1) h)

theorem slots_split (c : Cls) (n : Str) (a : Attr) (ch : Tree) : ∀ (ts : List Tree) (rn : Bool) (pos : Nat),
    (Step.attr n, a, ch) ∈ slots c rn pos ts →
    ∃ pre post r2, ts = pre ++ ch :: post ∧ n = a.name ∧ slotOf c (renamedAfter c rn pre) ch.tag = (.field a, r2)
  | [], rn, pos, h => by simp [slots] at h
  | t :: rest, rn, pos, h => by
    simp only [slots] at h
    have hrn := slotOf_snd c rn t.tag
    have lift : (∃ pre post r2, rest = pre ++ ch :: post ∧ n = a.name ∧
        slotOf c (renamedAfter c (effTag c rn t.tag).2 pre) ch.tag = (.field a, r2)) →
        ∃ pre post r2, t :: rest = pre ++ ch :: post ∧ n = a.name ∧
          slotOf c (renamedAfter c rn pre) ch.tag = (.field a, r2) := by
      rintro ⟨pre, post, r2, h1, h2⟩
      exact ⟨t :: pre, post, r2, by rw [h1]; rfl, h2⟩
    cases hs : slotOf c rn t.tag with
    | mk sl rn' =>
      rw [hs] at h hrn; simp only at hrn; subst hrn
      cases sl with
      | skip => exact lift (slots_split c n a ch rest _ pos h)
      | unsup b => exact lift (slots_split c n a ch rest _ pos h)
      | field b =>
        simp only [List.mem_cons, Prod.mk.injEq, Step.attr.injEq] at h
        rcases h with ⟨rfl, rfl, rfl⟩ | h
        · exact ⟨[], rest, _, rfl, rfl, hs⟩
        · exact lift (slots_split c n a ch rest _ pos h)
      | member b =>
        simp only [List.mem_cons, Prod.mk.injEq, reduceCtorEq, false_and, false_or] at h
        exact lift (slots_split c n a ch rest _ (pos + 1) h)

theorem not_mem_keys_of_hasKey {α} (k : Str) : ∀ (l : List (Str × α)), hasKey k l = false → k ∉ l.map (·.1) :=
  fun l h hm => by rw [(hasKey_iff_mem k l).mpr hm] at h; cases h

/-- what a fold that started with `args0`, `kw0` has collected.  Positions in `slots` count from `args0.length`: a
    member stands where the number of positional arguments before it says.  `raw = .val .none` in `bwd_kw` is a child
    under an unsupported attribute. -/
structure FoldFacts (S : Schema) (cv : Conv) (c : Cls) (ts : List Tree) (rn : Bool) (args0 : List Node)
    (kw0 : List (Str × Node)) (acc' : Accum) : Prop where
  fwd_attr : ∀ n a ch, (Step.attr n, a, ch) ∈ slots c rn args0.length ts →
    ∃ raw, childValue ch (fromEtree S cv ch) = .ok raw ∧ (n, raw) ∈ acc'.kwargs
  fwd_item : ∀ j a ch, (Step.item j, a, ch) ∈ slots c rn args0.length ts →
    ∃ raw, childValue ch (fromEtree S cv ch) = .ok raw ∧ acc'.args[j]? = some raw
  bwd_kw : ∀ n raw, (n, raw) ∈ acc'.kwargs → (n, raw) ∈ kw0 ∨ raw = .val .none ∨
    ∃ a ch, (Step.attr n, a, ch) ∈ slots c rn args0.length ts ∧ childValue ch (fromEtree S cv ch) = .ok raw
  bwd_arg : ∀ j raw, acc'.args[j]? = some raw → args0[j]? = some raw ∨
    ∃ a ch, (Step.item j, a, ch) ∈ slots c rn args0.length ts ∧ childValue ch (fromEtree S cv ch) = .ok raw
  kw_ext : ∃ kws, acc'.kwargs = kw0 ++ kws
  arg_ext : ∃ as, acc'.args = args0 ++ as
  nodup : (kw0.map (·.1)).Nodup → (acc'.kwargs.map (·.1)).Nodup

theorem fold_slots (S : Schema) (cv : Conv) (c : Cls) (hnd : (c.spec.map (·.name)).Nodup) :
    ∀ (ts : List Tree) (acc acc' : Accum), foldChildren c ts (childInsts S cv ts) acc = .ok acc' →
    FoldFacts S cv c ts acc.renamed acc.args acc.kwargs acc'
  | [], acc, acc', h => by
    simp only [foldChildren] at h
    injection h with h; subst h
    exact ⟨by simp [slots], by simp [slots], fun n raw hm => Or.inl hm, fun j raw hj => Or.inl hj,
      ⟨[], by simp⟩, ⟨[], by simp⟩, id⟩
  | t :: rest, acc, acc', h => by
    simp only [childInsts, foldChildren] at h
    obtain ⟨acc1, hu, h⟩ := PyM.bind_ok h
    have ih := fold_slots S cv c hnd rest acc1 acc' h
    have hs := updateArgs_slot c hnd acc acc1 t _ hu
    cases hsl : slotOf c acc.renamed t.tag with
    | mk sl rn' =>
      rw [hsl] at hs
      cases sl with
      | skip =>
        obtain ⟨hk, ha, hr⟩ := hs
        rw [hk, ha, hr] at ih
        have hsl' : slots c acc.renamed acc.args.length (t :: rest) = slots c rn' acc.args.length rest := by
          simp only [slots, hsl]
        obtain ⟨f1, f2, b1, b2, e1, e2, nd⟩ := ih
        exact ⟨by rw [hsl']; exact f1, by rw [hsl']; exact f2, by rw [hsl']; exact b1, by rw [hsl']; exact b2,
          e1, e2, nd⟩
      | unsup b =>
        obtain ⟨hk, hkey, ha, hr⟩ := hs
        rw [hk, ha, hr] at ih
        have hsl' : slots c acc.renamed acc.args.length (t :: rest) = slots c rn' acc.args.length rest := by
          simp only [slots, hsl]
        obtain ⟨f1, f2, b1, b2, ⟨kws, e1⟩, e2, nd⟩ := ih
        refine ⟨by rw [hsl']; exact f1, by rw [hsl']; exact f2, ?_, by rw [hsl']; exact b2,
          ⟨(b.name, .val .none) :: kws, by rw [e1]; simp⟩, e2, ?_⟩
        · rw [hsl']
          intro n raw hm
          rcases b1 n raw hm with h0 | h0 | h0
          · simp only [List.mem_append, List.mem_singleton, Prod.mk.injEq] at h0
            rcases h0 with h0 | ⟨_, rfl⟩
            · exact Or.inl h0
            · exact Or.inr (Or.inl rfl)
          · exact Or.inr (Or.inl h0)
          · exact Or.inr (Or.inr h0)
        · intro hn
          apply nd
          rw [List.map_append, List.nodup_append]
          refine ⟨hn, by simp, ?_⟩
          intro x hx y hy
          simp only [List.map_cons, List.map_nil, List.mem_singleton] at hy
          subst hy
          intro e; subst e
          exact not_mem_keys_of_hasKey _ _ hkey hx
      | field b =>
        obtain ⟨raw0, hv, hk, hkey, ha, hr⟩ := hs
        rw [hk, ha, hr] at ih
        have hsl' : slots c acc.renamed acc.args.length (t :: rest) =
            (.attr b.name, b, t) :: slots c rn' acc.args.length rest := by
          simp only [slots, hsl]
        obtain ⟨f1, f2, b1, b2, ⟨kws, e1⟩, e2, nd⟩ := ih
        refine ⟨?_, ?_, ?_, ?_, ⟨(b.name, raw0) :: kws, by rw [e1]; simp⟩, e2, ?_⟩
        · rw [hsl']
          intro n a ch hm
          simp only [List.mem_cons, Prod.mk.injEq, Step.attr.injEq] at hm
          rcases hm with ⟨rfl, rfl, rfl⟩ | hm
          · exact ⟨raw0, hv, by rw [e1]; simp⟩
          · exact f1 n a ch hm
        · rw [hsl']
          intro j a ch hm
          simp only [List.mem_cons, Prod.mk.injEq, reduceCtorEq, false_and, false_or] at hm
          exact f2 j a ch hm
        · rw [hsl']
          intro n raw hm
          rcases b1 n raw hm with h0 | h0 | ⟨a, ch, h0, h1⟩
          · simp only [List.mem_append, List.mem_singleton, Prod.mk.injEq] at h0
            rcases h0 with h0 | ⟨rfl, rfl⟩
            · exact Or.inl h0
            · exact Or.inr (Or.inr ⟨b, t, by simp, hv⟩)
          · exact Or.inr (Or.inl h0)
          · exact Or.inr (Or.inr ⟨a, ch, by simp [h0], h1⟩)
        · rw [hsl']
          intro j raw hj
          rcases b2 j raw hj with h0 | ⟨a, ch, h0, h1⟩
          · exact Or.inl h0
          · exact Or.inr ⟨a, ch, by simp [h0], h1⟩
        · intro hn
          apply nd
          rw [List.map_append, List.nodup_append]
          refine ⟨hn, by simp, ?_⟩
          intro x hx y hy
          simp only [List.map_cons, List.map_nil, List.mem_singleton] at hy
          subst hy
          intro e; subst e
          exact not_mem_keys_of_hasKey _ _ hkey hx
      | member b =>
        obtain ⟨raw0, hv, hk, ha, hr⟩ := hs
        rw [hk, ha, hr] at ih
        have hlen : (acc.args ++ [raw0]).length = acc.args.length + 1 := by simp
        have hsl' : slots c acc.renamed acc.args.length (t :: rest) =
            (.item acc.args.length, b, t) :: slots c rn' (acc.args.length + 1) rest := by
          simp only [slots, hsl]
        obtain ⟨f1, f2, b1, b2, e1, ⟨as, e2⟩, nd⟩ := ih
        rw [hlen] at f1 f2 b1 b2
        refine ⟨?_, ?_, ?_, ?_, e1, ⟨raw0 :: as, by rw [e2]; simp⟩, nd⟩
        · rw [hsl']
          intro n a ch hm
          simp only [List.mem_cons, Prod.mk.injEq, reduceCtorEq, false_and, false_or] at hm
          exact f1 n a ch hm
        · rw [hsl']
          intro j a ch hm
          simp only [List.mem_cons, Prod.mk.injEq, Step.item.injEq] at hm
          rcases hm with ⟨rfl, rfl, rfl⟩ | hm
          · exact ⟨raw0, hv, by rw [e2]; simp⟩
          · exact f2 j a ch hm
        · rw [hsl']
          intro n raw hm
          rcases b1 n raw hm with h0 | h0 | ⟨a, ch, h0, h1⟩
          · exact Or.inl h0
          · exact Or.inr (Or.inl h0)
          · exact Or.inr (Or.inr ⟨a, ch, by simp [h0], h1⟩)
        · rw [hsl']
          intro j raw hj
          rcases b2 j raw hj with h0 | ⟨a, ch, h0, h1⟩
          · by_cases hlt : j < acc.args.length
            · left
              rw [List.getElem?_append_left hlt] at h0
              exact h0
            · right
              rw [List.getElem?_append_right (by omega)] at h0
              have hj0 : j - acc.args.length = 0 := by
                cases hd : j - acc.args.length with
                | zero => rfl
                | succ k => rw [hd] at h0; simp at h0
              have hje : j = acc.args.length := by omega
              rw [hj0] at h0
              simp only [List.getElem?_cons_zero, Option.some.injEq] at h0
              subst h0
              exact ⟨b, t, by simp [hje], hv⟩
          · exact Or.inr ⟨a, ch, by simp [h0], h1⟩

theorem mem_instValues_val (v : Val) (p : Path) (w : Val) :
    (p, w) ∈ instValues (.val v) ↔ p = [] ∧ w = v ∧ v ≠ .none := by
  cases v <;> simp [instValues]

def entries (fields : List (Str × Node)) (items : List Node) : List (Step × Node) :=
  fields.map (fun p => (Step.attr p.1, p.2)) ++ items.zipIdx.map (fun p => (Step.item p.2, p.1))

def under (e : Step × Node) : List (Path × Val) := (instValues e.2).map (underP e.1)

theorem fieldValues_eq : ∀ fields : List (Str × Node),
    fieldValues fields = (fields.map (fun p => (Step.attr p.1, p.2))).flatMap under
  | [] => rfl
  | (n, x) :: r => by simp only [fieldValues, fieldValues_eq r, List.map_cons, List.flatMap_cons, under]

theorem itemValues_eq : ∀ (items : List Node) (i : Nat),
    itemValues i items = ((items.zipIdx i).map (fun p => (Step.item p.2, p.1))).flatMap under
  | [], _ => rfl
  | x :: r, i => by
    simp only [itemValues, itemValues_eq r, List.zipIdx_cons, List.map_cons, List.flatMap_cons, under]

theorem instValues_agg (ci : Nat) (fields : List (Str × Node)) (items : List Node) :
    instValues (.agg ci fields items) = (entries fields items).flatMap under := by
  simp only [instValues, entries, List.flatMap_append, fieldValues_eq, itemValues_eq]

theorem mem_entries {fields : List (Str × Node)} {items : List Node} {st : Step} {w : Node} :
    (st, w) ∈ entries fields items ↔
      (∃ n, st = .attr n ∧ (n, w) ∈ fields) ∨ (∃ j, st = .item j ∧ items[j]? = some w) := by
  simp only [entries, List.mem_append, List.mem_map, Prod.mk.injEq, Prod.exists, List.mem_zipIdx_iff_getElem?]
  constructor
  · rintro (⟨n, x, h, rfl, rfl⟩ | ⟨x, j, h, rfl, rfl⟩)
    · exact Or.inl ⟨n, rfl, h⟩
    · exact Or.inr ⟨j, rfl, h⟩
  · rintro (⟨n, rfl, h⟩ | ⟨j, rfl, h⟩)
    · exact Or.inl ⟨n, w, h, rfl, rfl⟩
    · exact Or.inr ⟨w, j, h, rfl, rfl⟩

theorem nodup_map_of_inj {α β} {f : α → β} (hf : ∀ a b, f a = f b → a = b) {l : List α} (h : l.Nodup) :
    (l.map f).Nodup :=
  List.pairwise_map.mpr (h.imp fun hab e => hab (hf _ _ e))

theorem entries_steps_nodup {fields : List (Str × Node)} (items : List Node) (h : (fields.map (·.1)).Nodup) :
    ((entries fields items).map (·.1)).Nodup := by
  have hi : ((items.zipIdx.map (fun p => (Step.item p.2, p.1))).map (·.1)).Nodup := by
    rw [List.map_map]
    show (items.zipIdx.map (Step.item ∘ Prod.snd)).Nodup
    rw [← List.map_map, List.zipIdx_map_snd]
    exact nodup_map_of_inj (fun a b e => by injection e) (List.nodup_range' 1)
  have hf : ((fields.map (fun p => (Step.attr p.1, p.2))).map (·.1)).Nodup := by
    rw [List.map_map]
    show (fields.map (Step.attr ∘ Prod.fst)).Nodup
    rw [← List.map_map]
    exact nodup_map_of_inj (fun a b e => by injection e) h
  simp only [entries, List.map_append, List.nodup_append]
  refine ⟨hf, hi, ?_⟩
  intro a ha b hb e
  simp only [List.mem_map] at ha hb
  obtain ⟨_, ⟨_, _, rfl⟩, rfl⟩ := ha
  obtain ⟨_, ⟨_, _, rfl⟩, rfl⟩ := hb
  cases e

theorem under_paths_nodup {l : List (Step × Node)} (hk : (l.map (·.1)).Nodup)
    (hx : ∀ e ∈ l, ((instValues e.2).map (·.1)).Nodup) : ((l.flatMap under).map (·.1)).Nodup := by
  rw [List.map_flatMap]
  refine List.pairwise_flatMap.mpr ⟨fun e he => ?_, (List.pairwise_map.mp hk).imp ?_⟩
  · simp only [under, List.map_map]
    show ((instValues e.2).map ((fun p => e.1 :: p) ∘ Prod.fst)).Nodup
    rw [← List.map_map]
    exact nodup_map_of_inj (fun a b e' => by injection e') (hx e he)
  · intro a b hab p hp q hq e
    simp only [under, List.mem_map, underP] at hp hq
    obtain ⟨_, ⟨_, _, rfl⟩, rfl⟩ := hp
    obtain ⟨_, ⟨_, _, rfl⟩, hq⟩ := hq
    rw [← hq] at e
    exact hab (by injection e)

theorem mem_instValues_under {ci : Nat} {fields : List (Str × Node)} {items : List Node} {p : Path} {v : Val} :
    (p, v) ∈ instValues (.agg ci fields items) ↔
      ∃ st w p', (st, w) ∈ entries fields items ∧ (p', v) ∈ instValues w ∧ p = st :: p' := by
  simp only [instValues_agg, List.mem_flatMap, under, List.mem_map, underP, Prod.mk.injEq, Prod.exists]
  constructor
  · rintro ⟨st, w, he, p', _, hp, rfl, rfl⟩
    exact ⟨st, w, p', he, hp, rfl⟩
  · rintro ⟨st, w, p', he, hp, rfl⟩
    exact ⟨st, w, he, p', v, hp, rfl, rfl⟩

theorem fromEtree_agg (S : Schema) (cv : Conv) (t : Tree) (n : Node) (h : fromEtree S cv t = .ok n) :
    ∃ ck f i, n = .agg ck f i := by
  cases t with
  | node tag x tl children =>
    obtain ⟨ci, args, kw, _, hc⟩ := fromEtree_is_construct S cv tag x tl children n h
    obtain ⟨_, f, i, _, _, _, _, _, hn⟩ := (construct_ok_iff S cv ci args kw n).mp hc
    exact ⟨ci, f, i, hn⟩

theorem fieldElems_text (a : Attr) (ch : Tree) (sub : List DocElem) (x : Char) (xs : Str)
    (h : ch.text = some (x :: xs)) :
    fieldElems a ch sub = if isElemKind a.kind then [⟨[.attr a.name], a.kind, a.required, x :: xs⟩] else [] := by
  simp [fieldElems, h]

theorem fieldElems_notext (a : Attr) (ch : Tree) (sub : List DocElem) (h : ch.text = none ∨ ch.text = some []) :
    fieldElems a ch sub = match a.kind with
      | .sub _ => sub.map (DocElem.under (.attr a.name))
      | _ => [] := by
  rcases h with h | h <;> simp only [fieldElems, h] <;> cases a.kind <;> rfl

theorem memberElems_text (c : Cls) (pos : Nat) (a : Attr) (ch : Tree) (sub : List DocElem) (x : Char) (xs : Str)
    (h : ch.text = some (x :: xs)) :
    memberElems c pos a ch sub = match a.kind with
      | .listElem inner ireq => if c.elementList then [⟨[.item pos], inner, ireq, x :: xs⟩] else []
      | _ => [] := by
  simp only [memberElems, h]; cases a.kind <;> rfl

theorem memberElems_notext (c : Cls) (pos : Nat) (a : Attr) (ch : Tree) (sub : List DocElem)
    (h : ch.text = none ∨ ch.text = some []) :
    memberElems c pos a ch sub = if c.elementList then [] else sub.map (DocElem.under (.item pos)) := by
  rcases h with h | h <;> simp [memberElems, h]

theorem docElems_node (S : Schema) (tag : Str) (x tl : Option Str) (children : List Tree) (ci : Nat) (c : Cls)
    (hfind : S.findIdx? tag = some ci) (hcls : S.cls? ci = some c) :
    docElems S (.node tag x tl children) = (slots c false 0 children).flatMap (slotElems S c) := by
  simp only [docElems, hfind, hcls, docElemsIn_eq]

theorem applyOne_ok {S : Schema} {cv : Conv} {c : Cls} {raw m : Node} (h : applyOne S cv c raw = .ok m) :
    (c.elementList = false ∧ m = raw ∧ ∃ ck f i, raw = .agg ck f i) ∨
    (c.elementList = true ∧ ∃ a inner ireq v, c.spec.filter (fun a => a.kind.isListElem) = [a] ∧
      a.kind = .listElem inner ireq ∧ cv.convert S.enums inner ireq (Node.toVal raw) = .ok v ∧ m = .val v) := by
  unfold applyOne at h
  split at h
  · rename_i hel
    split at h
    · rename_i a hf
      split at h
      · rename_i inner ireq hk
        obtain ⟨v, hv, rfl⟩ := PyM.map_ok h
        exact Or.inr ⟨hel, a, inner, ireq, v, hf, hk, hv, rfl⟩
      · cases h
    · cases h
  · rename_i hel
    cases raw with
    | val v => cases h
    | agg ck f i =>
      simp only [applyArg] at h
      split at h
      · injection h with h; exact Or.inl ⟨by simpa using hel, h.symm, ck, f, i, rfl⟩
      · cases h

/-- what `__init__` makes of the value collected for a slot: `setattr` for a child declared once, `_apply_args` for a
    repeated one -/
def Stored (S : Schema) (cv : Conv) (c : Cls) : Step → Attr → Node → Node → Prop
  | .attr _, a, raw, w => setAttr S cv a raw = .ok (some w)
  | .item _, _, raw, w => applyOne S cv c raw = .ok w

/-- What an addressed child stores, against what the specification lists for it.  The third case (an aggregate where
    the class expects text) is refused by any converter that refuses objects. -/
theorem slot_cases (S : Schema) (cv : Conv) (c : Cls) {ts : List Tree} {rn : Bool} {pos : Nat} {st : Step} {a : Attr}
    {ch : Tree} {raw w : Node} (hsl : (st, a, ch) ∈ slots c rn pos ts)
    (hv : childValue ch (fromEtree S cv ch) = .ok raw) (hw : Stored S cv c st a raw w) :
    (∃ x xs k r v, ch.text = some (x :: xs) ∧ w = .val v ∧ cv.convert S.enums k r (.str (x :: xs)) = .ok v ∧
        slotElems S c (st, a, ch) = [⟨[st], k, r, x :: xs⟩]) ∨
    (∃ ck f i, fromEtree S cv ch = .ok (.agg ck f i) ∧ w = .agg ck f i ∧
        slotElems S c (st, a, ch) = (docElems S ch).map (DocElem.under st)) ∨
    (∃ k r v, w = .val v ∧ cv.convert S.enums k r (.other "Aggregate") = .ok v ∧ slotElems S c (st, a, ch) = []) := by
  obtain ⟨_, ha, _, hst⟩ := slots_facts c ts rn pos st a ch hsl
  rcases childValue_ok hv with ⟨x, xs, htx, rfl⟩ | ⟨hno, hsub⟩
  · left
    rcases hst with ⟨rfl, _⟩ | ⟨j, rfl, _, hrep⟩
    · rcases setAttr_stored hw with ⟨_, _, _, h0 | ⟨_, _, _, h0⟩⟩ | ⟨hek, v, hcv, rfl⟩
      · cases h0
      · cases h0
      · exact ⟨x, xs, _, _, v, htx, rfl, hcv, by rw [slotElems, fieldElems_text a ch _ x xs htx, hek]; rfl⟩
    · rcases applyOne_ok hw with ⟨_, _, _, _, _, h0⟩ | ⟨hel, a', inner, ireq, v, hfil, hk, hcv, rfl⟩
      · cases h0
      · have hin : a ∈ c.spec.filter (fun a => a.kind.isListElem) :=
          List.mem_filter.mpr ⟨ha, by simpa [repeated, hel] using hrep⟩
        rw [hfil, List.mem_singleton] at hin
        subst hin
        exact ⟨x, xs, inner, ireq, v, htx, rfl, hcv, by rw [slotElems, memberElems_text c j a ch _ x xs htx, hk, hel]; rfl⟩
  · right
    obtain ⟨ck, f, i, rfl⟩ := fromEtree_agg S cv ch raw hsub
    rcases hst with ⟨rfl, _⟩ | ⟨j, rfl, _, _⟩
    · rw [slotElems, fieldElems_notext a ch _ hno]
      rcases setAttr_stored hw with ⟨t, hk, rfl, _⟩ | ⟨hek, v, hcv, rfl⟩
      · exact Or.inl ⟨ck, f, i, hsub, rfl, by rw [hk]⟩
      · exact Or.inr ⟨_, _, v, rfl, hcv, by cases hk : a.kind <;> simp_all [isElemKind]⟩
    · rw [slotElems, memberElems_notext c j a ch _ hno]
      rcases applyOne_ok hw with ⟨hel, rfl, _⟩ | ⟨hel, _, inner, ireq, v, _, _, hcv, rfl⟩
      · exact Or.inl ⟨ck, f, i, hsub, rfl, by rw [hel]; rfl⟩
      · exact Or.inr ⟨_, _, v, rfl, hcv, by rw [hel]; rfl⟩

theorem tree_ind_list (P : Tree → Prop)
    (step : ∀ tag x tl children, (∀ ch ∈ children, P ch) → P (.node tag x tl children)) :
    ∀ (ts : List Tree), ∀ ch ∈ ts, P ch :=
  fun _ ch _ => Tree.induct step ch

end Ofx.Agg
