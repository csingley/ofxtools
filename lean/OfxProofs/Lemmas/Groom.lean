/-
The `groom` / `ungroom` rename (MFINFO, STOCKINFO: YLD ↔ YIELD; MAIL: FRM ↔ FROM).  `to_etree` renames the first child
tagged `u.fromTag` to `u.toTag`; `from_etree` renames the first child tagged `r.fromTag` back to `r.toTag` before
converting.  When the two are inverse, the written children hold no `r.fromTag` of their own and the renamed child is a
data element, reading the renamed list with `c` is reading the original list with `noGroom c` (the class with both hooks
taken off), up to the "already renamed" flag (`SameBut`): `fold_groom`.  `GroomOk`, defined after it, packs what it asks
of the class; it is the `NodeOk.gr` of Lemmas/NodeRT.lean.
-/
import OfxProofs.Lemmas.AggRound
namespace Ofx.Agg
open Ofx

def noGroom (c : Cls) : Cls := { c with groom := none, ungroom := none }

theorem stepCore_noGroom (c : Cls) (acc : Accum) (tag : Str) (value : PyM Node) :
    stepCore (noGroom c) acc tag value = stepCore c acc tag value := rfl

def SameBut (a b : Accum) : Prop :=
  a.args = b.args ∧ a.kwargs = b.kwargs ∧ a.prev = b.prev ∧ a.prevIsList = b.prevIsList

theorem SameBut.refl (a : Accum) : SameBut a a := ⟨rfl, rfl, rfl, rfl⟩

theorem stepCore_sameBut (c : Cls) (a b : Accum) (tag : Str) (value : PyM Node) (h : SameBut a b) :
    (∃ e, stepCore c a tag value = .error e ∧ stepCore c b tag value = .error e) ∨
    (∃ a' b', stepCore c a tag value = .ok a' ∧ stepCore c b tag value = .ok b' ∧ SameBut a' b' ∧
      a'.renamed = a.renamed ∧ b'.renamed = b.renamed) := by
  obtain ⟨h1, h2, h3, h4⟩ := h
  cases hidx : specIndex c (lower tag) with
  | none =>
    refine Or.inr ⟨a, b, ?_, ?_, ⟨h1, h2, h3, h4⟩, rfl, rfl⟩ <;> simp only [stepCore, hidx]
  | some idx =>
    simp only [stepCore, hidx, h3, h4]
    by_cases ho : (outOfOrder b.prev idx && !(isListMember c (lower tag) && b.prevIsList)) = true
    · rw [if_pos ho, if_pos ho]; exact Or.inl ⟨_, rfl, rfl⟩
    · rw [if_neg ho, if_neg ho]
      generalize (if unsupportedAt c idx = true then (Except.ok (Node.val Val.none) : PyM Node) else value) = rv
      cases rv with
      | error e => exact Or.inl ⟨e, rfl, rfl⟩
      | ok v =>
        simp only [PyM.ok_bind]
        by_cases hl : isListMember c (lower tag) = true
        · rw [if_pos hl, if_pos hl]
          exact Or.inr ⟨_, _, rfl, rfl, ⟨by simp [h1], h2, rfl, rfl⟩, rfl, rfl⟩
        · rw [if_neg hl, if_neg hl, h2]
          by_cases hk : hasKey (lower tag) b.kwargs = true
          · rw [if_pos hk, if_pos hk]; exact Or.inl ⟨_, rfl, rfl⟩
          · rw [if_neg hk, if_neg hk]
            exact Or.inr ⟨_, _, rfl, rfl, ⟨h1, by simp [h2], rfl, rfl⟩, rfl, rfl⟩

theorem groomTag_other (c : Cls) (r : Rename) (hg : c.groom = some r) (rn : Bool) (tag : Str)
    (h : rn = true ∨ tag ≠ r.fromTag) :
    groomTag c rn tag = (if tag.contains '.' then none else some tag, rn) := by
  unfold groomTag; rw [hg]
  rcases h with h | h
  · subst h; simp
  · simp [h]

theorem groomTag_hit (c : Cls) (r : Rename) (hg : c.groom = some r) (hdot : '.' ∉ r.toTag) :
    groomTag c false r.fromTag = (some r.toTag, true) := by
  unfold groomTag; rw [hg]
  have : r.toTag.contains '.' = false := by simpa using hdot
  simp [hdot]

theorem groomTag_noGroom (c : Cls) (rn : Bool) (tag : Str) :
    groomTag (noGroom c) rn tag = (if tag.contains '.' then none else some tag, rn) := rfl

theorem updateArgs_sim {c : Cls} {a b b1 : Accum} {t t' : Tree} {s s' : PyM Node} (hs : SameBut a b)
    (hg : (groomTag c a.renamed t'.tag).1 = (groomTag (noGroom c) b.renamed t.tag).1)
    (hv : childValue t' s' = childValue t s) (hb : updateArgs (noGroom c) b t s = .ok b1) :
    ∃ a1, updateArgs c a t' s' = .ok a1 ∧ SameBut a1 b1 ∧ a1.renamed = (groomTag c a.renamed t'.tag).2 := by
  rw [updateArgs_core] at hb ⊢
  rw [hv]
  generalize groomTag c a.renamed t'.tag = ga at hg ⊢
  generalize groomTag (noGroom c) b.renamed t.tag = gb at hg hb
  obtain ⟨oa, ra⟩ := ga
  obtain ⟨ob, rb⟩ := gb
  dsimp only at hg hb ⊢
  subst hg
  cases oa with
  | none => injection hb with hb; subst hb; exact ⟨_, rfl, hs, rfl⟩
  | some tag =>
    dsimp only at hb ⊢
    have hs' : SameBut { a with renamed := ra } { b with renamed := rb } := hs
    rcases stepCore_sameBut c _ _ tag (childValue t s) hs' with ⟨e, _, he⟩ | ⟨a1, b1', ha1, hb1, hs1, hr1, _⟩
    · rw [stepCore_noGroom, he] at hb; cases hb
    · rw [stepCore_noGroom, hb1] at hb; injection hb with hb; subst hb
      exact ⟨a1, ha1, hs1, hr1⟩

theorem fold_noHit (c : Cls) (r : Rename) (hg : c.groom = some r) :
    ∀ (L : List Tree) (ss : List (PyM Node)) (a b b' : Accum), SameBut a b →
    (a.renamed = true ∨ ∀ ch ∈ L, ch.tag ≠ r.fromTag) →
    foldChildren (noGroom c) L ss b = .ok b' →
    ∃ a', foldChildren c L ss a = .ok a' ∧ SameBut a' b'
  | [], ss, a, b, b', hs, _, h => by cases ss <;> (injection h with h; subst h; exact ⟨a, rfl, hs⟩)
  | t :: L, [], a, b, b', hs, _, h => by injection h with h; subst h; exact ⟨a, rfl, hs⟩
  | t :: L, s :: ss, a, b, b', hs, hno, h => by
    obtain ⟨b1, hu, h⟩ := PyM.bind_ok (f := foldChildren (noGroom c) L ss) h
    have hgt := groomTag_other c r hg a.renamed t.tag (hno.imp id fun h2 => h2 t (by simp))
    obtain ⟨a1, ha1, hs1, hr1⟩ := updateArgs_sim hs (by rw [hgt, groomTag_noGroom]) rfl hu
    rw [foldChildren_cons_ok L ss ha1]
    exact fold_noHit c r hg L ss a1 b1 b' hs1
      (hno.imp (fun h1 => by rw [hr1, hgt]; exact h1) fun h2 ch hch => h2 ch (by simp [hch])) h

theorem renameFirst_cons_hit (u : Rename) (x tl : Option Str) (cs : List Tree) (rest : List Tree) :
    renameFirst u (.node u.fromTag x tl cs :: rest) = .node u.toTag x tl cs :: rest := by
  simp [renameFirst]

theorem renameFirst_cons_miss (u : Rename) (t : Tree) (rest : List Tree) (h : t.tag ≠ u.fromTag) :
    renameFirst u (t :: rest) = t :: renameFirst u rest := by
  cases t with
  | node tg x tl cs => simp only [Tree.tag] at h; simp [renameFirst, h]

/-- The renamed child must carry text: the two folds convert it under different tags (`r.fromTag`, `u.fromTag`), and
    only a text makes `childValue` ignore that conversion. -/
theorem fold_groom (S : Schema) (cv : Conv) (c : Cls) (r u : Rename) (hg : c.groom = some r)
    (hinv1 : u.fromTag = r.toTag) (hinv2 : u.toTag = r.fromTag) (hdot : '.' ∉ r.toTag) :
    ∀ (L : List Tree) (a b b' : Accum), SameBut a b → a.renamed = false →
    (∀ ch ∈ L, ch.tag ≠ r.fromTag) →
    (∀ ch ∈ L, ch.tag = u.fromTag → ∃ t0 ts, ch.text = some (t0 :: ts)) →
    foldChildren (noGroom c) L (childInsts S cv L) b = .ok b' →
    ∃ a', foldChildren c (renameFirst u L) (childInsts S cv (renameFirst u L)) a = .ok a' ∧ SameBut a' b'
  | [], a, b, b', hs, _, _, _, h => by injection h with h; subst h; exact ⟨a, rfl, hs⟩
  | t :: L, a, b, b', hs, hrn, hno, htext, h => by
    rw [childInsts] at h
    obtain ⟨b1, hu, hrest⟩ := PyM.bind_ok (f := foldChildren (noGroom c) L _) h
    clear h
    by_cases hit : t.tag = u.fromTag
    · obtain ⟨t0, ts, htx⟩ := htext t (by simp) hit
      cases t with
      | node tg x tl cs =>
        simp only [Tree.tag] at hit
        simp only [Tree.text] at htx
        subst hit htx
        have hgt : groomTag c a.renamed u.toTag = (some u.fromTag, true) := by
          rw [hrn, hinv2, hinv1]; exact groomTag_hit c r hg hdot
        obtain ⟨a1, ha1, hs1, hr1⟩ := updateArgs_sim (c := c) (t' := .node u.toTag (some (t0 :: ts)) tl cs)
          (s' := fromEtree S cv (.node u.toTag (some (t0 :: ts)) tl cs)) hs
          (by simp only [Tree.tag, hgt, groomTag_noGroom, hinv1]; simp [hdot]) (by simp [childValue, Tree.text]) hu
        rw [renameFirst_cons_hit, childInsts, foldChildren_cons_ok _ _ ha1]
        exact fold_noHit c r hg L _ a1 b1 b' hs1 (Or.inl (by rw [hr1]; simp only [Tree.tag, hgt])) hrest
    · have hgt := groomTag_other c r hg a.renamed t.tag (Or.inr (hno t (by simp)))
      obtain ⟨a1, ha1, hs1, hr1⟩ := updateArgs_sim hs (by rw [hgt, groomTag_noGroom]) rfl hu
      rw [renameFirst_cons_miss u t L hit, childInsts, foldChildren_cons_ok _ _ ha1]
      exact fold_groom S cv c r u hg hinv1 hinv2 hdot L a1 b1 b' hs1 (by rw [hr1, hgt]; exact hrn)
        (fun ch hch => hno ch (by simp [hch])) (fun ch hch => htext ch (by simp [hch])) hrest

def GroomOk (c : Cls) : Prop :=
  (c.groom = none ∧ c.ungroom = none) ∨
  ∃ r u, c.groom = some r ∧ c.ungroom = some u ∧ u.fromTag = r.toTag ∧ u.toTag = r.fromTag ∧ '.' ∉ r.toTag ∧
    lower r.fromTag ∉ c.spec.map (·.name) ∧
    ∃ a ∈ c.spec, a.name = lower u.fromTag ∧ a.kind.isList = false ∧ Kind.subTarget a.kind = none

theorem noGroom_eq (c : Cls) (hg : c.groom = none) (hug : c.ungroom = none) : noGroom c = c := by
  cases c; simp_all [noGroom]

theorem clsWF_noGroom (S : Schema) (c : Cls) (wf : ClsWF S c) : ClsWF S (noGroom c) :=
  ⟨wf.nodup, wf.nameOk, wf.subOk, wf.enumOk, wf.listBlock, wf.elOk⟩

theorem listAppend_noGroom (S : Schema) (cv : Conv) (c : Cls) (items : List Node) (its : List (PyM Tree)) :
    listAppend S cv (noGroom c) items its = listAppend S cv c items its := rfl

theorem emitSpec_noGroom (S : Schema) (cv : Conv) (c : Cls) (fields : List (Str × Node))
    (fts : List (Str × PyM Tree)) (items : List Node) (its : List (PyM Tree)) :
    ∀ (L : List Attr) (d : Bool),
    emitSpec S cv (noGroom c) fields fts items its L d = emitSpec S cv c fields fts items its L d
  | [], _ => rfl
  | a :: L, d => by
    simp only [emitSpec, listAppend_noGroom, emitSpec_noGroom S cv c fields fts items its L]

theorem mapTextList_renameFirst (f : Str → Str) (u : Rename) : ∀ (L : List Tree),
    mapTextList f (renameFirst u L) = renameFirst u (mapTextList f L)
  | [] => rfl
  | .node t x tl cs :: rest => by
    by_cases h : t = u.fromTag
    · simp [renameFirst, mapTextList, mapText, h]
    · simp [renameFirst, mapTextList, mapText, h, mapTextList_renameFirst f u rest]

end Ofx.Agg
