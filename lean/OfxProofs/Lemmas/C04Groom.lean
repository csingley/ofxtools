/-
The reader on the children of a node, for every class, the three whose reader renames a child (`groom`: STOCKINFO /
MFINFO `YIELD→YLD`, MAIL `FROM→FRM`) included.  `renamedAfter` (Lemmas/Agg.lean) says whether the reader's one-off
rename has been used up after a prefix of the children, so that `effTag c (renamedAfter c false pre) ch.tag` is the tag
the child `ch` standing after `pre` is read under.  In turn: `renamedAfter` and `effTag` on a prefix; what one step
(`stepCore`) does to position and keywords, and when it fails; a failing step fails the fold and `fromEtree`
(`foldChildren_error_of_step`, `fromEtree_error_of_two`); and, through `fold_slots` (Lemmas/C03Deep.lean), the keyword
a child leaves (`kw_of_child`) and the absence of one no child names (`not_present_of_no_effTag`).
-/
import OfxProofs.Lemmas.C03Deep

namespace Ofx.Agg
open Ofx Ofx.Spec

theorem renamedAfter_append (c : Cls) : ∀ (l1 l2 : List Tree) (rn : Bool),
    renamedAfter c rn (l1 ++ l2) = renamedAfter c (renamedAfter c rn l1) l2
  | [], _, _ => rfl
  | t :: l1, l2, rn => by simp only [List.cons_append, renamedAfter]; exact renamedAfter_append c l1 l2 _

theorem renamedAfter_noGroom (c : Cls) (hg : c.groom = none) : ∀ (ts : List Tree) (rn : Bool),
    renamedAfter c rn ts = rn
  | [], _ => rfl
  | t :: ts, rn => by simp only [renamedAfter, effTag_noGroom c hg]; exact renamedAfter_noGroom c hg ts rn

theorem renamedAfter_noHit (c : Cls) (r : Rename) (hg : c.groom = some r) : ∀ (ts : List Tree),
    (∀ t ∈ ts, t.tag ≠ r.fromTag) → renamedAfter c false ts = false
  | [], _ => rfl
  | t :: ts, h => by
    have ht : t.tag ≠ r.fromTag := h t (by simp)
    have : effTag c false t.tag = (t.tag, false) := by unfold effTag; rw [hg]; simp [ht]
    simp only [renamedAfter, this]
    exact renamedAfter_noHit c r hg ts (fun u hu => h u (by simp [hu]))

theorem effTag_hit (c : Cls) (r : Rename) (hg : c.groom = some r) (pre : List Tree) (ch : Tree)
    (hpre : ∀ t ∈ pre, t.tag ≠ r.fromTag) (hch : ch.tag = r.fromTag) :
    (effTag c (renamedAfter c false pre) ch.tag).1 = r.toTag := by
  rw [renamedAfter_noHit c r hg pre hpre]; unfold effTag; rw [hg]; simp [hch]

theorem effTag_other (c : Cls) (r : Rename) (hg : c.groom = some r) (rn : Bool) (tag : Str) (h : tag ≠ r.fromTag) :
    (effTag c rn tag).1 = tag := by
  unfold effTag; rw [hg]; simp [h]

theorem updateArgs_eff (c : Cls) (acc : Accum) (ch : Tree) (sub : PyM Node) (rn : Bool) (etag : Str)
    (hr : acc.renamed = rn) (het : (effTag c rn ch.tag).1 = etag) (hdot : '.' ∉ etag) :
    updateArgs c acc ch sub =
      stepCore c { acc with renamed := (effTag c rn ch.tag).2 } etag (childValue ch sub) := by
  subst hr; subst het
  rw [updateArgs_core, groomTag_eff]
  have hd : (effTag c acc.renamed ch.tag).1.contains '.' = false := by simpa using hdot
  simp only [hd, Bool.false_eq_true, if_false]

theorem foldChildren_renamed (c : Cls) : ∀ (ts : List Tree) (ss : List (PyM Node)) (acc acc' : Accum),
    ss.length = ts.length → foldChildren c ts ss acc = .ok acc' → acc'.renamed = renamedAfter c acc.renamed ts
  | [], ss, acc, acc', _, h => by
    cases ss <;> (injection h with h; subst h; rfl)
  | t :: ts, [], acc, acc', hl, _ => by simp at hl
  | t :: ts, s :: ss, acc, acc', hl, h => by
    obtain ⟨acc1, hu, h⟩ := PyM.bind_ok (f := foldChildren c ts ss) h
    rw [foldChildren_renamed c ts ss acc1 acc' (by simpa using hl) h, (updateArgs_eff_ok hu).1]
    rfl

theorem stepCore_prev (c : Cls) (acc acc' : Accum) (tag : Str) (v : PyM Node) (idx : Nat)
    (hidx : specIndex c (lower tag) = some idx) (h : stepCore c acc tag v = .ok acc') :
    acc'.prev = some idx ∧ acc'.prevIsList = isListMember c (lower tag) := by
  rcases stepCore_ok h with ⟨hn, _⟩ | ⟨i, _, hi, _, _, ⟨hl, rfl⟩ | ⟨hl, _, rfl⟩⟩
  · rw [hidx] at hn; cases hn
  · rw [hidx] at hi; injection hi with hi; subst hi; exact ⟨rfl, hl.symm⟩
  · rw [hidx] at hi; injection hi with hi; subst hi; exact ⟨rfl, hl.symm⟩

theorem stepCore_order_error (c : Cls) (acc : Accum) (tag : Str) (v : PyM Node) (idx p : Nat)
    (hidx : specIndex c (lower tag) = some idx) (hp : acc.prev = some p) (hle : idx ≤ p)
    (hnb : ¬ (isListMember c (lower tag) = true ∧ acc.prevIsList = true)) :
    stepCore c acc tag v = .error .spec := by
  have hoo : outOfOrder acc.prev idx = true := by simp [outOfOrder, hp, hle]
  have hb : (isListMember c (lower tag) && acc.prevIsList) = false := by
    cases h1 : isListMember c (lower tag) <;> cases h2 : acc.prevIsList <;> simp_all
  simp [stepCore, hidx, hoo, hb]

theorem stepCore_known_key (c : Cls) (acc acc' : Accum) (tag : Str) (v : PyM Node) (idx : Nat)
    (hidx : specIndex c (lower tag) = some idx) (hnl : isListMember c (lower tag) = false)
    (h : stepCore c acc tag v = .ok acc') : hasKey (lower tag) acc'.kwargs = true := by
  rcases stepCore_ok h with ⟨hn, _⟩ | ⟨_, _, _, _, _, ⟨hl, _⟩ | ⟨_, _, rfl⟩⟩
  · rw [hidx] at hn; cases hn
  · rw [hnl] at hl; cases hl
  · simp [hasKey_append]

theorem stepCore_dup_error (c : Cls) (acc : Accum) (tag : Str) (v : PyM Node) (idx : Nat)
    (hidx : specIndex c (lower tag) = some idx) (hnl : isListMember c (lower tag) = false)
    (hk : hasKey (lower tag) acc.kwargs = true) : ∃ e, stepCore c acc tag v = .error e := by
  apply PyM.not_ok_error
  intro acc' h
  rcases stepCore_ok h with ⟨hn, _⟩ | ⟨_, _, _, _, _, ⟨hl, _⟩ | ⟨_, hk', _⟩⟩
  · rw [hidx] at hn; cases hn
  · rw [hnl] at hl; cases hl
  · rw [hk] at hk'; cases hk'

theorem updateArgs_hasKey (c : Cls) (acc acc' : Accum) (ch : Tree) (sub : PyM Node)
    (h : updateArgs c acc ch sub = .ok acc') (k : Str) (hk : hasKey k acc.kwargs = true) :
    hasKey k acc'.kwargs = true := by
  rcases (updateArgs_eff_ok h).2 with ⟨he, _⟩ | ⟨_, _, _, _, _, ⟨_, he, _⟩ | ⟨_, _, he, _⟩⟩ <;> rw [he]
  · exact hk
  · exact hk
  · simp [hasKey_append, hk]

theorem foldChildren_hasKey (c : Cls) (ts : List Tree) (ss : List (PyM Node)) (acc acc' : Accum)
    (h : foldChildren c ts ss acc = .ok acc') (k : Str) (hk : hasKey k acc.kwargs = true) :
    hasKey k acc'.kwargs = true :=
  foldChildren_invariant c (fun a => hasKey k a.kwargs = true)
    (fun acc t s acc' hi hu => updateArgs_hasKey c acc acc' t s hu k hi) ts ss acc acc' h hk

theorem foldChildren_unknown (c : Cls) : ∀ (ts : List Tree) (ss : List (PyM Node)) (acc : Accum),
    (∀ t ∈ ts, Unknown c t.tag) → foldChildren c ts ss acc = .ok acc
  | [], ss, acc, _ => by cases ss <;> rfl
  | t :: ts, [], acc, _ => rfl
  | t :: ts, s :: ss, acc, h => by
    simp only [foldChildren, updateArgs_unknown c acc t s (h t (by simp)), PyM.ok_bind]
    exact foldChildren_unknown c ts ss acc (fun u hu => h u (by simp [hu]))

theorem foldChildren_error_of_step (c : Cls) (pre : List Tree) (sp : List (PyM Node)) (y : Tree) (sy : PyM Node)
    (post : List Tree) (sq : List (PyM Node)) (acc : Accum) (hlen : sp.length = pre.length)
    (h : ∀ acc1, foldChildren c pre sp acc = .ok acc1 → ∃ e, updateArgs c acc1 y sy = .error e) :
    ∃ e, foldChildren c (pre ++ y :: post) (sp ++ sy :: sq) acc = .error e := by
  rw [foldChildren_append c pre (y :: post) sp (sy :: sq) acc hlen]
  cases hf : foldChildren c pre sp acc with
  | error e => exact ⟨e, rfl⟩
  | ok acc1 =>
    obtain ⟨e, he⟩ := h acc1 hf
    exact ⟨e, by simp only [PyM.ok_bind, foldChildren, he, PyM.error_bind]⟩

theorem fromEtree_error_of_two (S : Schema) (cv : Conv) (tag : Str) (x tl : Option Str)
    (pre mid post : List Tree) (a b : Tree) (ci : Nat) (c : Cls)
    (hf : S.findIdx? tag = some ci) (hc : S.cls? ci = some c)
    (h : ∀ acc0 acc2 acc1, acc0.renamed = renamedAfter c false pre →
      updateArgs c acc0 a (fromEtree S cv a) = .ok acc2 →
      foldChildren c mid (childInsts S cv mid) acc2 = .ok acc1 →
      acc1.renamed = renamedAfter c false (pre ++ a :: mid) →
      ∃ e, updateArgs c acc1 b (fromEtree S cv b) = .error e) :
    ∃ e, fromEtree S cv (.node tag x tl (pre ++ a :: (mid ++ b :: post))) = .error e := by
  rw [fromEtree_node S cv tag x tl _ ci c hf hc]
  suffices key : ∃ e, foldChildren c (pre ++ a :: (mid ++ b :: post))
      (childInsts S cv (pre ++ a :: (mid ++ b :: post))) Accum.init = .error e by
    obtain ⟨e, he⟩ := key; exact ⟨e, by rw [he]; rfl⟩
  have hsplit : pre ++ a :: (mid ++ b :: post) = (pre ++ a :: mid) ++ b :: post := by simp
  rw [hsplit, childInsts_append]
  simp only [childInsts]
  apply foldChildren_error_of_step c (pre ++ a :: mid) _ b _ post _ Accum.init (childInsts_length S cv _)
  intro acc1 hacc1
  have hr1 := foldChildren_renamed c _ _ Accum.init acc1 (childInsts_length S cv _) hacc1
  rw [childInsts_append] at hacc1
  simp only [childInsts] at hacc1
  rw [foldChildren_append c pre (a :: mid) _ _ Accum.init (childInsts_length S cv pre)] at hacc1
  obtain ⟨acc0, hp, hacc1⟩ := PyM.bind_ok hacc1
  obtain ⟨acc2, hu, hacc1⟩ := PyM.bind_ok (f := foldChildren c mid _) hacc1
  exact h acc0 acc2 acc1 (foldChildren_renamed c pre _ Accum.init acc0 (childInsts_length S cv pre) hp) hu hacc1 hr1

theorem kw_of_child (S : Schema) (cv : Conv) (c : Cls) (hnd : (c.spec.map (·.name)).Nodup)
    (pre post : List Tree) (ch : Tree) (acc : Accum) (a : Attr) (v : Node)
    (ha : a ∈ c.spec) (hname : a.name = lower (effTag c (renamedAfter c false pre) ch.tag).1)
    (hdot : '.' ∉ (effTag c (renamedAfter c false pre) ch.tag).1)
    (hl : a.kind.isList = false) (hu : a.kind.isUnsupported = false)
    (hv : childValue ch (fromEtree S cv ch) = .ok v)
    (hf : foldChildren c (pre ++ ch :: post) (childInsts S cv (pre ++ ch :: post)) Accum.init = .ok acc) :
    lookup a.name acc.kwargs = some v := by
  have ff := fold_slots S cv c hnd _ Accum.init acc hf
  obtain ⟨raw, hraw, hmem⟩ := ff.fwd_attr a.name a ch
    (slots_mid c ch post a _ pre false 0 (slotOf_field_of c hnd _ ch.tag a ha hname hdot hl hu))
  rw [hv] at hraw; injection hraw with hraw; subst hraw
  exact lookup_of_mem_nodup a.name _ acc.kwargs (ff.nodup (by simp [Accum.init])) hmem

theorem not_present_of_no_effTag (S : Schema) (cv : Conv) (c : Cls) (children : List Tree) (acc : Accum) (n : Str)
    (hno : ∀ pre ch post, children = pre ++ ch :: post →
      lower (effTag c (renamedAfter c false pre) ch.tag).1 ≠ n)
    (hf : foldChildren c children (childInsts S cv children) Accum.init = .ok acc) : ¬ Present acc.kwargs n := by
  rintro ⟨v, hlk, _⟩
  rcases (foldChildren_origin_eff S cv c children Accum.init acc hf).1 n v (lookup_mem hlk) with
    h0 | ⟨pre, ch, post, h1, _, hn, _⟩
  · cases h0
  · exact hno pre ch post h1 hn

end Ofx.Agg
