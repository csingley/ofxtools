/-
`request_profile` action by action.  `stepProc_eq` is one action in normal form: where it leads is `next`, and what it does
to the disk, to `sent` and to the temporary file is read off the program counter; every later proof goes through it.
From it the whole call on any disk (`call_spec`), the refinement of sequential histories (`runSeq_ok`), and the
invariant of concurrent writers (`SysOK`); in between, facts about `newest`.
-/
import OfxModel.Ofx.Cache
import OfxModel.Spec.CacheSpec

namespace Ofx.Cache
open Ofx Ofx.Spec.Cache

theorem ser_ne_nil (p : Profile) : ser p ≠ [] := by
  simp [ser]

theorem ser_cons (p : Profile) : ∃ t, ser p = ⟨p, 0⟩ :: t := by
  refine ⟨(List.range p.pad).map (fun i => Cell.mk p (i + 1)), ?_⟩
  simp [ser, List.range_succ_eq_map, List.map_map, Function.comp_def]

@[simp] theorem parse_ser (p : Profile) : parse (ser p) = some p := by
  obtain ⟨t, ht⟩ := ser_cons p
  rw [parse.eq_def]
  simp only [ht]
  simp

theorem parse_some {c : Content} {p : Profile} (h : parse c = some p) : c = ser p := by
  unfold parse at h
  split at h
  · cases h
  · split at h
    · rename_i heq; cases h; exact heq
    · cases h

@[simp] theorem overlay_nil (c : Content) : overlay [] c = c := by simp [overlay]

theorem toDisk_ne_empty (h : Abs) : toDisk h ≠ some [] := by
  cases h with
  | none => simp [toDisk]
  | some p => simpa [toDisk] using ser_ne_nil p

theorem toDisk_inj {h h' : Abs} (e : toDisk h = toDisk h') : h = h' := by
  cases h <;> cases h' <;> simp [toDisk] at e ⊢
  rename_i p q
  have := congrArg parse e
  simpa using this

@[simp] theorem view_toDisk_none : view (toDisk none) = .absent := rfl

theorem view_toDisk_some (p : Profile) : view (toDisk (some p)) = .complete p := by
  obtain ⟨t, ht⟩ := ser_cons p
  have hp := parse_ser p
  simp only [toDisk, view, ht] at hp ⊢
  simp [hp]

@[simp] theorem held_toDisk (h : Abs) : held (toDisk h) = .ok h := by
  cases h <;> simp [held, toDisk]

/-- what a call answers, by cases (error kinds included) -/
def resOf (h : Abs) : Beh → Except Err Ret
  | .profile p => if accepts h p then .ok (.prof p) else .error .assert
  | .upToDate => match h with | some q => .ok (.prof q) | none => .error .assert
  | .errorStatus => .error .assert
  | .noProfrs => .error .attr
  | .garbage => .error .header
  | .transportError => .error .other

/-- what a call that holds `h` leaves on the disk -/
def diskOut (d : Disk) (h : Abs) : Beh → Disk
  | .profile p => if accepts h p then some (ser p) else d
  | _ => d

theorem diskOut_toDisk (h : Abs) (b : Beh) : diskOut (toDisk h) h b = toDisk (specStep h b).1 := by
  cases b with
  | profile p => simp only [diskOut, specStep]; split <;> rfl
  | _ => rfl

/-- where an action leads: the branch taken depends on the cache file (`start`, `readCache`) or on what the process
    itself carries -/
def next (d : Disk) (b : Beh) (dry : Bool) : PC → PC
  | .start => if d.isSome then .readCache else .mkdir
  | .readCache =>
    match d with
    | none => .done (.error .other)
    | some c => match parse c with | some p => .post (some p) | none => .done (.error .parse)
  | .mkdir => .post none
  | .post h =>
    if dry then .done (.ok .dryRequest) else if b = .transportError then .done (.error .other) else .parseResp h b
  | .parseResp h b' =>
    match b' with
    | .garbage => .done (.error .header)
    | .transportError => .done (.error .other)
    | .upToDate => .assertCached h
    | .errorStatus => .assertCode0 h false none
    | .noProfrs => .assertCode0 h true none
    | .profile p => .assertCode0 h true (some p)
  | .assertCached h => .done (match h with | some q => .ok (.prof q) | none => .error .assert)
  | .assertCode0 h is0 p => if is0 then .serverDate h p else .done (.error .assert)
  | .serverDate h p => match p with | some p => .assertDate h p | none => .done (.error .attr)
  | .assertDate h p => if accepts h p then .mkstemp p else .done (.error .assert)
  | .mkstemp p => .write p
  | .write p => .close p
  | .close p => .replace p
  | .replace p => .done (.ok (.prof p))
  | .done r => .done r

theorem stepProc_eq (d : Disk) (pc : PC) (b : Beh) (dry : Bool) (s : Option (Option Nat)) (t : Option Content) :
    stepProc d ⟨pc, b, dry, s, t⟩ =
      (match pc with | .replace _ => t.or d | _ => d,
       ⟨next d b dry pc, b, dry,
        match pc with | .post h => if dry then s else some (h.map Profile.date) | _ => s,
        match pc with
        | .mkstemp _ => some []
        | .write p => some (overlay (t.getD []) (ser p))
        | .replace _ => none
        | _ => t⟩) := by
  cases pc with
  | readCache =>
    cases d with
    | none => rfl
    | some c => cases hc : parse c <;> simp only [stepProc, next, hc]
  | post h => cases dry <;> cases b <;> rfl
  | parseResp h b' => cases b' <;> rfl
  | assertCached h => cases h <;> rfl
  | assertCode0 h is0 p => cases is0 <;> rfl
  | serverDate h p => cases p <;> rfl
  | assertDate h p =>
    cases h with
    | none => rfl
    | some q => by_cases hq : q.date ≤ p.date <;> simp [stepProc, next, accepts, hq]
  | write p => cases t <;> rfl
  | replace p => cases t <;> rfl
  | _ => rfl

theorem stepProc_fst (d : Disk) (pr : Proc) :
    (stepProc d pr).1 = match pr.pc with | .replace _ => pr.tmp.or d | _ => d := by
  obtain ⟨pc, b, dry, s, t⟩ := pr
  rw [stepProc_eq]

theorem stepProc_disk (d : Disk) (pr : Proc) : (stepProc d pr).1 = d ∨ (stepProc d pr).2.isDone = true := by
  obtain ⟨pc, b, dry, s, t⟩ := pr
  rw [stepProc_eq]
  cases pc with
  | replace p => exact .inr rfl
  | _ => exact .inl rfl

theorem stepProc_beh (d : Disk) (pr : Proc) : (stepProc d pr).2.beh = pr.beh := by
  obtain ⟨pc, b, dry, s, t⟩ := pr
  rw [stepProc_eq]

/-- `runProc` without its test for `done` (a finished process does not move, `stepProc_of_isDone`), so that runs compose:
    `iter_add` -/
def iter : Nat → Disk × Proc → Disk × Proc
  | 0, x => x
  | n + 1, x => iter n (stepProc x.1 x.2)

theorem iter_add (m n : Nat) (x : Disk × Proc) : iter (m + n) x = iter n (iter m x) := by
  induction m generalizing x with
  | zero => rw [Nat.zero_add]; rfl
  | succ m ih => rw [Nat.succ_add]; exact ih _

theorem stepProc_of_isDone (x : Disk × Proc) (h : x.2.isDone = true) : stepProc x.1 x.2 = x := by
  obtain ⟨d, pc, b, dry, s, t⟩ := x
  cases pc <;> first | rfl | cases h

theorem iter_of_isDone (n : Nat) (x : Disk × Proc) (h : x.2.isDone = true) : iter n x = x := by
  induction n with
  | zero => rfl
  | succ n ih => rw [iter, stepProc_of_isDone x h, ih]

theorem runProc_eq_iter (n : Nat) (d : Disk) (p : Proc) : runProc n d p = iter n (d, p) := by
  induction n generalizing d p with
  | zero => rfl
  | succ n ih =>
    by_cases hd : p.isDone = true
    · rw [iter_of_isDone _ _ hd, runProc, if_pos hd]
    · rw [runProc, if_neg hd]; exact ih _ _

theorem iter_eq_of_isDone {m n : Nat} {x : Disk × Proc} (hm : (iter m x).2.isDone = true)
    (hn : (iter n x).2.isDone = true) : iter m x = iter n x := by
  rcases Nat.le_total m n with hle | hle
  · obtain ⟨k, rfl⟩ := Nat.exists_eq_add_of_le hle
    rw [iter_add, iter_of_isDone _ _ hm]
  · obtain ⟨k, rfl⟩ := Nat.exists_eq_add_of_le hle
    rw [iter_add, iter_of_isDone _ _ hn]

theorem iter_disk (n : Nat) (x : Disk × Proc) : (iter n x).1 = x.1 ∨ (iter n x).2.isDone = true := by
  induction n generalizing x with
  | zero => exact .inl rfl
  | succ n ih =>
    rcases stepProc_disk x.1 x.2 with e | e
    · exact (ih _).imp_left (·.trans e)
    · exact .inr (by rw [iter, iter_of_isDone _ _ e]; exact e)

theorem Sys.run_append (s : Sys) (as bs : List Act) : s.run (as ++ bs) = (s.run as).run bs :=
  List.foldl_append ..

theorem Sys.run_replicate_step (s : Sys) (i : Nat) (p : Proc) (hi : s.procs[i]? = some p) (n : Nat) :
    s.run (List.replicate n (.step i)) = ⟨(iter n (s.disk, p)).1, s.procs.set i (iter n (s.disk, p)).2⟩ := by
  induction n generalizing s p with
  | zero =>
    obtain ⟨_, rfl⟩ := List.getElem?_eq_some_iff.mp hi
    simp [Sys.run, iter]
  | succ n ih =>
    have hlt : i < s.procs.length := (List.getElem?_eq_some_iff.mp hi).1
    rw [List.replicate_succ, Sys.run, List.foldl_cons, Sys.act, hi]
    exact (ih _ _ (List.getElem?_set_self hlt)).trans (by rw [List.set_set]; rfl)

theorem iter2_init (d : Disk) (b : Beh) (dry : Bool) : iter 2 (d, Proc.init b dry) =
    (d, ⟨match held d with | .ok h => .post h | .error e => .done (.error e), b, dry, none, none⟩) := by
  cases d with
  | none => rfl
  | some c =>
    cases hc : parse c <;> simp only [iter, Proc.init, stepProc_eq, next, Option.isSome_some, if_true, held, hc]

theorem iter_post (d : Disk) (h : Abs) (b : Beh) :
    iter 10 (d, ⟨.post h, b, false, none, none⟩) =
      (diskOut d h b, ⟨.done (resOf h b), b, false, some (h.map Profile.date), none⟩) := by
  cases b with
  | profile p =>
    by_cases ha : accepts h p = true <;>
      simp only [iter, stepProc_eq, next, ha, reduceCtorEq, if_false, if_true, diskOut, resOf, Bool.false_eq_true,
        overlay_nil, Option.getD_some, Option.some_or]
  | upToDate =>
    cases h <;> simp only [iter, stepProc_eq, next, reduceCtorEq, if_false, diskOut, resOf, Option.map, Bool.false_eq_true]
  | _ => simp only [iter, stepProc_eq, next, reduceCtorEq, if_false, if_true, Bool.false_eq_true, diskOut, resOf]

theorem iter_post_dry (d : Disk) (h : Abs) (b : Beh) :
    iter 10 (d, ⟨.post h, b, true, none, none⟩) = (d, ⟨.done (.ok .dryRequest), b, true, none, none⟩) := by
  simp only [iter, stepProc_eq, next, if_true]

theorem iter_fuel (d : Disk) (b : Beh) : iter fuel (d, Proc.init b) =
    match held d with
    | .error e => (d, ⟨.done (.error e), b, false, none, none⟩)
    | .ok h => (diskOut d h b, ⟨.done (resOf h b), b, false, some (h.map Profile.date), none⟩) := by
  -- `fuel` is 12: the 2 actions before the POST (`start`, then `readCache` or `mkdir`) and 10 from `post` on, where the
  -- longest path (through `replace`) takes 9; so one is spare
  rw [show fuel = 2 + 10 from rfl, iter_add, iter2_init]
  cases held d with
  | error e => exact iter_of_isDone _ _ rfl
  | ok h => exact iter_post d h b

theorem iter_fuel_toDisk (h : Abs) (b : Beh) : iter fuel (toDisk h, Proc.init b) =
    (toDisk (specStep h b).1, ⟨.done (resOf h b), b, false, some (h.map Profile.date), none⟩) := by
  simp only [iter_fuel, held_toDisk, diskOut_toDisk]

theorem call_spec (d : Disk) (b : Beh) : call d b =
    match held d with
    | .error e => ⟨d, .error e, none⟩
    | .ok h => ⟨diskOut d h b, resOf h b, some (h.map Profile.date)⟩ := by
  rw [call, runProc_eq_iter, iter_fuel]
  cases held d <;> rfl

theorem call_eq (h : Abs) (b : Beh) :
    call (toDisk h) b = ⟨toDisk (specStep h b).1, resOf h b, some (h.map Profile.date)⟩ := by
  simp only [call_spec, held_toDisk, diskOut_toDisk]

theorem call_dry (h : Abs) (b : Beh) :
    call (toDisk h) b true = ⟨toDisk h, .ok .dryRequest, none⟩ := by
  rw [call, runProc_eq_iter, show fuel = 2 + 10 from rfl, iter_add, iter2_init, held_toDisk, iter_post_dry]

theorem specStep_resOf (h : Abs) (b : Beh) :
    (∃ p, specStep h b = (some p, some p) ∧ resOf h b = .ok (.prof p)) ∨
      (∃ e, specStep h b = (h, none) ∧ resOf h b = .error e) := by
  cases b with
  | profile q =>
    by_cases ha : accepts h q = true
    · exact .inl ⟨q, by simp [specStep, ha], by simp [resOf, ha]⟩
    · exact .inr ⟨.assert, by simp [specStep, ha], by simp [resOf, ha]⟩
  | upToDate =>
    cases h with
    | none => exact .inr ⟨_, rfl, rfl⟩
    | some q => exact .inl ⟨q, rfl, rfl⟩
  | _ => exact .inr ⟨_, rfl, rfl⟩

theorem specStep_state (h : Abs) (b : Beh) : (specStep h b).1 = newest h (sentOf [b]) := by
  cases b with
  | profile q => by_cases ha : accepts h q <;> simp [specStep, newest, sentOf, put, ha]
  | _ => simp [specStep, newest, sentOf]

theorem sentOf_cons (b : Beh) (bs : List Beh) : sentOf (b :: bs) = sentOf [b] ++ sentOf bs := by
  cases b <;> simp [sentOf]

theorem sentOf_append (as bs : List Beh) : sentOf (as ++ bs) = sentOf as ++ sentOf bs := by
  induction as with
  | nil => simp [sentOf]
  | cons a as ih => rw [List.cons_append, sentOf_cons, sentOf_cons a as, ih, List.append_assoc]

theorem newest_cons (h : Abs) (x : Profile) (xs : List Profile) : newest h (x :: xs) = newest (put h x) xs := rfl

theorem newest_append (h : Abs) (xs ys : List Profile) : newest h (xs ++ ys) = newest (newest h xs) ys := by
  simp [newest, List.foldl_append]

theorem put_some_ge (q p : Profile) : ∃ r, put (some q) p = some r ∧ q.date ≤ r.date ∧ p.date ≤ r.date := by
  by_cases hd : q.date ≤ p.date
  · exact ⟨p, by simp [put, accepts, hd], hd, Nat.le_refl _⟩
  · exact ⟨q, by simp [put, accepts, hd], Nat.le_refl _, by omega⟩

theorem put_ge (h : Abs) (p : Profile) : ∃ r, put h p = some r ∧ p.date ≤ r.date := by
  cases h with
  | none => exact ⟨p, by simp [put, accepts], Nat.le_refl _⟩
  | some q => obtain ⟨r, hr, _, h2⟩ := put_some_ge q p; exact ⟨r, hr, h2⟩

theorem newest_some_ge (q : Profile) (xs : List Profile) : ∃ r, newest (some q) xs = some r ∧ q.date ≤ r.date := by
  induction xs generalizing q with
  | nil => exact ⟨q, rfl, Nat.le_refl _⟩
  | cons x xs ih =>
    obtain ⟨r0, hr0, hq, _⟩ := put_some_ge q x
    obtain ⟨r, hr, hle⟩ := ih r0
    exact ⟨r, by rw [newest_cons, hr0]; exact hr, by omega⟩

theorem newest_ge (h : Abs) (xs : List Profile) (p : Profile) (hp : p ∈ xs) :
    ∃ r, newest h xs = some r ∧ p.date ≤ r.date := by
  induction xs generalizing h with
  | nil => cases hp
  | cons x xs ih =>
    rw [newest_cons]
    rcases List.mem_cons.mp hp with rfl | hin
    · obtain ⟨r0, hr0, hle0⟩ := put_ge h p
      obtain ⟨r, hr, hle⟩ := newest_some_ge r0 xs
      exact ⟨r, by rw [hr0]; exact hr, by omega⟩
    · exact ih (put h x) hin

theorem newest_mem (h : Abs) (xs : List Profile) : newest h xs = h ∨ ∃ p ∈ xs, newest h xs = some p := by
  induction xs generalizing h with
  | nil => exact .inl rfl
  | cons x xs ih =>
    rw [newest_cons]
    rcases ih (put h x) with e | ⟨p, hp, e⟩
    · rw [e]
      by_cases ha : accepts h x
      · exact .inr ⟨x, List.mem_cons_self, by simp [put, ha]⟩
      · exact .inl (by simp [put, ha])
    · exact .inr ⟨p, List.mem_cons_of_mem _ hp, e⟩

theorem newest_mono (h : Abs) (xs ys : List Profile) (q : Profile) (hq : newest h xs = some q) :
    ∃ r, newest h (xs ++ ys) = some r ∧ q.date ≤ r.date := by
  rw [newest_append, hq]; exact newest_some_ge q ys

def Ok1 (h : Abs) (b : Beh) (r : StepRec) : Prop :=
  r.disk = toDisk (specStep h b).1 ∧ r.sent = some (h.map Profile.date) ∧ r.res = resOf h b

def SeqOK : Abs → List Beh → List StepRec → Prop
  | _, [], [] => True
  | h, b :: bs, r :: rs => Ok1 h b r ∧ SeqOK (specStep h b).1 bs rs
  | _, _, _ => False

/-- refinement: the machine run over any history is the specification run -/
theorem runSeq_ok (h : Abs) (hist : List Beh) : SeqOK h hist (runSeq (toDisk h) hist) := by
  induction hist generalizing h with
  | nil => simp [runSeq, SeqOK]
  | cons b bs ih =>
    simp only [runSeq, SeqOK, call_eq]
    exact ⟨⟨rfl, rfl, rfl⟩, ih _⟩

/-- what is held before call `k` of a history: the newest of the initial profile and everything sent before -/
def heldAt (h0 : Abs) (hist : List Beh) (k : Nat) : Abs := newest h0 (sentOf (hist.take k))

theorem heldAt_succ (h0 : Abs) (b : Beh) (bs : List Beh) (k : Nat) :
    heldAt h0 (b :: bs) (k + 1) = heldAt (specStep h0 b).1 bs k := by
  simp only [heldAt, List.take_succ_cons]
  rw [sentOf_cons, newest_append, specStep_state]

theorem heldAt_step (h0 : Abs) (hist : List Beh) (k : Nat) (b : Beh) (hb : hist[k]? = some b) :
    heldAt h0 hist (k + 1) = (specStep (heldAt h0 hist k) b).1 := by
  have ht : hist.take (k + 1) = hist.take k ++ [b] := by
    rw [List.take_add_one, hb]; rfl
  simp only [heldAt, ht, sentOf_append, newest_append, specStep_state]

theorem seqOK_get {h : Abs} {hist : List Beh} {recs : List StepRec} (hs : SeqOK h hist recs)
    (k : Nat) (b : Beh) (hb : hist[k]? = some b) :
    ∃ r, recs[k]? = some r ∧ Ok1 (heldAt h hist k) b r := by
  induction hist generalizing h recs k with
  | nil => simp at hb
  | cons b0 bs ih =>
    cases recs with
    | nil => simp [SeqOK] at hs
    | cons r rs =>
      obtain ⟨h1, h2⟩ := hs
      cases k with
      | zero =>
        simp at hb; subst hb
        exact ⟨r, rfl, by simpa [heldAt, newest, sentOf] using h1⟩
      | succ k =>
        simp at hb
        obtain ⟨r', hr', hok⟩ := ih h2 k hb
        exact ⟨r', by simpa using hr', by rw [heldAt_succ]; exact hok⟩

/-- what a process knows at each point about the profile it is going to store: it is the one its server sent,
    and from `close` on its private temporary file holds exactly that profile, complete -/
def ProcOK (pr : Proc) : Prop :=
  match pr.pc with
  | .parseResp _ b' => b' = pr.beh
  | .assertCode0 _ _ p => ∀ q, p = some q → pr.beh = .profile q
  | .serverDate _ p => ∀ q, p = some q → pr.beh = .profile q
  | .assertDate _ q => pr.beh = .profile q
  | .mkstemp q => pr.beh = .profile q
  | .write q => pr.beh = .profile q ∧ pr.tmp = some []
  | .close q => pr.beh = .profile q ∧ pr.tmp = some (ser q)
  | .replace q => pr.beh = .profile q ∧ pr.tmp = some (ser q)
  -- the second clause of `C15_interleave_full`; it holds because `readCache` only ever sees a disk that is `DiskOK`
  | .done r => r ≠ .error .parse
  | _ => True

/-- the cache file is absent or one complete profile: the one held initially or one a server sent to one of the
    processes (`allowed`) -/
def DiskOK (allowed : Profile → Prop) (h : Abs) (d : Disk) : Prop :=
  ∃ h', d = toDisk h' ∧ (h' = h ∨ ∃ p, h' = some p ∧ allowed p)

theorem procOK_step (allowed : Profile → Prop) (h : Abs) (d : Disk) (pr : Proc)
    (hd : DiskOK allowed h d) (hp : ProcOK pr) (ha : ∀ q, pr.beh = .profile q → allowed q) :
    ProcOK (stepProc d pr).2 ∧ DiskOK allowed h (stepProc d pr).1 ∧ (stepProc d pr).2.beh = pr.beh := by
  obtain ⟨pc, b, dry, s, t⟩ := pr
  rw [stepProc_eq]
  refine ⟨?_, ?_, rfl⟩
  · obtain ⟨h', rfl, -⟩ := hd
    cases pc with
    | start => simp only [next]; split <;> trivial
    | readCache => cases h' <;> simp [next, toDisk, ProcOK]
    | mkdir => trivial
    | post held => cases dry <;> cases b <;> simp [next, ProcOK]
    | parseResp held b' => subst hp; cases b' <;> simp [next, ProcOK]
    | assertCached held => cases held <;> simp [next, ProcOK]
    | assertCode0 held is0 p =>
      cases is0
      · exact nofun
      · exact hp
    | serverDate held p =>
      cases p with
      | none => exact nofun
      | some q => exact hp q rfl
    | assertDate held q =>
      simp only [next]
      split
      · exact hp
      · exact nofun
    | mkstemp q => exact ⟨hp, rfl⟩
    | write q =>
      obtain ⟨hb, rfl⟩ := hp
      exact ⟨hb, congrArg some (overlay_nil _)⟩
    | close q => exact hp
    | replace q => exact nofun
    | done r => exact hp
  · cases pc with
    | replace q =>
      obtain ⟨hb, rfl⟩ := hp
      exact ⟨some q, rfl, .inr ⟨q, rfl, ha q hb⟩⟩
    | _ => exact hd

def SysOK (h : Abs) (behs : List Beh) (s : Sys) : Prop :=
  DiskOK (fun p => Beh.profile p ∈ behs) h s.disk ∧ ∀ pr ∈ s.procs, ProcOK pr ∧ pr.beh ∈ behs

theorem sysOK_init (h : Abs) (behs : List Beh) : SysOK h behs ⟨toDisk h, behs.map (Proc.init ·)⟩ := by
  refine ⟨⟨h, rfl, .inl rfl⟩, ?_⟩
  intro pr hpr
  simp only [List.mem_map] at hpr
  obtain ⟨b, hb, rfl⟩ := hpr
  exact ⟨by simp [ProcOK, Proc.init], by simpa [Proc.init] using hb⟩

theorem sysOK_act (h : Abs) (behs : List Beh) (s : Sys) (a : Act) (hs : SysOK h behs s) : SysOK h behs (s.act a) := by
  obtain ⟨hd, hp⟩ := hs
  cases a with
  | step i =>
    simp only [Sys.act]
    cases hi : s.procs[i]? with
    | none => exact ⟨hd, hp⟩
    | some pr =>
      have hmem : pr ∈ s.procs := List.mem_of_getElem? hi
      obtain ⟨hok, hbeh⟩ := hp pr hmem
      obtain ⟨h1, h2, h3⟩ := procOK_step _ h s.disk pr hd hok (fun q hq => by rw [← hq]; exact hbeh)
      refine ⟨h2, ?_⟩
      intro x hx
      rcases List.mem_or_eq_of_mem_set hx with hx | rfl
      · exact hp x hx
      · exact ⟨h1, by rw [h3]; exact hbeh⟩
  | crash i =>
    simp only [Sys.act]
    cases hi : s.procs[i]? with
    | none => exact ⟨hd, hp⟩
    | some pr =>
      have hmem : pr ∈ s.procs := List.mem_of_getElem? hi
      refine ⟨hd, ?_⟩
      intro x hx
      rcases List.mem_or_eq_of_mem_set hx with hx | rfl
      · exact hp x hx
      · exact ⟨by simp [crashed, ProcOK], by simpa [crashed] using (hp pr hmem).2⟩

theorem sysOK_run (h : Abs) (behs : List Beh) (sched : List Act) (s : Sys) (hs : SysOK h behs s) :
    SysOK h behs (s.run sched) := by
  induction sched generalizing s with
  | nil => exact hs
  | cons a rest ih => exact ih _ (sysOK_act h behs s a hs)

end Ofx.Cache
