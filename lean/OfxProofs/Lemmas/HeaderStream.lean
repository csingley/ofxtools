/-
The two ends of `parse_header` around the pattern match: reading lines from the byte stream and skipping the leading
blank lines; and when the validators and the header constructors return.
-/
import OfxProofs.Lemmas.Header
import OfxProofs.Lemmas.Dec
import OfxProofs.Lemmas.PyM
namespace Ofx.Header
open Ofx Ofx.Codec Ofx.Spec.HeaderLayout
attribute [-simp] String.reduceToList

def hasLF (s : Str) : Bool := s.any (· == '\n')

theorem hasLF_eq_false {s : Str} : hasLF s = false ↔ '\n' ∉ s := by
  simp only [hasLF, List.any_eq_false, beq_iff_eq]
  exact ⟨fun h hm => h _ hm rfl, fun h c hc e => h (e ▸ hc)⟩

theorem hasLF_of_class (p : Char → Bool) (hp : ∀ c, p c = true → isSpace c = false) (v : Str)
    (hv : ∀ c ∈ v, p c = true) : hasLF v = false :=
  hasLF_eq_false.2 fun h => absurd (hp _ (hv _ h)) (by decide)

/-- `bytes.decode("ascii", errors="replace")` -/
def chars (bs : Bytes) : Str := decodeAsciiReplace bs

theorem chars_append (a b : Bytes) : chars (a ++ b) = chars a ++ chars b := by simp [chars, decodeAsciiReplace]

theorem chars_prefix {a b : Bytes} (h : a <+: b) : chars a <+: chars b := by
  obtain ⟨t, ht⟩ := h
  exact ⟨chars t, by rw [← ht, chars_append]⟩

theorem chars_head (b : UInt8) (bs : Bytes) (hb : b.toNat < 128) : chars (b :: bs) = byteChar b :: chars bs := by
  simp [chars, decodeAsciiReplace, hb]

theorem asciiBytes_cons (c : Char) (s : Str) : asciiBytes (c :: s) = byteOf c.toNat :: asciiBytes s := rfl

theorem chars_asciiBytes (s : Str) (hs : isAscii s) : chars (asciiBytes s) = s := by
  induction s with
  | nil => rfl
  | cons c cs ih =>
    have hc := (isAscii_cons.1 hs).1
    rw [asciiBytes_cons, chars_head _ _ (by rw [byteOf_toNat _ (by omega)]; exact hc), byteChar_byteOf c (by omega),
      ih (isAscii_cons.1 hs).2]

theorem splitLine_cons (b : UInt8) (bs : Bytes) :
    splitLine (b :: bs) = if b = 10 then [b] else b :: splitLine bs := rfl

theorem splitLine_prefix (bs : Bytes) : splitLine bs <+: bs := by
  induction bs with
  | nil => exact List.prefix_refl _
  | cons b bs ih =>
    rw [splitLine_cons]
    split
    · exact ⟨bs, rfl⟩
    · obtain ⟨t, ht⟩ := ih
      exact ⟨t, by simp [ht]⟩

theorem firstLines_succ (n : Nat) (bs : Bytes) :
    firstLines (n + 1) bs = splitLine bs ++ firstLines n (bs.drop (splitLine bs).length) := rfl

theorem firstLines_nil (n : Nat) : firstLines n [] = [] := by
  induction n with
  | zero => rfl
  | succ n ih => simp [firstLines, splitLine, ih]

theorem firstLines_cons (n : Nat) (b : UInt8) (bs : Bytes) :
    firstLines (n + 1) (b :: bs) = if b = 10 then b :: firstLines n bs else b :: firstLines (n + 1) bs := by
  by_cases hb : b = 10
  · simp [firstLines, splitLine, hb]
  · simp [firstLines, splitLine, hb]

theorem firstLines_prefix (n : Nat) (bs : Bytes) : firstLines n bs <+: bs := by
  induction n generalizing bs with
  | zero => exact ⟨bs, rfl⟩
  | succ n ih =>
    rw [firstLines_succ]
    obtain ⟨t, ht⟩ := splitLine_prefix bs
    have hd : bs.drop (splitLine bs).length = t := by
      have := congrArg (List.drop (splitLine bs).length) ht
      rw [List.drop_left] at this; exact this.symm
    rw [hd]
    obtain ⟨u, hu⟩ := ih t
    exact ⟨u, by rw [List.append_assoc, hu, ht]⟩

theorem moreLines_eq (file : Bytes) (n pos : Nat) :
    moreLines file n pos = chars (firstLines n (file.drop pos)) := by
  induction n generalizing pos with
  | zero => rfl
  | succ n ih =>
    simp only [firstLines, moreLines, readline, chars_append]
    rw [ih, List.drop_drop]
    rfl

def lfCount (bs : Bytes) : Nat := bs.count 10

theorem firstLines_append (A G : Bytes) : ∀ n, lfCount A < n →
    firstLines n (A ++ G) = A ++ firstLines (n - lfCount A) G := by
  induction A with
  | nil => intro n _; simp [lfCount]
  | cons b bs ih =>
    intro n hn
    cases n with
    | zero => omega
    | succ n =>
      rw [List.cons_append, firstLines_cons]
      by_cases hb : b = 10
      · subst hb
        simp only [lfCount, List.count_cons_self] at hn ⊢
        simp only [if_true]
        rw [ih n (by simp only [lfCount]; omega)]
        simp only [lfCount, List.cons_append]
        have e : n + 1 - (List.count 10 bs + 1) = n - List.count 10 bs := by omega
        rw [e]
      · have : lfCount (b :: bs) = lfCount bs := by simp [lfCount, List.count_cons, hb]
        rw [if_neg hb, ih (n + 1) (by omega), this]
        rfl

theorem strip_ws_body_ws (g body w : Str) (hg : allSpace g) (hw : allSpace w) (c0 : Char) (cs : Str)
    (hb : body = c0 :: cs) (h0 : isSpace c0 = false) (cl : Char) (hl : body.getLast? = some cl)
    (hls : isSpace cl = false) : strip (g ++ (body ++ w)) = body := by
  refine strip_pad_of_space hg hw ((strip_eq_self_iff body).2 ⟨fun c hc => ?_, fun c hc => ?_⟩)
  · rw [hb] at hc; cases hc; exact h0
  · rw [hl] at hc; cases hc; exact hls

theorem strip_ws_body (w body : Str) (hw : allSpace w) (c0 : Char) (cs : Str) (hb : body = c0 :: cs)
    (h0 : isSpace c0 = false) (cl : Char) (hl : body.getLast? = some cl) (hls : isSpace cl = false) :
    strip (w ++ body) = body := by
  have := strip_ws_body_ws w body [] hw (fun _ h => nomatch h) c0 cs hb h0 cl hl hls
  rwa [List.append_nil] at this

theorem byteOf_lf : byteOf ('\n').toNat = 10 := by decide
theorem byteOf_10 : byteOf 10 = 10 := by decide

theorem byteOf_eq_lf (c : Char) (hc : c.toNat < 128) : byteOf c.toNat = 10 ↔ c = '\n' := by
  constructor
  · intro h
    have := congrArg UInt8.toNat h
    rw [byteOf_toNat _ (by omega)] at this
    exact Char.toNat_inj.1 (by simpa using this)
  · intro h; subst h; decide

theorem splitLine_noLF (l : Str) (Y : Bytes) (ha : isAscii l) (hn : hasLF l = false) :
    splitLine (asciiBytes l ++ Y) = asciiBytes l ++ splitLine Y := by
  induction l with
  | nil => rfl
  | cons c cs ih =>
    have hn := hasLF_eq_false.1 hn
    have hc := (isAscii_cons.1 ha).1
    have : byteOf c.toNat ≠ 10 := fun h => hn ((byteOf_eq_lf c hc).1 h ▸ List.mem_cons_self)
    rw [asciiBytes_cons, List.cons_append, splitLine_cons, if_neg this,
      ih (isAscii_cons.1 ha).2 (hasLF_eq_false.2 fun h => hn (List.mem_cons_of_mem _ h)), List.cons_append]

theorem splitLine_line (l : Str) (X : Bytes) (ha : isAscii l) (hn : hasLF l = false) :
    splitLine (asciiBytes (l ++ ['\n']) ++ X) = asciiBytes (l ++ ['\n']) := by
  rw [asciiBytes_append, List.append_assoc, splitLine_noLF l _ ha hn]
  rfl

theorem wsNoLF_spec (l : Str) (h : wsNoLF l = true) : allSpace l ∧ isAscii l ∧ hasLF l = false := by
  simp only [wsNoLF, isAsciiSpace, List.all_eq_true, Bool.and_eq_true, decide_eq_true_eq, bne_iff_ne, ne_eq] at h
  exact ⟨fun c hc => (h c hc).1.1, fun c hc => (h c hc).1.2, hasLF_eq_false.2 fun hc => (h _ hc).2 rfl⟩

theorem leadingText_spec (ls : List Str) (h : ∀ l ∈ ls, wsNoLF l = true) :
    allSpace (leadingText ls) ∧ isAscii (leadingText ls) := by
  induction ls with
  | nil => exact ⟨nofun, nofun⟩
  | cons l ls ih =>
    obtain ⟨hs, ha, _⟩ := wsNoLF_spec l (h l (by simp))
    obtain ⟨ihs, iha⟩ := ih fun x hx => h x (by simp [hx])
    constructor
    · intro c hc
      simp only [leadingText, List.mem_append, List.mem_cons] at hc
      rcases hc with hc | hc | hc
      · exact hs c hc
      · subst hc; decide
      · exact ihs c hc
    · exact isAscii_append.2 ⟨ha, isAscii_cons.2 ⟨by decide, iha⟩⟩

theorem findHeader_hit (file : Bytes) (n pos : Nat) (c : Char)
    (hc : c ∈ chars (splitLine (file.drop pos))) (hs : isSpace c = false) :
    findHeader file (n + 1) pos =
      .ok (pos, chars (splitLine (file.drop pos)), pos + (splitLine (file.drop pos)).length) := by
  rw [findHeader]
  exact if_neg fun h => strip_ne_nil_of_mem _ c hc hs (List.isEmpty_iff.1 h)

theorem drop_after_line (file : Bytes) (pos : Nat) (l : Str) (X : Bytes)
    (hX : file.drop pos = asciiBytes (l ++ ['\n']) ++ X) : file.drop (pos + (l.length + 1)) = X := by
  rw [← List.drop_drop, hX]
  exact List.drop_left' (by simp [asciiBytes_length])

/-- one turn of the `for _ in range(8)` loop -/
theorem findHeader_blank_step (file : Bytes) (l : Str) (hl : wsNoLF l = true) (fuel pos : Nat) (X : Bytes)
    (hX : file.drop pos = asciiBytes (l ++ ['\n']) ++ X) :
    findHeader file (fuel + 1) pos = findHeader file fuel (pos + (l.length + 1)) := by
  obtain ⟨hs, ha, hn⟩ := wsNoLF_spec l hl
  have hline : splitLine (file.drop pos) = asciiBytes (l ++ ['\n']) := hX ▸ splitLine_line l X ha hn
  have hasc : isAscii (l ++ ['\n']) := isAscii_append.2 ⟨ha, by intro c hc; simp at hc; subst hc; decide⟩
  have hstrip : strip (l ++ ['\n']) = [] := (strip_eq_nil_iff _).2 (by
    intro c hc
    simp only [List.mem_append, List.mem_singleton] at hc
    rcases hc with hc | hc
    · exact hs c hc
    · subst hc; decide)
  rw [findHeader]
  simp only [readline, hline, show decodeAsciiReplace (asciiBytes (l ++ ['\n'])) = l ++ ['\n'] from chars_asciiBytes _ hasc,
    hstrip, List.isEmpty_nil, if_true]
  congr 1
  simp [asciiBytes_length]

theorem leadingText_bytes (l : Str) (ls : List Str) (X : Bytes) :
    asciiBytes (leadingText (l :: ls)) ++ X = asciiBytes (l ++ ['\n']) ++ (asciiBytes (leadingText ls) ++ X) := by
  have e : leadingText (l :: ls) = (l ++ ['\n']) ++ leadingText ls := by simp [leadingText]
  rw [e, asciiBytes_append, List.append_assoc]

theorem findHeader_leading (file : Bytes) (leading : List Str) (hl : ∀ l ∈ leading, wsNoLF l = true) :
    ∀ fuel pos X, file.drop pos = asciiBytes (leadingText leading) ++ X → leading.length < fuel →
      findHeader file fuel pos = findHeader file (fuel - leading.length) (pos + (leadingText leading).length) := by
  induction leading with
  | nil => intro fuel pos X _ _; simp [leadingText]
  | cons l ls ih =>
    intro fuel pos X hX hf
    obtain ⟨f, rfl⟩ : ∃ f, fuel = f + 1 := ⟨fuel - 1, by simp at hf; omega⟩
    rw [leadingText_bytes] at hX
    rw [findHeader_blank_step file l (hl l (by simp)) f pos _ hX,
      ih (fun x hx => hl x (by simp [hx])) f _ X (drop_after_line file pos l _ hX) (by simpa using hf)]
    simp only [leadingText, List.length_cons, List.length_append]
    congr 1 <;> omega

theorem findHeader_start (file : Bytes) (leading : List Str) (hl : ∀ l ∈ leading, wsNoLF l = true)
    (hlen : leading.length ≤ 7) (F : Bytes) (hfile : file = asciiBytes (leadingText leading) ++ F) (c : Char)
    (hc : c ∈ chars (splitLine F)) (hs : isSpace c = false) :
    file.drop (leadingText leading).length = F ∧
    findHeader file 8 0 = .ok ((leadingText leading).length, chars (splitLine F),
      (leadingText leading).length + (splitLine F).length) := by
  have hdrop : file.drop (leadingText leading).length = F := by
    rw [hfile]; exact List.drop_left' (asciiBytes_length _)
  refine ⟨hdrop, ?_⟩
  rw [findHeader_leading file leading hl 8 0 F (by rw [List.drop_zero, hfile]) (by omega)]
  obtain ⟨k, hk⟩ : ∃ k, 8 - leading.length = k + 1 := ⟨7 - leading.length, by omega⟩
  rw [hk, Nat.zero_add, findHeader_hit file k _ c (by rw [hdrop]; exact hc) hs, hdrop]

theorem digitChar_int : ∀ d, d < 10 → isDigit (digitChar d) = true ∧ isIntSpace (digitChar d) = false ∧
    digitChar d ≠ '_' := by decide

theorem digitsGo_digits (ds : List Nat) (h : ∀ d ∈ ds, d < 10) (acc : Nat) :
    digitsGo (ds.map digitChar) acc false = some (acc * 10 ^ ds.length + digitsVal ds) := by
  induction ds generalizing acc with
  | nil => simp [digitsGo, digitsVal_nil]
  | cons d ds ih =>
    have hd : d < 10 := h d (by simp)
    simp only [List.map_cons, digitsGo, if_neg (digitChar_int d hd).2.2, digitVal_digitChar d hd]
    rw [ih (fun x hx => h x (by simp [hx])), digitsVal_cons, List.length_cons, Nat.pow_succ]
    grind

theorem lstripInt_id (s : Str) (h : ∀ c ∈ s.head?, isIntSpace c = false) : lstripInt s = s := by
  cases s with
  | nil => rfl
  | cons c cs => simp [lstripInt, h c (by simp)]

theorem intOfStr_pyStrNat (n : Nat) : intOfStr (pyStrNat n) = some (Int.ofNat n) := by
  have hlt := natDigits_lt n
  have hsp : ∀ c ∈ pyStrNat n, isIntSpace c = false := by
    intro c hc
    obtain ⟨d, hd, rfl⟩ := List.mem_map.1 hc
    exact (digitChar_int d (hlt d hd)).2.1
  obtain ⟨d, ds, hds⟩ := List.exists_cons_of_ne_nil (natDigits_ne_nil n)
  have hd : d < 10 := hlt d (by simp [hds])
  have hval := natDigits_val n
  unfold intOfStr
  rw [lstripInt_id _ (fun c hc => hsp c (List.mem_of_mem_head? hc)),
    lstripInt_id _ (fun c hc => hsp c (by simpa using List.mem_of_mem_head? hc)), List.reverse_reverse]
  rw [hds] at hlt hval
  have hs := digitChar_not_sign d hd
  simp only [pyStrNat, hds, List.map_cons]
  split
  · next h => exact absurd (List.cons.inj h).1 hs.2
  · next h => exact absurd (List.cons.inj h).1 hs.1
  · simp only [parseDigits, digitVal_digitChar d hd, digitsGo_digits ds (fun x hx => hlt x (by simp [hx])), Option.map]
    rw [← hval, digitsVal_cons]

theorem pyStrInt_nonneg (i : Int) (h0 : 0 ≤ i) : inClass isDigit (pyStrInt i) ∧ intOfStr (pyStrInt i) = some i := by
  obtain ⟨n, rfl⟩ := Int.eq_ofNat_of_zero_le h0
  have e : pyStrInt (n : Int) = pyStrNat n := by simp [pyStrInt]
  rw [e]
  refine ⟨⟨pyStrNat_ne_nil n, ?_⟩, intOfStr_pyStrNat n⟩
  intro c hc
  obtain ⟨d, hd, rfl⟩ := List.mem_map.1 hc
  exact (digitChar_int d (natDigits_lt n d hd)).1

theorem wordDash_noamp (v : Str) (hv : ∀ c ∈ v, isWordDash c = true) : '&' ∉ v := by
  intro h
  have := hv _ h
  exact absurd this (by decide)

theorem unescape_uid (u : Str) (hu : ∀ c ∈ u, isWordDash c = true) : unescape u = u :=
  unescape_no_amp u (wordDash_noamp u hu)

theorem orStr_some (s d : Str) (h : s ≠ []) : orStr (some s) d = s := by
  cases s with
  | nil => exact absurd rfl h
  | cons c cs => rfl

theorem orElse_str (s : Str) (d : Arg) (h : s ≠ []) : (Arg.str s).orElse d = .str s := by
  cases s with
  | nil => exact absurd rfl h
  | cons c cs => rfl

theorem wrap_ok {α : Type} (x : PyM α) (a : α) : wrapValueError x = .ok a ↔ x = .ok a := by
  cases x with
  | error e => cases e <;> simp [wrapValueError]
  | ok b => simp [wrapValueError]

theorem toInt_str_ok_iff (s : Str) (i : Int) : toInt (.str s) = .ok i ↔ intOfStr s = some i := by
  simp only [toInt]
  cases intOfStr s with
  | none => exact ⟨fun e => (by cases e), fun e => by cases e⟩
  | some j => exact ⟨fun e => (by cases e; rfl), fun e => by cases e; rfl⟩

theorem oneOfStr_ok_iff (valid : List Str) (s v : Str) : oneOfStr valid s = .ok v ↔ s ∈ valid ∧ v = s := by
  unfold oneOfStr
  split
  · next h => exact ⟨fun e => (by cases e; exact ⟨h, rfl⟩), fun e => by rw [e.2]; rfl⟩
  · next h => exact ⟨fun e => (by cases e), fun e => absurd e.1 h⟩

theorem oneOfInt_ok_iff (valid : List Str) (i v : Int) : oneOfInt valid i = .ok v ↔ pyStrInt i ∈ valid ∧ v = i := by
  unfold oneOfInt
  split
  · next h => exact ⟨fun e => (by cases e; exact ⟨h, rfl⟩), fun e => by rw [e.2]; rfl⟩
  · next h => exact ⟨fun e => (by cases e), fun e => absurd e.1 h⟩

theorem integerConv_ok_iff (len : Option Nat) (i v : Int) :
    integerConv len i = .ok v ↔ (∀ n, len = some n → i < (10 : Int) ^ n) ∧ v = i := by
  cases len with
  | none => exact ⟨fun e => (by cases e; exact ⟨nofun, rfl⟩), fun e => by rw [e.2]; rfl⟩
  | some n =>
    simp only [integerConv]
    split
    · next h => exact ⟨fun e => (by cases e), fun e => absurd (e.1 n rfl) (by omega)⟩
    · next h => exact ⟨fun e => (by cases e; exact ⟨fun m hm => (by cases hm; omega), rfl⟩), fun e => by rw [e.2]; rfl⟩

theorem stringConv_ok_iff (len : Option Nat) (s v : Str) :
    stringConv len s = .ok v ↔ (∀ n, len = some n → (unescape s).length ≤ n) ∧ v = unescape s := by
  cases len with
  | none => exact ⟨fun e => (by cases e; exact ⟨nofun, rfl⟩), fun e => by rw [e.2]; rfl⟩
  | some n =>
    simp only [stringConv]
    split
    · next h => exact ⟨fun e => (by cases e), fun e => absurd (e.1 n rfl) (by omega)⟩
    · next h => exact ⟨fun e => (by cases e; exact ⟨fun m hm => (by cases hm; omega), rfl⟩), fun e => by rw [e.2]; rfl⟩

theorem ctorV1_ok_iff (p : V1P) (v oh : Arg) (d s e c cm o n : Option Str) (h : V1) :
    ctorV1 p v oh d s e c cm o n = .ok h ↔
      ∃ ohi vi, toInt (oh.orElse (.int 100)) = .ok ohi ∧ pyStrInt ohi ∈ p.ofxheader ∧
        orStr d "OFXSGML".toList ∈ p.data ∧
        toInt (v.orElse (.int 102)) = .ok vi ∧ (∀ k, p.versionLen = some k → vi < (10 : Int) ^ k) ∧
        orStr s "NONE".toList ∈ p.security ∧ orStr e "USASCII".toList ∈ p.encoding ∧
        orStr c "NONE".toList ∈ p.charset ∧ orStr cm "NONE".toList ∈ p.compression ∧
        (∀ k, p.oldLen = some k → (unescape (orStr o "NONE".toList)).length ≤ k) ∧
        (∀ k, p.newLen = some k → (unescape (orStr n "NONE".toList)).length ≤ k) ∧
        h = { ofxheader := ohi, data := orStr d "OFXSGML".toList, version := vi,
              security := orStr s "NONE".toList, encoding := orStr e "USASCII".toList,
              charset := orStr c "NONE".toList, compression := orStr cm "NONE".toList,
              oldfileuid := unescape (orStr o "NONE".toList), newfileuid := unescape (orStr n "NONE".toList) } := by
  unfold ctorV1
  rw [wrap_ok]
  simp only [PyM.bind_ok_iff, oneOfInt_ok_iff, oneOfStr_ok_iff, integerConv_ok_iff, stringConv_ok_iff]
  constructor
  · rintro ⟨a1, h1, _, ⟨m2, rfl⟩, _, ⟨m3, rfl⟩, a4, h4, _, ⟨m5, rfl⟩, _, ⟨m6, rfl⟩, _, ⟨m7, rfl⟩, _, ⟨m8, rfl⟩,
      _, ⟨m9, rfl⟩, _, ⟨m10, rfl⟩, _, ⟨m11, rfl⟩, hr⟩
    cases hr
    exact ⟨_, _, h1, m2, m3, h4, m5, m6, m7, m8, m9, m10, m11, rfl⟩
  · rintro ⟨a1, a4, h1, m2, m3, h4, m5, m6, m7, m8, m9, m10, m11, rfl⟩
    exact ⟨a1, h1, _, ⟨m2, rfl⟩, _, ⟨m3, rfl⟩, a4, h4, _, ⟨m5, rfl⟩, _, ⟨m6, rfl⟩, _, ⟨m7, rfl⟩, _, ⟨m8, rfl⟩,
      _, ⟨m9, rfl⟩, _, ⟨m10, rfl⟩, _, ⟨m11, rfl⟩, rfl⟩

theorem ctorV2_ok_iff (p : V2P) (v oh : Arg) (s o n : Option Str) (h : V2) :
    ctorV2 p v oh s o n = .ok h ↔
      ∃ vi ohi, toInt v = .ok vi ∧ pyStrInt vi ∈ p.version ∧ toInt (oh.orElse (.int 200)) = .ok ohi ∧
        pyStrInt ohi ∈ p.ofxheader ∧ orStr s "NONE".toList ∈ p.security ∧
        (∀ k, p.oldLen = some k → (unescape (orStr o "NONE".toList)).length ≤ k) ∧
        (∀ k, p.newLen = some k → (unescape (orStr n "NONE".toList)).length ≤ k) ∧
        h = { version := vi, ofxheader := ohi, security := orStr s "NONE".toList,
              oldfileuid := unescape (orStr o "NONE".toList), newfileuid := unescape (orStr n "NONE".toList) } := by
  unfold ctorV2
  rw [wrap_ok]
  simp only [PyM.bind_ok_iff, oneOfInt_ok_iff, oneOfStr_ok_iff, stringConv_ok_iff]
  constructor
  · rintro ⟨a1, h1, _, ⟨m2, rfl⟩, a3, h3, _, ⟨m4, rfl⟩, _, ⟨m5, rfl⟩, _, ⟨m6, rfl⟩, _, ⟨m7, rfl⟩, hr⟩
    cases hr
    exact ⟨_, _, h1, m2, h3, m4, m5, m6, m7, rfl⟩
  · rintro ⟨a1, a3, h1, m2, h3, m4, m5, m6, m7, rfl⟩
    exact ⟨a1, h1, _, ⟨m2, rfl⟩, a3, h3, _, ⟨m4, rfl⟩, _, ⟨m5, rfl⟩, _, ⟨m6, rfl⟩, _, ⟨m7, rfl⟩, rfl⟩

theorem makeHeader_of_int (p1 : V1P) (p2 : V2P) (v : Arg) (i : Int) (s o n : Option Str) (hi : toInt v = .ok i) :
    makeHeader p1 p2 v s o n =
      if i / 100 = 1 then (ctorV1 p1 v .none none s none none none o n).map .v1
      else if i / 100 = 2 then (ctorV2 p2 v .none s o n).map .v2
      else .error .header := by
  simp only [makeHeader, hi, PyM.ok_bind, PyM.pure_eq]
  split
  · cases ctorV1 p1 v .none none s none none none o n <;> rfl
  · split
    · cases ctorV2 p2 v .none s o n <;> rfl
    · rfl

structure ValidV1 (p : V1P) (h : V1) : Prop where
  -- `0 ≤`: `str(n)` is then digits only, which is what the pattern's `\d+` and `int()` read back
  oh0 : 0 ≤ h.ofxheader ∧ h.ofxheader < 1000
  oh : pyStrInt h.ofxheader ∈ p.ofxheader
  data : h.data ∈ p.data ∧ inClass isUpper h.data
  ver0 : 0 ≤ h.version ∧ h.version < 1000
  ver : ∀ n, p.versionLen = some n → h.version < (10 : Int) ^ n
  sec : h.security ∈ p.security ∧ inClass isWord h.security
  enc : h.encoding ∈ p.encoding ∧ inClass isUpDigDash h.encoding
  cs : h.charset ∈ p.charset ∧ inClass isWordDash h.charset
  comp : h.compression ∈ p.compression ∧ inClass isUpper h.compression
  old : inClass isWordDash h.oldfileuid ∧ ∀ n, p.oldLen = some n → h.oldfileuid.length ≤ n
  new : inClass isWordDash h.newfileuid ∧ ∀ n, p.newLen = some n → h.newfileuid.length ≤ n

theorem ctorV1_valid (p : V1P) (h : V1) (hv : ValidV1 p h) (comp : Option Str)
    (hc : comp = some h.compression ∨ (comp = none ∧ h.compression = "NONE".toList)) :
    ctorV1 p (.str (pyStrInt h.version)) (.str (pyStrInt h.ofxheader)) (some h.data) (some h.security)
      (some h.encoding) (some h.charset) comp (some h.oldfileuid) (some h.newfileuid) = .ok h := by
  obtain ⟨hoc, hoi⟩ := pyStrInt_nonneg _ hv.oh0.1
  obtain ⟨hvc, hvi⟩ := pyStrInt_nonneg _ hv.ver0.1
  have hcomp : orStr comp "NONE".toList = h.compression := by
    rcases hc with hc | ⟨hc, hn⟩
    · rw [hc, orStr_some _ _ hv.comp.2.1]
    · rw [hc, hn]; rfl
  rw [ctorV1_ok_iff, orElse_str _ _ hoc.1, orElse_str _ _ hvc.1, orStr_some _ _ hv.data.2.1,
    orStr_some _ _ hv.sec.2.1, orStr_some _ _ hv.enc.2.1, orStr_some _ _ hv.cs.2.1, hcomp,
    orStr_some _ _ hv.old.1.1, orStr_some _ _ hv.new.1.1, unescape_uid _ hv.old.1.2, unescape_uid _ hv.new.1.2]
  exact ⟨_, _, (toInt_str_ok_iff _ _).2 hoi, hv.oh, hv.data.1, (toInt_str_ok_iff _ _).2 hvi, hv.ver, hv.sec.1,
    hv.enc.1, hv.cs.1, hv.comp.1, hv.old.2, hv.new.2, rfl⟩

end Ofx.Header
