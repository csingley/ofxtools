/-
From the decidable `WF.roundTripOk` to the propositional `Agg.ClsWF` the round-trip theorem uses (`roundTripOk_clsWF`, and
`groomOkB_groomOk` at the end for `GroomOk`); and the forms in which `OfxProofs/Gen/WF.lean` gives the schema-wide checks
to the kernel (`clsAt`, `subTargetsFast`, `namesFineB`, `roundTripRest`, `failingRest`, `enumsPlainCharsB`), each with
the lemma that leads back to the model's own check.  The look-up of a class by its name is replaced by `findIdx?_self`:
when the names are sorted (`strLt` is a strict order), an exported class is found under its name at its own index.
-/
import OfxModel.Ofx.WF
import OfxModel.Spec.Wire
import OfxProofs.Lemmas.Groom

namespace Ofx.WF
open Ofx Ofx.Agg

theorem enumRefOk_enumOk (enums : List (List Str)) : ∀ k, enumRefOk enums k = true → Kind.enumOk enums k = true
  | .oneOf e, h => by simpa [enumRefOk, Kind.enumOk] using h
  | .listElem k r, h => by
    simp only [enumRefOk] at h
    simp only [Kind.enumOk]
    exact enumRefOk_enumOk enums k h
  | .bool, _ => rfl
  | .string _ _, _ => rfl
  | .integer _, _ => rfl
  | .decimal _, _ => rfl
  | .datetime, _ => rfl
  | .time, _ => rfl
  | .sub _, _ => rfl
  | .listAgg _, _ => rfl
  | .unsupported, _ => rfl

theorem roundTripOk_clsWF (S : Schema) (c : Cls) (h : roundTripOk S c = true) : ClsWF S c := by
  simp only [roundTripOk, Bool.and_eq_true] at h
  obtain ⟨⟨⟨⟨⟨hels, hnd⟩, henum⟩, hname⟩, hsub⟩, hlb⟩ := h
  refine ⟨by simpa [namesOf] using of_decide_eq_true hnd, ?_, ?_, ?_, ?_, ?_⟩
  · intro a ha
    have := (List.all_eq_true.mp hname) a ha
    simp only [Bool.and_eq_true, beq_iff_eq, Bool.not_eq_true', List.contains_eq_mem,
      decide_eq_false_iff_not] at this
    exact this
  · intro a ha t hk
    have := (List.all_eq_true.mp hsub) a ha
    have hst : subTargetOk S a t = true := by
      rcases hk with hk | hk <;> simpa [hk] using this
    unfold subTargetOk at hst
    cases hc : S.cls? t with
    | none => simp [hc] at hst
    | some tc =>
      simp only [hc, Bool.and_eq_true, beq_iff_eq, Bool.not_eq_true', List.contains_eq_mem,
        decide_eq_false_iff_not] at hst
      exact ⟨tc, rfl, hst.1.1, hst.1.2, hst.2⟩
  · intro a ha
    have := (List.all_eq_true.mp henum) a ha
    exact enumRefOk_enumOk S.enums a.kind this
  · intro i j q ai aj aq hi hil hij hj hjl hju hq hql
    have hjn : j < c.spec.length := by
      rcases Nat.lt_or_ge j c.spec.length with h | h
      · exact h
      · rw [List.getElem?_eq_none h] at hj; simp at hj
    have hqn : q < c.spec.length := by
      rcases Nat.lt_or_ge q c.spec.length with h | h
      · exact h
      · rw [List.getElem?_eq_none h] at hq; simp at hq
    have hJ := (List.all_eq_true.mp hlb) j (by simpa using hjn)
    have he : emitAt c j = true := by simp [emitAt, hj, hjl, hju]
    have hany : (List.range j).any (isListAt c) = true := by
      rw [List.any_eq_true]; exact ⟨i, by simpa using hij, by simp [isListAt, hi, hil]⟩
    simp only [he, hany, Bool.not_true, Bool.false_or] at hJ
    have := (List.all_eq_true.mp hJ) q (by simpa using hqn)
    simpa [isListAt, hq, hql] using this
  · intro hel
    rw [hel] at hels
    simp only [Bool.not_true, Bool.false_or, elShapeOk, Bool.and_eq_true] at hels
    obtain ⟨hshape, hall⟩ := hels
    cases hf : c.spec.filter (fun a => a.kind.isListElem) with
    | nil => simp [hf] at hshape
    | cons a rest =>
      cases rest with
      | cons b r => simp [hf] at hshape
      | nil =>
        cases hk : a.kind with
        | listElem inner ireq =>
          refine ⟨a, inner, ireq, rfl, hk, ?_⟩
          intro b hb hbl
          have hb2 := (List.all_eq_true.mp hall) b hb
          simp only [hbl, Bool.not_true, Bool.false_or] at hb2
          have : b ∈ c.spec.filter (fun a => a.kind.isListElem) := List.mem_filter.mpr ⟨hb, hb2⟩
          rw [hf] at this
          simpa using this
        | _ => simp [hf, hk] at hshape

/-! `roundTripOk`, `failing` and `Pipeline.tagWFb` ask overlapping things of a class: that its attribute names are
distinct lower-case identifiers and no special tag (`NamesFine`), and the target class of every sub-aggregate attribute.
`namesFineB`, `subTargetsFast` and the `…Rest` forms let each share be evaluated once for the whole schema. -/

theorem strLt_irrefl : ∀ s : Str, strLt s s = false
  | [] => rfl
  | a :: as => by simp [strLt, strLt_irrefl as]

theorem strLt_trans : ∀ a b c : Str, strLt a b = true → strLt b c = true → strLt a c = true
  | [], [], _, h, _ => by cases h
  | [], _ :: _, [], _, h => by cases h
  | [], _ :: _, _ :: _, _, _ => rfl
  | _ :: _, [], _, h, _ => by cases h
  | _ :: _, _ :: _, [], _, h => by cases h
  | x :: a, y :: b, z :: c, h1, h2 => by
    simp only [strLt, Bool.or_eq_true, Bool.and_eq_true, decide_eq_true_eq] at h1 h2 ⊢
    rcases h1 with h1 | ⟨e1, h1⟩ <;> rcases h2 with h2 | ⟨e2, h2⟩
    · exact Or.inl (by omega)
    · exact Or.inl (by omega)
    · exact Or.inl (by omega)
    · exact Or.inr ⟨by omega, strLt_trans a b c h1 h2⟩

theorem namesSorted_pairwise : ∀ l : List Str, namesSorted l = true → l.Pairwise (fun a b => strLt a b = true)
  | [], _ => .nil
  | [_], _ => List.pairwise_singleton _ _
  | a :: b :: r, h => by
    simp only [namesSorted, Bool.and_eq_true] at h
    have ih := namesSorted_pairwise (b :: r) h.2
    refine List.pairwise_cons.mpr ⟨?_, ih⟩
    intro x hx
    rcases List.mem_cons.mp hx with rfl | hx
    · exact h.1
    · exact strLt_trans a b x h.1 ((List.pairwise_cons.mp ih).1 x hx)

theorem findIdx?_self (S : Schema) (hs : namesSorted (S.classes.map (·.name)) = true) (t : Nat) (tc : Cls)
    (hc : S.cls? t = some tc) (he : tc.exported = true) : S.findIdx? tc.name = some t := by
  have hp := List.pairwise_iff_getElem.mp (namesSorted_pairwise _ hs)
  obtain ⟨ht, hget⟩ := List.getElem?_eq_some_iff.mp hc
  unfold Schema.findIdx?
  rw [List.findIdx?_eq_some_iff_getElem]
  refine ⟨ht, by rw [hget, he, beq_self_eq_true]; rfl, ?_⟩
  intro j hj hpj
  rw [Bool.and_eq_true, beq_iff_eq] at hpj
  have hlt := hp j t (by rw [List.length_map]; omega) (by rw [List.length_map]; exact ht) hj
  rw [List.getElem_map, List.getElem_map, hpj.1, hget, strLt_irrefl] at hlt
  cases hlt

/-- `S.cls? t`, for the kernel: it walks at most 32 cells of a suffix of the table that it has computed once, where
    `S.cls? t` walks `t` cells -/
def clsAt (S : Schema) (t : Nat) : Option Cls := (S.classes.drop (t / 32 * 32))[t % 32]?

theorem clsAt_eq (S : Schema) (t : Nat) : clsAt S t = S.cls? t := by
  unfold clsAt Schema.cls?
  rw [List.getElem?_drop, Nat.mul_comm, Nat.div_add_mod]

def subTargetFast (S : Schema) (a : Attr) (t : Nat) : Bool :=
  match clsAt S t with
  | some tc => lower tc.name == a.name && !tc.name.contains '.' && tc.exported
  | none => false

theorem subTargetOk_of_fast (S : Schema) (hs : namesSorted (S.classes.map (·.name)) = true) (a : Attr) (t : Nat)
    (h : subTargetFast S a t = true) : subTargetOk S a t = true := by
  unfold subTargetFast at h
  rw [clsAt_eq] at h
  unfold subTargetOk
  cases hc : S.cls? t with
  | none => rw [hc] at h; cases h
  | some tc =>
    simp only [hc, Bool.and_eq_true] at h ⊢
    exact ⟨h.1, by rw [findIdx?_self S hs t tc hc h.2]; exact beq_self_eq_true _⟩

def subTargetsFast (S : Schema) (c : Cls) : Bool :=
  c.spec.all fun a =>
    match a.kind with
    | .sub t => subTargetFast S a t
    | .listAgg t => subTargetFast S a t
    | _ => true

theorem subNamesOk_of_fast (S : Schema) (c : Cls) (h : subTargetsFast S c = true) : subNamesOk S c = true := by
  have key : ∀ (a : Attr) (t : Nat), subTargetFast S a t = true →
      (match S.cls? t with
       | some tc => tc.exported && decide (lower tc.name = a.name)
       | none => false) = true := by
    intro a t h
    unfold subTargetFast at h
    rw [clsAt_eq] at h
    split at h
    · simp only [Bool.and_eq_true, beq_iff_eq] at h
      simp only [Bool.and_eq_true, decide_eq_true_eq]
      exact ⟨h.2, h.1.1⟩
    · cases h
  refine List.all_eq_true.mpr (fun a ha => ?_)
  have h := List.all_eq_true.mp h a ha
  split at h
  · rename_i t hk; simp only [hk]; exact key a t h
  · rename_i t hk; simp only [hk]; exact key a t h
  · rename_i h1 h2
    split
    · exact (h1 _ ‹_›).elim
    · exact (h2 _ ‹_›).elim
    · rfl

/-- a number for a name.  Any function will do: names with different codes differ, which is all that distinctness and
    "not in this list" need, and a `Bool` test on numbers spares the kernel the `Decidable (Pairwise _)` instance of `Nodup` -/
def code (s : Str) : Nat := s.foldl (fun n c => n * 256 + c.toNat) 0

def freshB (l : List Nat) (a : Nat) : Bool := l.all fun b => !Nat.beq b a

def distinctB : List Nat → Bool
  | [] => true
  | a :: l => freshB l a && distinctB l

theorem not_mem_of_fresh {α} (f : α → Nat) (l : List α) (a : α) (h : freshB (l.map f) (f a) = true) : a ∉ l := by
  intro ha
  have := List.all_eq_true.mp h (f a) (List.mem_map_of_mem ha)
  rw [Nat.beq_refl] at this
  cases this

theorem nodup_of_distinct {α} (f : α → Nat) : ∀ l : List α, distinctB (l.map f) = true → l.Nodup
  | [], _ => List.nodup_nil
  | a :: l, h => by
    rw [List.map_cons, distinctB, Bool.and_eq_true] at h
    exact List.nodup_cons.mpr ⟨not_mem_of_fresh f l a h.1, nodup_of_distinct f l h.2⟩

theorem identChar_upper : ∀ n, n < 123 → isLowerIdentChar (Char.ofNat n) = true →
    asciiLower (asciiUpper (Char.ofNat n)) = Char.ofNat n ∧ Spec.Wire.isTagChar (asciiUpper (Char.ofNat n)) = true ∧
      asciiUpper (Char.ofNat n) ≠ '.' := by
  decide +kernel

theorem identChar_lt (c : Char) (h : isLowerIdentChar c = true) : c.toNat < 123 := by
  have le (d : Char) (hd : c ≤ d) : c.toNat ≤ d.toNat := by
    rw [Char.le_def, UInt32.le_iff_toNat_le] at hd; exact hd
  simp only [isLowerIdentChar, Bool.or_eq_true, Bool.and_eq_true, decide_eq_true_eq] at h
  rcases h with (h | h) | h
  · exact Nat.lt_of_le_of_lt (le _ h.2) (by decide)
  · exact Nat.lt_of_le_of_lt (le _ h.2) (by decide)
  · subst h; decide

theorem nameOk_upper : ∀ n : Str, n.all isLowerIdentChar = true →
    lower (upper n) = n ∧ (upper n).all Spec.Wire.isTagChar = true ∧ '.' ∉ upper n
  | [], _ => ⟨rfl, rfl, List.not_mem_nil⟩
  | c :: n, h => by
    rw [List.all_cons, Bool.and_eq_true] at h
    obtain ⟨h1, h2, h3⟩ := nameOk_upper n h.2
    have hc := identChar_upper c.toNat (identChar_lt c h.1) (by rw [Char.ofNat_toNat]; exact h.1)
    rw [Char.ofNat_toNat] at hc
    refine ⟨?_, ?_, ?_⟩
    · show asciiLower (asciiUpper c) :: lower (upper n) = c :: n
      rw [hc.1, h1]
    · show (Spec.Wire.isTagChar (asciiUpper c) && (upper n).all Spec.Wire.isTagChar) = true
      rw [hc.2.1, h2]; rfl
    · intro hm
      rcases List.mem_cons.mp hm with hm | hm
      · exact hc.2.2 hm.symm
      · exact h3 hm

def namesFineB (special : List Nat) (c : Cls) : Bool :=
  (namesOf c).all nameOk && distinctB ((namesOf c).map code) && ((namesOf c).map code).all (freshB special)

structure NamesFine (special : List Str) (c : Cls) : Prop where
  ok : ∀ n ∈ namesOf c, nameOk n = true
  nodup : (namesOf c).Nodup
  fresh : ∀ n ∈ namesOf c, n ∉ special

theorem namesFineB_sound (special : List Str) (c : Cls) (h : namesFineB (special.map code) c = true) :
    NamesFine special c := by
  simp only [namesFineB, Bool.and_eq_true] at h
  refine ⟨List.all_eq_true.mp h.1.1, nodup_of_distinct code _ h.1.2, fun n hn => ?_⟩
  exact not_mem_of_fresh code special n (List.all_eq_true.mp h.2 (code n) (List.mem_map_of_mem hn))

theorem NamesFine.attrNames {special : List Str} {c : Cls} (h : NamesFine special c) :
    attrNamesOk special c = true := by
  simp only [attrNamesOk, Bool.and_eq_true, List.all_eq_true, decide_eq_true_eq, Bool.not_eq_true',
    List.contains_eq_mem, decide_eq_false_iff_not]
  exact ⟨⟨h.ok, h.nodup⟩, h.fresh⟩

def roundTripRest (S : Schema) (c : Cls) : Bool :=
  (!c.elementList || elShapeOk c) &&
  c.spec.all (fun a => enumRefOk S.enums a.kind) &&
  (List.range c.spec.length).all fun j =>
     !emitAt c j || !((List.range j).any (isListAt c)) ||
       (List.range c.spec.length).all (fun q => !isListAt c q || decide (q < j))

theorem roundTripOk_of_parts (S : Schema) (c : Cls) (hs : namesSorted (S.classes.map (·.name)) = true)
    {special : List Str} (hn : NamesFine special c) (hsub : subTargetsFast S c = true) (h : roundTripRest S c = true) :
    roundTripOk S c = true := by
  simp only [roundTripRest, Bool.and_eq_true] at h
  obtain ⟨⟨hels, henum⟩, hlb⟩ := h
  have hname : c.spec.all (fun a => lower (upper a.name) == a.name && !(upper a.name).contains '.') = true :=
    List.all_eq_true.mpr fun a ha => by
      have := hn.ok a.name (List.mem_map_of_mem ha)
      simp only [nameOk, Bool.and_eq_true] at this
      obtain ⟨h1, _, h3⟩ := nameOk_upper a.name this.2
      simp only [Bool.and_eq_true, beq_iff_eq, Bool.not_eq_true', List.contains_eq_mem, decide_eq_false_iff_not]
      exact ⟨h1, h3⟩
  simp only [roundTripOk, Bool.and_eq_true]
  refine ⟨⟨⟨⟨⟨hels, decide_eq_true hn.nodup⟩, henum⟩, hname⟩, List.all_eq_true.mpr (fun a ha => ?_)⟩, hlb⟩
  have h := List.all_eq_true.mp hsub a ha
  split at h
  · rename_i t hk; rw [hk]; exact subTargetOk_of_fast S hs a t h
  · rename_i t hk; rw [hk]; exact subTargetOk_of_fast S hs a t h
  · rename_i h1 h2
    split
    · exact (h1 _ ‹_›).elim
    · exact (h2 _ ‹_›).elim
    · rfl

def failingRest (S : Schema) (c : Cls) : List String :=
  (if mutexOk c then [] else ["mutex"]) ++
  (if listBlockOk c then [] else ["listBlock"]) ++
  (if elementListOk c then [] else ["elementList"]) ++
  (if kindsOk S c then [] else ["kinds"]) ++
  (if hooksOk c then [] else ["hooks"]) ++
  (if exportOk S 0 c then [] else ["export"])

theorem failing_eq_rest (S : Schema) (special : List Str) (i : Nat) (c : Cls) (hn : NamesFine special c)
    (hsub : subTargetsFast S c = true) : failing S special i c = failingRest S c := by
  unfold failing failingRest
  rw [subNamesOk_of_fast S c hsub, hn.attrNames, if_pos rfl, if_pos rfl, List.nil_append, List.nil_append]
  rfl

/-! A test per character is one the kernel evaluates once for each distinct character. -/

def plainChar (c : Char) : Bool := !isSpace c && c != '&' && c != '<' && c != '>'

def enumsPlainCharsB (S : Schema) : Bool := S.enums.all fun e => e.all fun t => !t.isEmpty && t.all plainChar

theorem plainChars_mem {t : Str} (h : t.all plainChar = true) :
    ∀ c ∈ t, isSpace c = false ∧ c ≠ '&' ∧ c ≠ '<' ∧ c ≠ '>' := fun c hc => by
  simpa [plainChar, and_assoc] using List.all_eq_true.mp h c hc

theorem tokenOk_of_plainChars (t : Str) (hne : t.isEmpty = false) (h : t.all plainChar = true) :
    tokenOk t = true ∧ Spec.Wire.trimmedB t = true := by
  have hc := plainChars_mem h
  cases t with
  | nil => cases hne
  | cons c r =>
    have hl : (match (c :: r).getLast? with | some l => isSpace l | none => true) = false := by
      cases hg : (c :: r).getLast? with
      | none => simp at hg
      | some l => exact (hc l (List.mem_of_getLast? hg)).1
    constructor
    · simp only [tokenOk, Bool.and_eq_true, Bool.not_eq_true', List.all_eq_true, decide_eq_true_eq]
      exact ⟨⟨(hc c List.mem_cons_self).1, hl⟩, fun x hx => ⟨⟨(hc x hx).2.2.1, (hc x hx).2.2.2⟩, (hc x hx).2.1⟩⟩
    · simp only [Spec.Wire.trimmedB, List.head?_cons, Bool.and_eq_true, Bool.not_eq_true']
      refine ⟨(hc c List.mem_cons_self).1, ?_⟩
      cases hg : (c :: r).getLast? with
      | none => rfl
      | some l => simp only [(hc l (List.mem_of_getLast? hg)).1, Bool.not_false]

theorem enumsPlainCharsB_mem {S : Schema} (h : enumsPlainCharsB S = true) :
    ∀ e ∈ S.enums, ∀ t ∈ e, t.isEmpty = false ∧ t.all plainChar = true := fun e he t ht => by
  have := List.all_eq_true.mp (List.all_eq_true.mp h e he) t ht
  rwa [Bool.and_eq_true, Bool.not_eq_true'] at this

theorem enumsOk_of_plainChars (S : Schema) (h : enumsPlainCharsB S = true) : enumsOk S = true :=
  List.all_eq_true.mpr fun e he => List.all_eq_true.mpr fun t ht =>
    have := enumsPlainCharsB_mem h e he t ht
    (tokenOk_of_plainChars t this.1 this.2).1

theorem groomOkB_groomOk (c : Cls) (h : groomOkB c = true) : GroomOk c := by
  unfold groomOkB at h
  cases hg : c.groom with
  | none =>
    cases hu : c.ungroom with
    | none => exact Or.inl ⟨hg, hu⟩
    | some u => rw [hg, hu] at h; cases h
  | some r =>
    cases hu : c.ungroom with
    | none => rw [hg, hu] at h; cases h
    | some u =>
      rw [hg, hu] at h
      simp only [Bool.and_eq_true, beq_iff_eq, Bool.not_eq_true', List.any_eq_true] at h
      obtain ⟨⟨⟨⟨h1, h2⟩, h3⟩, h4⟩, a, ha, hprop⟩ := h
      obtain ⟨⟨hn, hl⟩, hs⟩ := hprop
      exact Or.inr ⟨r, u, hg, hu, h1, h2, by simpa using h3, by simpa using h4, a, ha, hn, hl,
        Kind.subTarget_eq_none.mpr (fun t hk => by rw [hk] at hs; cases hs)⟩

end Ofx.WF
