/-
The constructor looks at an aggregate it is handed (as a keyword value or as a member) only through its class and
through whether it has members (`Sim`).  Consequently a description is accepted by the constructors as soon as each
of its calls is accepted on *stubs* of its arguments (`build_good`, from the one-call step `construct_sim`), which
reduces the generic constructibility theorem (`Props/C13Level.lean`, `C13_constructible_levels`) to a one-level
obligation per (class, child).  Three parts: `Sim` through every step of the constructor, up to `construct_sim` and
`holds_sim`; `Witness.mk` one step at a time (`mk_succ_some`), monotone in the fuel (`mk_mono`), its arguments again
minimal descriptions (`mk_children`, which Props/C13Exist.lean also uses); stubs (`stubDesc`, `CallOk`): what the full
table gives for them (`pairOk_stub`, `target_callOk`) and `build_good`.
-/
import OfxProofs.Lemmas.C13Exist

namespace Ofx.Agg
open Ofx Ofx.Spec.Witness

inductive Sim : Node → Node → Prop
  | val (v : Val) : Sim (.val v) (.val v)
  | agg (c : Nat) (f f' : List (Str × Node)) (i i' : List Node) : i.isEmpty = i'.isEmpty →
      Sim (.agg c f i) (.agg c f' i')

inductive KwSim : List (Str × Node) → List (Str × Node) → Prop
  | nil : KwSim [] []
  | cons {k : Str} {v v' : Node} {r r' : List (Str × Node)} : Sim v v' → KwSim r r' →
      KwSim ((k, v) :: r) ((k, v') :: r')

inductive ArgsSim : List Node → List Node → Prop
  | nil : ArgsSim [] []
  | cons {m m' : Node} {r r' : List Node} : Sim m m' → ArgsSim r r' → ArgsSim (m :: r) (m' :: r')

theorem Sim.given {a b : Node} (h : Sim a b) : given a = given b := by cases h <;> rfl
theorem Sim.truthy {a b : Node} (h : Sim a b) : truthy a = truthy b := by
  cases h with
  | val v => rfl
  | agg c f f' i i' hi => simp [Agg.truthy, hi]
theorem Sim.notNone {a b : Node} (h : Sim a b) : notNone a = notNone b := by cases h <;> rfl
theorem Sim.toVal {a b : Node} (h : Sim a b) : Node.toVal a = Node.toVal b := by cases h <;> rfl
theorem Sim.className (S : Schema) {a b : Node} (h : Sim a b) : argClassName S a = argClassName S b := by
  cases h <;> rfl
theorem Sim.cls {a b : Node} (h : Sim a b) : a.cls? = b.cls? := by cases h <;> rfl
theorem Sim.refl : ∀ a : Node, Sim a a
  | .val v => .val v
  | .agg c f i => .agg c f f i i rfl
theorem Sim.symm {a b : Node} (h : Sim a b) : Sim b a := by
  cases h with
  | val v => exact .val v
  | agg c f f' i i' hi => exact .agg c f' f i' i hi.symm

theorem KwSim.keys {kw kw' : List (Str × Node)} (h : KwSim kw kw') : kw.map (·.1) = kw'.map (·.1) := by
  induction h with
  | nil => rfl
  | cons _ _ ih => simp [ih]

theorem KwSim.length {kw kw' : List (Str × Node)} (h : KwSim kw kw') : kw.length = kw'.length := by
  induction h with
  | nil => rfl
  | cons _ _ ih => simp [ih]

theorem ArgsSim.length {a a' : List Node} (h : ArgsSim a a') : a.length = a'.length := by
  induction h with
  | nil => rfl
  | cons _ _ ih => simp [ih]

theorem KwSim.lookup {kw kw' : List (Str × Node)} (h : KwSim kw kw') (k : Str) :
    (lookup k kw = none ∧ lookup k kw' = none) ∨
      ∃ v v', lookup k kw = some v ∧ lookup k kw' = some v' ∧ Sim v v' := by
  induction h with
  | nil => exact Or.inl ⟨rfl, rfl⟩
  | @cons k1 v1 v2 r r' hv _ ih =>
    simp only [Agg.lookup]
    by_cases hkk : k1 = k
    · simp only [hkk, if_true]
      exact Or.inr ⟨v1, v2, rfl, rfl, hv⟩
    · simp only [hkk, if_false]
      exact ih

theorem KwSim.keyMap {kw kw' : List (Str × Node)} (h : KwSim kw kw') {β} (g : Str → β) :
    kw.map (fun p => g p.1) = kw'.map (fun p => g p.1) := by
  have : ∀ l : List (Str × Node), l.map (fun p => g p.1) = (l.map (·.1)).map g := by
    intro l; simp [List.map_map, Function.comp_def]
  rw [this kw, this kw', h.keys]

theorem KwSim.keyFilterMap {kw kw' : List (Str × Node)} (h : KwSim kw kw') {β} (P : Str → Bool) (g : Str → β) :
    (kw.filter (fun p => P p.1)).map (fun p => g p.1) = (kw'.filter (fun p => P p.1)).map (fun p => g p.1) := by
  induction h with
  | nil => rfl
  | @cons k1 v1 v2 r r' _ _ ih =>
    simp only [List.filter_cons]
    split
    · simp [ih]
    · exact ih

theorem ArgsSim.classNames (S : Schema) {a a' : List Node} (h : ArgsSim a a') :
    a.map (argClassName S) = a'.map (argClassName S) := by
  induction h with
  | nil => rfl
  | cons hp _ ih => simp [hp.className S, ih]

theorem ArgsSim.isEmpty {a a' : List Node} (h : ArgsSim a a') : a.isEmpty = a'.isEmpty := by
  cases h <;> rfl

theorem mutexCount_sim {kw kw' : List (Str × Node)} (h : KwSim kw kw') (g : List Str) :
    mutexCount kw g = mutexCount kw' g := by
  unfold mutexCount
  congr 1
  apply List.filter_congr
  intro m _
  rcases h.lookup m with ⟨h1, h2⟩ | ⟨v, v', h1, h2, hs⟩
  · rw [h1, h2]
  · rw [h1, h2]; exact hs.given

theorem enforceCount_sim {kw kw' : List (Str × Node)} (h : KwSim kw kw') (gs : List (List Str)) (p : Nat → Bool) :
    enforceCount kw gs p = enforceCount kw' gs p := by
  unfold enforceCount
  have : gs.all (fun g => p (mutexCount kw g)) = gs.all (fun g => p (mutexCount kw' g)) := by
    congr 1
    funext g
    rw [mutexCount_sim h g]
  rw [this]

theorem kwTruthy_sim {kw kw' : List (Str × Node)} (h : KwSim kw kw') (k : String) :
    kwTruthy kw k = kwTruthy kw' k := by
  unfold kwTruthy
  rcases h.lookup k.toList with ⟨h1, h2⟩ | ⟨v, v', h1, h2, hs⟩
  · rw [h1, h2]
  · rw [h1, h2]; exact hs.truthy

theorem hasKey_sim {kw kw' : List (Str × Node)} (h : KwSim kw kw') (k : Str) : hasKey k kw = hasKey k kw' := by
  unfold hasKey
  rcases h.lookup k with ⟨h1, h2⟩ | ⟨v, v', h1, h2, _⟩
  · rw [h1, h2]
  · rw [h1, h2]; rfl

theorem extraRule_sim (S : Schema) (r : ExtraRule) {args args' : List Node} {kw kw' : List (Str × Node)}
    (ha : ArgsSim args args') (hk : KwSim kw kw') : extraRule S r args kw = extraRule S r args' kw' := by
  have hemp := ha.isEmpty
  have hnames := ha.classNames S
  have hany : ∀ (P : Str → Bool), args.any (fun a => P (argClassName S a)) = args'.any (fun a => P (argClassName S a)) := by
    intro P
    have : ∀ l : List Node, l.any (fun a => P (argClassName S a)) = (l.map (argClassName S)).any P := by
      intro l; simp [List.any_map, Function.comp_def]
    rw [this args, this args', hnames]
  cases r <;> simp only [extraRule]
  · rw [hk.keyMap (lastN 7)]
  · rw [kwTruthy_sim hk "userid", kwTruthy_sim hk "userpass", kwTruthy_sim hk "userkey"]
  all_goals try rw [hemp]
  · rw [hnames]
  · rw [hany (fun n => "TAX1099".toList.isPrefixOf n)]
  · rw [hk.keyFilterMap (fun k => decide (k ≠ "secid".toList)) (lastN 3), hk.length]
  · rw [hnames, hasKey_sim hk]
  · rw [kwTruthy_sim hk "payeeid", kwTruthy_sim hk "idscope", kwTruthy_sim hk "name"]
  · have : ∀ (l : List String), l.any (fun t => hasKey t.toList kw) = l.any (fun t => hasKey t.toList kw') := by
      intro l
      congr 1
      funext t
      exact hasKey_sim hk _
    rw [hasKey_sim hk, this]
  · rw [hasKey_sim hk "STTAXWH".toList, hasKey_sim hk "PAYERSTATE".toList]

theorem validateArgs_sim (S : Schema) (c : Cls) {args args' : List Node} {kw kw' : List (Str × Node)}
    (ha : ArgsSim args args') (hk : KwSim kw kw') : validateArgs S c args kw = validateArgs S c args' kw' := by
  unfold validateArgs
  rw [extraRule_sim S c.extra ha hk, enforceCount_sim hk, enforceCount_sim hk]

theorem setAttr_sim (S : Schema) (cv : Conv) (a : Attr) {v v' : Node} (h : Sim v v') :
    ∀ o, setAttr S cv a v = .ok o → ∃ o', setAttr S cv a v' = .ok o' ∧
      ((o = none ∧ o' = none) ∨ ∃ w w', o = some w ∧ o' = some w' ∧ Sim w w') := by
  intro o ho
  rcases Kind.cases3 a.kind with ⟨t, hk⟩ | hs | ⟨hl, hu, hs⟩
  · -- a sub-aggregate is stored as it is, accepted or refused by its class alone
    rw [setAttr_sub S cv a v t hk] at ho
    obtain ⟨w, hw, rfl⟩ := PyM.map_ok ho
    rw [setAttr_sub S cv a v' t hk]
    cases h with
    | val x => exact ⟨some w, by rw [hw]; rfl, Or.inr ⟨w, w, rfl, rfl, Sim.refl w⟩⟩
    | agg c f f' i i' hi =>
      simp only [convertSub] at hw ⊢
      split at hw
      · rename_i hin
        injection hw with hw
        subst hw
        exact ⟨_, by rw [if_pos hin]; rfl, Or.inr ⟨_, _, rfl, rfl, .agg c f f' i i' hi⟩⟩
      · cases hw
  · rw [setAttr_skip S cv a v hs] at ho
    injection ho with ho
    exact ⟨none, setAttr_skip S cv a v' hs, Or.inl ⟨ho.symm, rfl⟩⟩
  · -- a data element: the converter sees the value only through `toVal`
    rw [setAttr_elem S cv a v hl hu hs] at ho
    obtain ⟨x, hx, rfl⟩ := PyM.map_ok ho
    exact ⟨some (.val x), by rw [setAttr_elem S cv a v' hl hu hs, ← h.toVal, hx]; rfl,
      Or.inr ⟨_, _, rfl, rfl, .val x⟩⟩

theorem setAttrs_sim (S : Schema) (cv : Conv) {kw kw' : List (Str × Node)} (h : KwSim kw kw') :
    ∀ (L : List Attr) (fs : List (Str × Node)), setAttrs S cv L kw = .ok fs →
      ∃ fs', setAttrs S cv L kw' = .ok fs' ∧ KwSim fs fs'
  | [], fs, hs => by
    simp only [setAttrs, Except.ok.injEq] at hs
    subst hs
    exact ⟨[], rfl, .nil⟩
  | a :: rest, fs, hs => by
    have hv : Sim ((lookup a.name kw).getD (.val .none)) ((lookup a.name kw').getD (.val .none)) := by
      rcases h.lookup a.name with ⟨h1, h2⟩ | ⟨v, v', h1, h2, hsim⟩
      · rw [h1, h2]; exact .val .none
      · rw [h1, h2]; exact hsim
    simp only [setAttrs] at hs ⊢
    obtain ⟨o, h1, hs⟩ := PyM.bind_ok hs
    obtain ⟨more, h2, hs⟩ := PyM.bind_ok hs
    obtain ⟨o', ho', hrel⟩ := setAttr_sim S cv a hv o h1
    obtain ⟨more', hm', hsim⟩ := setAttrs_sim S cv h rest more h2
    rw [ho', hm']
    rcases hrel with ⟨rfl, rfl⟩ | ⟨w, w', rfl, rfl, hw⟩ <;> injection hs with hs <;> subst hs
    · exact ⟨more', rfl, hsim⟩
    · exact ⟨(a.name, w') :: more', rfl, .cons hw hsim⟩

theorem mapM_sim {f g : Node → PyM Node}
    (hfg : ∀ m m', Sim m m' → ∀ y, f m = .ok y → ∃ y', g m' = .ok y' ∧ Sim y y') :
    ∀ (args args' : List Node), ArgsSim args args' → ∀ items, args.mapM f = .ok items →
      ∃ items', args'.mapM g = .ok items' ∧ ArgsSim items items' := by
  intro args args' h
  induction h with
  | nil =>
    intro items hi
    simp only [List.mapM_nil, PyM.pure_eq, Except.ok.injEq] at hi
    subst hi
    exact ⟨[], rfl, .nil⟩
  | @cons m m' r r' hm _ ih =>
    intro items hi
    rw [List.mapM_cons] at hi ⊢
    obtain ⟨y, h1, hi⟩ := PyM.bind_ok hi
    obtain ⟨ys, h2, hi⟩ := PyM.bind_ok hi
    injection hi with hi
    subst hi
    obtain ⟨y', hy', hs⟩ := hfg m m' hm y h1
    obtain ⟨ys', hys', hss⟩ := ih ys h2
    exact ⟨y' :: ys', by rw [hy', hys']; rfl, .cons hs hss⟩

theorem applyArgs_sim (S : Schema) (cv : Conv) (c : Cls) {args args' : List Node} (h : ArgsSim args args')
    (items : List Node) (ha : applyArgs S cv c args = .ok items) :
    ∃ items', applyArgs S cv c args' = .ok items' ∧ ArgsSim items items' := by
  cases hel : c.elementList with
  | true =>
    obtain ⟨a, inner, ireq, hfilt, hk, _⟩ := (applyArgs_ok ha).2.2 hel
    rw [applyArgs_el _ hel hfilt hk] at ha ⊢
    refine mapM_sim ?_ args args' h items ha
    intro m m' hm y hy
    rw [← hm.toVal]
    refine ⟨y, hy, ?_⟩
    cases hc : cv.convert S.enums inner ireq (Node.toVal m) with
    | error e => simp [hc, Except.map] at hy
    | ok x => simp only [hc, Except.map] at hy; injection hy with hy; subst hy; exact .val x
  | false =>
    rw [applyArgs_plain _ hel] at ha ⊢
    refine mapM_sim ?_ args args' h items ha
    intro m m' hm y hy
    cases hm with
    | val v => simp [applyArg] at hy
    | agg ci f f' i i' hi =>
      have hy' : (if (listAggNames c).contains (lower (clsName S ci)) = true then Except.ok (Node.agg ci f i)
          else Except.error Err.type) = Except.ok y := hy
      by_cases hcon : (listAggNames c).contains (lower (clsName S ci)) = true
      · rw [if_pos hcon] at hy'
        injection hy' with hy'
        subst hy'
        refine ⟨.agg ci f' i', ?_, .agg ci f f' i i' hi⟩
        show (if (listAggNames c).contains (lower (clsName S ci)) = true then Except.ok (Node.agg ci f' i')
          else Except.error Err.type) = _
        rw [if_pos hcon]
      · rw [if_neg hcon] at hy'
        cases hy'

theorem applyResidual_sim (c : Cls) {kw kw' : List (Str × Node)} (h : KwSim kw kw') :
    applyResidual c kw = applyResidual c kw' := by
  unfold applyResidual residualKeys
  rw [h.keys]

theorem construct_sim (S : Schema) (cv : Conv) (ci : Nat) {args args' : List Node} {kw kw' : List (Str × Node)}
    (ha : ArgsSim args args') (hk : KwSim kw kw') (n : Node) (h : construct S cv ci args kw = .ok n) :
    ∃ f i f' i', n = .agg ci f i ∧ construct S cv ci args' kw' = .ok (.agg ci f' i') ∧ KwSim f f' ∧ ArgsSim i i' := by
  obtain ⟨c, fields, items, hc, hval, hset, happ, hres, hn⟩ := (construct_ok_iff S cv ci args kw n).mp h
  obtain ⟨fields', hset', hfs⟩ := setAttrs_sim S cv hk _ fields hset
  obtain ⟨items', happ', his⟩ := applyArgs_sim S cv c ha items happ
  refine ⟨fields, items, fields', items', hn, ?_, hfs, his⟩
  apply (construct_ok_iff S cv ci args' kw' _).mpr
  refine ⟨c, fields', items', hc, ?_, hset', happ', ?_, rfl⟩
  · rw [← validateArgs_sim S c ha hk]; exact hval
  · rw [← applyResidual_sim c hk]; exact hres

theorem holds_sim (a : Attr) (ci : Nat) {f f' : List (Str × Node)} {i i' : List Node} (hf : KwSim f f')
    (hi : ArgsSim i i') : holds a (.agg ci f i) = holds a (.agg ci f' i') := by
  have hany : ∀ t, i.any (fun m => m.cls? == some t) = i'.any (fun m => m.cls? == some t) := by
    intro t
    induction hi with
    | nil => rfl
    | cons hm _ ih => simp only [List.any_cons, hm.cls, ih]
  have hl : (match lookup a.name f with | some v => notNone v | none => false) =
      (match lookup a.name f' with | some v => notNone v | none => false) := by
    rcases hf.lookup a.name with ⟨h1, h2⟩ | ⟨v, v', h1, h2, hs⟩
    · rw [h1, h2]
    · rw [h1, h2]; exact hs.notNone
  cases hk : a.kind <;> simp only [holds, hk] <;> first
    | exact hl
    | exact hany _
    | rw [hi.isEmpty]

/-- what the constructor can see of an argument before it is built: its class and whether it will have members -/
def stubDesc : Node → Node
  | .val v => .val v
  | .agg t _ args => .agg t [] (if args.isEmpty then [] else [.val .none])

def stubKw (kw : List (Str × Node)) : List (Str × Node) := kw.map (fun p => (p.1, stubDesc p.2))

def CallOk (S : Schema) (cv : Conv) : Node → Prop
  | .val _ => True
  | .agg t kw args => ∃ n, construct S cv t (args.map stubDesc) (stubKw kw) = .ok n

/-- `kwStep`, `argStep` and `kwAttrs` name the anonymous pieces of `Witness.mk`, so that one step of it can be stated
    (`mk_succ_some`) -/
def kwStep (S : Schema) (f : Nat) (a : Attr) : Option (Str × Node) :=
  match a.kind with
  | .sub t => (mk S f t none).map (fun d => (a.name, d))
  | k => (canonVal S.enums k).map (fun v => (a.name, Node.val v))

def argStep (S : Schema) (f : Nat) (a : Attr) : Option Node :=
  match a.kind with
  | .listAgg t => mk S f t none
  | k => (canonVal S.enums k).map Node.val

def kwAttrs (c : Cls) (force : Option Str) : List Attr :=
  c.spec.filter (fun a => plain a && (presentNames c force).contains a.name)

theorem kwAttrs_subset (c : Cls) (force : Option Str) : ∀ a ∈ kwAttrs c force, a ∈ c.spec :=
  fun _ ha => (List.mem_filter.mp ha).1

theorem kwStep_some {S : Schema} {f : Nat} {a : Attr} {p : Str × Node} (h : kwStep S f a = some p) :
    (∃ x, p.2 = .val x) ∨ ∃ t, a.kind = .sub t ∧ mk S f t none = some p.2 := by
  unfold kwStep at h
  split at h
  · obtain ⟨d, hd, rfl⟩ := Option.map_eq_some_iff.mp h
    exact Or.inr ⟨_, ‹_›, hd⟩
  · obtain ⟨v, _, rfl⟩ := Option.map_eq_some_iff.mp h
    exact Or.inl ⟨v, rfl⟩

theorem argStep_some {S : Schema} {f : Nat} {a : Attr} {m : Node} (h : argStep S f a = some m) :
    (∃ x, m = .val x) ∨ ∃ t, a.kind = .listAgg t ∧ mk S f t none = some m := by
  unfold argStep at h
  split at h
  · exact Or.inr ⟨_, ‹_›, h⟩
  · obtain ⟨v, _, rfl⟩ := Option.map_eq_some_iff.mp h
    exact Or.inl ⟨v, rfl⟩

theorem kwStep_mono {S : Schema} {f : Nat} (hm : ∀ t d, mk S f t none = some d → mk S (f + 1) t none = some d)
    (a : Attr) (p : Str × Node) (h : kwStep S f a = some p) : kwStep S (f + 1) a = some p := by
  unfold kwStep at h ⊢
  split at h
  · obtain ⟨d, hd, rfl⟩ := Option.map_eq_some_iff.mp h
    simp only [hm _ d hd, Option.map_some]
  · exact h

theorem argStep_mono {S : Schema} {f : Nat} (hm : ∀ t d, mk S f t none = some d → mk S (f + 1) t none = some d)
    (a : Attr) (m : Node) (h : argStep S f a = some m) : argStep S (f + 1) a = some m := by
  unfold argStep at h ⊢
  split at h
  · exact hm _ m h
  · exact h

theorem mk_succ_some {S : Schema} {f ci : Nat} {force : Option Str} {d : Node} :
    mk S (f + 1) ci force = some d ↔ ∃ c kw args, S.cls? ci = some c ∧
      (kwAttrs c force).mapM (kwStep S f) = some kw ∧ (memberAttrs c force).mapM (argStep S f) = some args ∧
      d = .agg ci kw args := by
  have hs : mk S (f + 1) ci force =
      match S.cls? ci with
      | none => none
      | some c =>
        match (kwAttrs c force).mapM (kwStep S f) with
        | none => none
        | some kw =>
          match (memberAttrs c force).mapM (argStep S f) with
          | none => none
          | some args => some (.agg ci kw args) := by
    simp only [mk]; rfl
  rw [hs]
  cases hc : S.cls? ci with
  | none => simp
  | some c =>
    cases h1 : (kwAttrs c force).mapM (kwStep S f) with
    | none => simp [h1]
    | some kw =>
      cases h2 : (memberAttrs c force).mapM (argStep S f) with
      | none => simp [h1, h2]
      | some args => simp [h1, h2, eq_comm]

theorem mk_mono (S : Schema) : ∀ (f ci : Nat) (force : Option Str) (d : Node),
    mk S f ci force = some d → mk S (f + 1) ci force = some d
  | 0, _, _, _, h => by simp [mk] at h
  | f + 1, ci, force, d, h => by
    obtain ⟨c, kw, args, hc, h1, h2, rfl⟩ := mk_succ_some.mp h
    have hm : ∀ t d, mk S f t none = some d → mk S (f + 1) t none = some d := fun t d => mk_mono S f t none d
    exact mk_succ_some.mpr ⟨c, kw, args, hc, List.mapM_option_mono _ _ (kwStep_mono hm) _ kw h1,
      List.mapM_option_mono _ _ (argStep_mono hm) _ args h2, rfl⟩

def Target (S : Schema) (t : Nat) : Prop :=
  ∃ c ∈ S.classes, ∃ a ∈ c.spec, a.kind = .sub t ∨ a.kind = .listAgg t

theorem memberAttrs_subset (c : Cls) (force : Option Str) : ∀ a ∈ memberAttrs c force, a ∈ c.spec := by
  intro a ha
  unfold memberAttrs at ha
  simp only [List.mem_append] at ha
  rcases ha with ha | ha
  · exact (List.mem_filter.mp (List.mem_filter.mp ha).1).1
  · split at ha
    · split at ha
      · simp at ha
      · cases hf : (c.spec.filter (fun a => a.kind.isList)).find? (fun a => (s "tax1099").isPrefixOf a.name) with
        | none => simp [hf] at ha
        | some b =>
          simp only [hf, Option.toList_some, List.mem_singleton] at ha
          subst ha
          exact (List.mem_filter.mp (List.mem_of_find?_eq_some hf)).1
    · split at ha
      · exact (List.mem_filter.mp (List.mem_of_head?_toList _ _ ha)).1
      · simp at ha

theorem mk_children (S : Schema) (F ci : Nat) (force : Option Str) (d : Node) (h : mk S F ci force = some d) :
    ∃ kw args, d = .agg ci kw args ∧
      (∀ k v, (k, v) ∈ kw → (∃ x, v = .val x) ∨ ∃ t, Target S t ∧ mk S F t none = some v) ∧
      (∀ m ∈ args, (∃ x, m = .val x) ∨ ∃ t, Target S t ∧ mk S F t none = some m) := by
  cases F with
  | zero => simp [mk] at h
  | succ f =>
    obtain ⟨c, kw, args, hc, h1, h2, rfl⟩ := mk_succ_some.mp h
    have hcm : c ∈ S.classes := List.mem_of_getElem? hc
    refine ⟨kw, args, rfl, fun k v hm => ?_, fun m hm => ?_⟩
    · obtain ⟨a, ha, hs⟩ := List.mapM_option_mem _ _ kw h1 (k, v) hm
      exact (kwStep_some hs).imp id fun ⟨t, hk, hmk⟩ =>
        ⟨t, ⟨c, hcm, a, kwAttrs_subset c force a ha, Or.inl hk⟩, mk_mono S f t none v hmk⟩
    · obtain ⟨a, ha, hs⟩ := List.mapM_option_mem _ _ args h2 m hm
      exact (argStep_some hs).imp id fun ⟨t, hk, hmk⟩ =>
        ⟨t, ⟨c, hcm, a, memberAttrs_subset c force a ha, Or.inr hk⟩, mk_mono S f t none m hmk⟩

theorem build_stub (S : Schema) (cv : Conv) (d n : Node) (h : build S cv d = .ok n) : Sim n (stubDesc d) := by
  cases d with
  | val v =>
    simp only [build, Except.ok.injEq] at h
    subst h
    exact .val v
  | agg t kw args =>
    obtain ⟨kw', args', _, ha, hc⟩ := build_agg_ok h
    obtain ⟨c, fields, items, _, _, _, happ, _, rfl⟩ := (construct_ok_iff S cv t args' kw' n).mp hc
    have hlen : items.length = args.length := by
      rw [(applyArgs_ok happ).1, PyM.mapM_length (buildArgs_eq S cv args ▸ ha)]
    refine .agg t _ _ _ _ ?_
    cases args <;> cases items <;> first | rfl | simp at hlen

theorem buildKw_stub (S : Schema) (cv : Conv) : ∀ (kw kw' : List (Str × Node)),
    buildKw S cv kw = .ok kw' → KwSim kw' (stubKw kw)
  | [], kw', h => by cases h; exact .nil
  | (k, d) :: r, kw', h => by
    rw [buildKw_eq] at h
    obtain ⟨_, r', hy, hr, rfl⟩ := PyM.mapM_cons_ok h
    obtain ⟨d', hd, rfl⟩ := PyM.map_ok hy
    exact .cons (build_stub S cv d d' hd) (buildKw_stub S cv r r' (buildKw_eq S cv r ▸ hr))

theorem buildArgs_stub (S : Schema) (cv : Conv) : ∀ (args args' : List Node),
    buildArgs S cv args = .ok args' → ArgsSim args' (args.map stubDesc)
  | [], args', h => by cases h; exact .nil
  | d :: r, args', h => by
    rw [buildArgs_eq] at h
    obtain ⟨d', r', hd, hr, rfl⟩ := PyM.mapM_cons_ok h
    exact .cons (build_stub S cv d d' hd) (buildArgs_stub S cv r r' (buildArgs_eq S cv r ▸ hr))

theorem build_callOk (S : Schema) (cv : Conv) (t : Nat) (kw : List (Str × Node)) (args : List Node) (n : Node)
    (h : build S cv (.agg t kw args) = .ok n) :
    ∃ n', construct S cv t (args.map stubDesc) (stubKw kw) = .ok n' ∧ ∀ a, holds a n' = holds a n := by
  obtain ⟨kw', args', hk, ha, hc⟩ := build_agg_ok h
  obtain ⟨f, i, f', i', rfl, hc', hfs, his⟩ :=
    construct_sim S cv t (buildArgs_stub S cv args args' ha) (buildKw_stub S cv kw kw' hk) n hc
  exact ⟨_, hc', fun a => (holds_sim a t hfs his).symm⟩

theorem pairOk_stub (S : Schema) (cv : Conv) (esc : Str → Str) (domB : Kind → Bool → Val → Bool) (X : List Str)
    (F ci : Nat) (c : Cls) (a : Attr) (h : pairOk S cv esc domB X F ci c a = true) :
    ∃ kw args n, mkWith S F ci a = some (.agg ci kw args) ∧
      construct S cv ci (args.map stubDesc) (stubKw kw) = .ok n ∧ holds a n = true := by
  obtain ⟨d, n, hd, hb, hh, _⟩ := pairOk_built S cv esc domB X F ci c a h
  obtain ⟨kw, args, rfl, _, _⟩ := mk_children S F ci (some a.name) d hd
  obtain ⟨n', hc', hh'⟩ := build_callOk S cv ci kw args n hb
  exact ⟨kw, args, n', hd, hc', by rw [hh' a]; exact hh⟩

/-- The minimal description of the class of a child is a part of the description of an instance holding that child, so
    an entry of the full table for the child closes the class-level obligation for the child's class. -/
theorem target_callOk (S : Schema) (cv : Conv) (esc : Str → Str) (domB : Kind → Bool → Val → Bool) (X : List Str)
    (F ci : Nat) (c : Cls) (a : Attr) (t : Nat) (hc : S.cls? ci = some c) (ha : a ∈ c.spec)
    (hk : a.kind = .sub t ∨ a.kind = .listAgg t) (h : pairOk S cv esc domB X F ci c a = true) (d : Node)
    (hd : mk S F t none = some d) : CallOk S cv d := by
  obtain ⟨d0, n0, hd0, hb0, _, _⟩ := pairOk_built S cv esc domB X F ci c a h
  cases F with
  | zero => simp [mk] at hd
  | succ f =>
    obtain ⟨c', kw, args, hc', h1, h2, rfl⟩ := mk_succ_some.mp hd0
    obtain rfl : c' = c := Option.some.inj (hc'.symm.trans hc)
    obtain ⟨kw', args', hkw, hargs, _⟩ := build_agg_ok hb0
    have hsub : ∃ n', build S cv d = .ok n' := by
      rcases hk with hk | hk
      · have hmem : a ∈ kwAttrs c' (some a.name) := by
          simp [kwAttrs, ha, plain, hk, Kind.isList, Kind.isUnsupported, presentNames]
        obtain ⟨p, hp, hstep⟩ := List.mapM_option_mem_left _ _ kw h1 a hmem
        simp only [kwStep, hk] at hstep
        obtain ⟨d', hm, rfl⟩ := Option.map_eq_some_iff.mp hstep
        obtain rfl : d' = d := Option.some.inj ((mk_mono S f t none d' hm).symm.trans hd)
        obtain ⟨_, _, hb⟩ := PyM.mapM_mem_left (buildKw_eq S cv kw ▸ hkw) hp
        exact (PyM.map_ok hb).imp fun _ h => h.1
      · have hmem : a ∈ memberAttrs c' (some a.name) := by
          simp [memberAttrs, ha, hk, Kind.isList]
        obtain ⟨m, hm, hstep⟩ := List.mapM_option_mem_left _ _ args h2 a hmem
        simp only [argStep, hk] at hstep
        obtain rfl : m = d := Option.some.inj ((mk_mono S f t none m hstep).symm.trans hd)
        exact (PyM.mapM_mem_left (buildArgs_eq S cv args ▸ hargs) hm).imp fun _ h => h.2
    obtain ⟨n', hb'⟩ := hsub
    obtain ⟨kw2, args2, rfl, _, _⟩ := mk_children S (f + 1) t none d hd
    obtain ⟨n2, hcon, _⟩ := build_callOk S cv t kw2 args2 n' hb'
    exact ⟨n2, hcon⟩

section
variable (S : Schema) (cv : Conv)

theorem buildKw_sim : ∀ (kw : List (Str × Node)),
    (∀ k v, (k, v) ∈ kw → ∃ n, build S cv v = .ok n ∧ Sim (stubDesc v) n) →
      ∃ kw', buildKw S cv kw = .ok kw' ∧ KwSim (stubKw kw) kw'
  | [], _ => ⟨[], rfl, .nil⟩
  | (k, v) :: r, h => by
    obtain ⟨n, hn, hs⟩ := h k v (by simp)
    obtain ⟨r', hr', hrs⟩ := buildKw_sim r (fun k' v' hm => h k' v' (by simp [hm]))
    exact ⟨(k, n) :: r', by simp only [buildKw, hn, hr'], .cons hs hrs⟩

theorem buildArgs_sim : ∀ (args : List Node), (∀ m ∈ args, ∃ n, build S cv m = .ok n ∧ Sim (stubDesc m) n) →
    ∃ args', buildArgs S cv args = .ok args' ∧ ArgsSim (args.map stubDesc) args'
  | [], _ => ⟨[], rfl, .nil⟩
  | v :: r, h => by
    obtain ⟨n, hn, hs⟩ := h v (by simp)
    obtain ⟨r', hr', hrs⟩ := buildArgs_sim r (fun m hm => h m (by simp [hm]))
    exact ⟨n :: r', by simp only [buildArgs, hn, hr'], .cons hs hrs⟩

variable (F : Nat) (htab : ∀ t d, Target S t → mk S F t none = some d → CallOk S cv d)

/-- a value, or the minimal description of a class some attribute targets: what `mk_children` says of every argument of
    a description, so the predicate passes to the arguments and `build_good` can go by induction on the description -/
def GoodDesc (d : Node) : Prop := (∃ x, d = .val x) ∨ ∃ t, Target S t ∧ mk S F t none = some d

include htab

theorem build_good : ∀ (d : Node), GoodDesc S F d → ∃ n, build S cv d = .ok n ∧ Sim (stubDesc d) n := by
  intro d
  induction d using Node.induct with
  | val v => exact fun _ => ⟨.val v, rfl, .val v⟩
  | agg t kw args ihK ihA =>
    intro hg
    rcases hg with ⟨x, hx⟩ | ⟨t', htgt, hmk⟩
    · cases hx
    · obtain ⟨kw0, args0, hd, hkwG, hargsG⟩ := mk_children S F t' none _ hmk
      injection hd with ht hkw0 hargs0
      subst ht hkw0 hargs0
      obtain ⟨n0, hn0⟩ := htab t _ htgt hmk
      obtain ⟨kw', hkw', hks⟩ := buildKw_sim S cv kw fun k v hm => ihK k v hm (hkwG k v hm)
      obtain ⟨args', hargs', has⟩ := buildArgs_sim S cv args fun m hm => ihA m hm (hargsG m hm)
      obtain ⟨f0, i0, f', i', _, hcon, _, _⟩ := construct_sim S cv t has hks n0 hn0
      have hb : build S cv (.agg t kw args) = .ok (.agg t f' i') := by
        simp only [build, hkw', hargs']; exact hcon
      exact ⟨_, hb, (build_stub S cv _ _ hb).symm⟩

end

end Ofx.Agg
