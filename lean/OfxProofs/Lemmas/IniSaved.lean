/-
Lemmas for `C18_saved_is_clean`: a property of every option and every section name (`AllKV`) is kept by
`mk_server_cfg` when the nickname and every text it writes have it; the guards `valuesStripped` and `noCR` are of that
form, `iniClean` is `Canon` together with one of that form; and what `arg2config` writes for a boolean, an integer or a
list of clean members is a stripped single line (`SavedOk`).
-/
import OfxProofs.Lemmas.IniLoad
import OfxProofs.Lemmas.OfxgetPersist

set_option linter.unusedSimpArgs false

namespace Ofx.IniText
open Ofx Ofx.Ofxget

def AllKV (P : Name → Str → Prop) (Q : Str → Prop) (c : Ini) : Prop :=
  (∀ kv ∈ c.defaults, P kv.1 kv.2) ∧ ∀ s ∈ c.sections, Q s.1 ∧ ∀ kv ∈ s.2, P kv.1 kv.2

theorem allKV_sect (P : Name → Str → Prop) (Q : Str → Prop) (c : Ini) (h : AllKV P Q c) (n : Str) :
    ∀ kv ∈ c.sect n, P kv.1 kv.2 := by
  unfold Ini.sect
  cases hl : c.sections.lookup n with
  | none => intro kv hkv; cases hkv
  | some x => exact (h.2 (n, x) (List.mem_of_lookup hl)).2

theorem allKV_set (P : Name → Str → Prop) (Q : Str → Prop) (c : Ini) (sect : Str) (k : Name) (v : Str)
    (h : AllKV P Q c) (hp : P (lower k) v) (hq : Q sect) : AllKV P Q (c.set sect k v) := by
  unfold Ini.set
  split
  · refine ⟨?_, h.2⟩
    intro kv hkv
    rcases mem_mapSet _ _ _ kv hkv with rfl | hkv
    · exact hp
    · exact h.1 kv hkv
  · refine ⟨h.1, ?_⟩
    intro s hs
    rcases mem_mapSet _ _ _ s hs with rfl | hs
    · refine ⟨hq, ?_⟩
      intro kv hkv
      rcases mem_mapSet _ _ _ kv hkv with rfl | hkv
      · exact hp
      · exact allKV_sect P Q c h sect kv hkv
    · exact h.2 s hs

theorem allKV_ensureSection (P : Name → Str → Prop) (Q : Str → Prop) (c : Ini) (s : Str) (hs : s ≠ defaultSect)
    (h : AllKV P Q c) (hq : Q s) : AllKV P Q (ensureSection c s) := by
  have hsf : (s == defaultSect) = false := by simpa using hs
  unfold ensureSection
  split
  · exact h
  · simp only [hsf, Bool.false_eq_true, if_false]
    refine ⟨h.1, ?_⟩
    intro x hx
    rcases List.mem_append.mp hx with hx | hx
    · exact h.2 x hx
    · simp only [List.mem_singleton] at hx
      subst hx
      exact ⟨hq, by intro kv hkv; cases hkv⟩

theorem mkServerCfg_allKV (P : Name → Str → Prop) (Q : Str → Prop) (T : Tables) (args : Chain) (mem lib : Ini)
    (disk : FileC) (uuid : Str) (cfg' : Ini) (s : Str) (hs : s ≠ defaultSect) (hnick : serverNick args = .ok s)
    (h : mkServerCfg T args mem lib disk uuid = .ok cfg')
    (hbase : AllKV P Q (reloadCfg mem disk uuid)) (hq : Q s)
    (hvals : ∀ ot ∈ T.configurable, ∀ v txt, args.get? ot.1 = some v → arg2config ot.2 v = .ok txt →
      P (lower ot.1) txt) :
    AllKV P Q cfg' :=
  mkServerCfg_ind (AllKV P Q) hnick h (allKV_ensureSection P Q _ s hs hbase hq)
    fun cfg hc ot hot v txt hv htxt => allKV_set P Q cfg s ot.1 txt hc (hvals ot hot v txt hv htxt) hq

theorem iniClean_iff (c : Ini) :
    iniClean c = true ↔ Canon c ∧ AllKV (fun k v => cleanKey k = true ∧ cleanValue v = true) (fun n => cleanName n = true) c := by
  constructor
  · intro h
    obtain ⟨hd, hs, hnd⟩ := iniClean_spec c h
    obtain ⟨hdk, hdn⟩ := cleanSect_spec _ hd
    refine ⟨⟨⟨hdn, cleanSect_lower _ hd⟩, hnd, fun sec hsec => (hs sec hsec).2.1, ?_⟩, hdk, ?_⟩
    · intro sec hsec
      exact ⟨(cleanSect_spec _ (hs sec hsec).2.2).2, cleanSect_lower _ (hs sec hsec).2.2⟩
    · intro sec hsec
      exact ⟨(hs sec hsec).1, (cleanSect_spec _ (hs sec hsec).2.2).1⟩
  · rintro ⟨hc, hd, hs⟩
    simp only [iniClean, cleanSect, Bool.and_eq_true, List.all_eq_true, decide_eq_true_eq, bne_iff_ne, ne_eq]
    refine ⟨⟨⟨hd, hc.dflt.1⟩, ?_⟩, hc.names⟩
    intro sec hsec
    exact ⟨⟨(hs sec hsec).1, hc.nodef sec hsec⟩, (hs sec hsec).2, (hc.sects sec hsec).1⟩

theorem valuesStripped_iff (c : Ini) :
    valuesStripped c = true ↔ AllKV (fun _ v => edgeClean v = true) (fun _ => True) c := by
  simp only [valuesStripped, Bool.and_eq_true, List.all_eq_true, AllKV, true_and]

theorem noCR_iff (c : Ini) :
    noCR c = true ↔ AllKV (fun k v => '\r' ∉ k ∧ '\r' ∉ v) (fun n => '\r' ∉ n) c := by
  simp only [noCR, Bool.and_eq_true, List.all_eq_true, Bool.not_eq_true', List.contains_eq_mem,
    decide_eq_false_iff_not, AllKV]

/-- a text `arg2config` hands to `cfg[opt] = …` that survives the file: one line, no blank at either end, no
    carriage return -/
structure SavedOk (txt : Str) : Prop where
  stripped : strip txt = txt
  oneLine : '\n' ∉ txt
  noCr : '\r' ∉ txt

theorem SavedOk.of_chars {txt : Str} (h1 : strip txt = txt) (h : ∀ c ∈ txt, c ≠ '\n' ∧ c ≠ '\r') : SavedOk txt :=
  ⟨h1, fun hm => (h _ hm).1 rfl, fun hm => (h _ hm).2 rfl⟩

theorem nlLines_oneLine (s : Str) (h : '\n' ∉ s) : nlLines s = (s, []) := by
  induction s with
  | nil => rfl
  | cons c cs ih =>
    have hc : c ≠ '\n' := fun e => h (by simp [e])
    simp only [nlLines, hc, if_false, ih (fun hm => h (by simp [hm]))]

theorem cleanValue_of_savedOk (txt : Str) (h : SavedOk txt) : cleanValue txt = true := by
  have he := edgeClean_of_strip txt h.stripped
  unfold cleanValue
  simp only [nlLines_oneLine txt h.oneLine, he, List.all_nil, Bool.and_true, Bool.true_and]
  simp only [edgeClean, Bool.and_eq_true] at he
  exact he.2

theorem savedOk_bool (b : Bool) : SavedOk (if b then "true".toList else "false".toList) := by
  cases b <;> exact ⟨by decide, by decide, by decide⟩

theorem digitChar_facts : ∀ d, d < 10 → digitChar d ≠ '\n' ∧ digitChar d ≠ '\r' := by decide

theorem savedOk_int (i : Int) : SavedOk (pyStrInt i) := by
  have hd' := natDigits_lt i.natAbs
  have hne' := natDigits_ne_nil i.natAbs
  have hnl : ∀ c ∈ (natDigits i.natAbs).map digitChar, c ≠ '\n' ∧ c ≠ '\r' := by
    intro c hc
    obtain ⟨d, hdm, rfl⟩ := List.mem_map.mp hc
    exact digitChar_facts d (hd' d hdm)
  unfold pyStrInt pyStrNat
  by_cases hneg : i < 0
  · simp only [hneg, if_true]
    have hs := strip_digits ['-'] (natDigits i.natAbs) hd' hne' (by decide)
    simp only [List.cons_append, List.nil_append] at hs
    refine .of_chars hs fun c hc => ?_
    rcases List.mem_cons.mp hc with rfl | hc
    · decide
    · exact hnl c hc
  · simp only [hneg, if_false]
    have hs := strip_digits [] (natDigits i.natAbs) hd' hne' (by simp)
    simp only [List.nil_append] at hs
    exact .of_chars hs hnl

theorem mem_join (sep : Str) (l : List Str) (c : Char) (h : c ∈ join sep l) : c ∈ sep ∨ ∃ m ∈ l, c ∈ m := by
  cases l with
  | nil => cases h
  | cons a l =>
    rw [join_cons, List.mem_append, List.mem_flatMap] at h
    rcases h with h | ⟨m, hm, h⟩
    · exact Or.inr ⟨a, by simp, h⟩
    · exact (List.mem_append.mp h).imp id fun h => ⟨m, by simp [hm], h⟩

theorem cleanChar_not_break (c : Char) (h : cleanChar c = true) : c ≠ '\n' ∧ c ≠ '\r' := by
  have h32 := (cleanChar_facts c h).2.2.2.1
  constructor
  · intro e; subst e; revert h32; decide
  · intro e; subst e; revert h32; decide

theorem savedOk_list (l : List Str) (hne : l ≠ []) (hl : ∀ m ∈ l, CleanMember m) :
    SavedOk (writeList (pyStrList l)) := by
  rw [writeList_clean l hne (fun m hm => (hl m hm).chars)]
  have hbr : ∀ c ∈ join ", ".toList l, c ≠ '\n' ∧ c ≠ '\r' := by
    intro c hc
    rcases mem_join _ _ _ hc with hc | ⟨m, hm, hc⟩
    · simp at hc
      rcases hc with rfl | rfl <;> decide
    · exact cleanChar_not_break c ((hl m hm).chars c hc)
  cases l with
  | nil => exact absurd rfl hne
  | cons m0 ms => exact .of_chars (strip_join_clean m0 ms hl) hbr

end Ofx.IniText
