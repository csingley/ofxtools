/-
What the element converters of `ofxtools.Types` return and write, case by case: `Reads enums k r x v` holds exactly when
`convert enums k r x = .ok v`, and `Writes enums k r v t` whenever `unconvert enums k r v = .ok (.str t)`. The two inversions
are the only places that unfold the converters for an unknown kind.
-/
import OfxProofs.Lemmas.Types
import OfxProofs.Lemmas.PyM
import OfxProofs.Defs.ValidB

namespace Ofx.Types
open Ofx

/-- `value.same_quantum(self.scale)` when a scale is declared -/
def atQuantum (q : Option Int) (d : Dec) : Bool :=
  match q with
  | some qe => sameQuantum d qe
  | none => true

/-- a value is written exactly when it is finite and (with a scale) at the quantum; the text is `format(value, "f")` -/
theorem C10_decimal_limits_write (q : Option Int) (r : Bool) (d : Dec) :
    decimalUnconvert q r (.dec d) =
      if atQuantum q d && d.isFinite then .ok (.str (decFormatF d)) else .error .value := by
  cases q with
  | none => cases hf : d.isFinite <;> simp [decimalUnconvert, atQuantum, hf]
  | some qe =>
    cases hq : sameQuantum d qe <;> cases hf : d.isFinite <;> simp [decimalUnconvert, atQuantum, hq, hf]

/-- kinds that have a converter of their own (not `.listElem`, which `convert` hands to its inner kind) -/
def hasConverter (enums : List (List Str)) : Kind → Bool
  | .bool | .string .. | .integer _ | .decimal _ | .datetime | .time => true
  | .oneOf e => decide (e < enums.length)
  | _ => false

/-- kinds whose converter reads the empty text as `None` (Types.py:253 `value == ""`, :325 `value or None`,
    :371 `len(value) == 0`) -/
def emptyIsNone (enums : List (List Str)) : Kind → Bool
  | .string .. | .integer _ => true
  | .oneOf e => decide (e < enums.length)
  | _ => false

inductive Reads (enums : List (List Str)) : Kind → Bool → Val → Val → Prop
  | none {k} : hasConverter enums k = true → Reads enums k false .none .none
  | empty {k} : emptyIsNone enums k = true → Reads enums k false (.str []) .none
  | list {k ir r x v} : Reads enums k ir x v → Reads enums (.listElem k ir) r x v
  | bool {r} (b : Bool) : Reads enums .bool r (.bool b) (.bool b)
  | boolText {r} (b : Bool) : Reads enums .bool r (.str (if b then ['Y'] else ['N'])) (.bool b)
  | string {l st r s} : s ≠ [] → fits l st (unescape s) = true → Reads enums (.string l st) r (.str s) (.str (unescape s))
  | oneOf {e valid r s} : enums[e]? = some valid → s ≠ [] → s ∈ valid → Reads enums (.oneOf e) r (.str s) (.str s)
  | int {l r i} : intFits l i = true → Reads enums (.integer l) r (.int i) (.int i)
  | intText {l r s i} : s ≠ [] → pyIntParse s = some i → intFits l i = true → Reads enums (.integer l) r (.str s) (.int i)
  | intDec {l r d i} : decToInt d = .ok i → intFits l i = true → Reads enums (.integer l) r (.dec d) (.int i)
  | dec {q r d d'} : applyScale q d = .ok d' → Reads enums (.decimal q) r (.dec d) (.dec d')
  | decText {q r s d d'} : decOfText s = .ok d → applyScale q d = .ok d' → Reads enums (.decimal q) r (.str s) (.dec d')
  | decInt {q r} (i : Int) : Reads enums (.decimal q) r (.int i) (.dec (decOfInt i))
  | decBool {q r} (b : Bool) : Reads enums (.decimal q) r (.bool b) (.dec (decOfInt (boolToInt b)))
  | dt {r d o} : Ofx.DateTime.utcoffset d.tz = .ok (some o) → Reads enums .datetime r (.dt d) (.dt d)
  | dtText {r s d} : s ≠ [] → Ofx.DateTime.dtConvertStr Ofx.Generated.tzs s = .ok (.dt d) → Reads enums .datetime r (.str s) (.dt d)
  | tm {r t o} : Ofx.DateTime.utcoffset t.tz = .ok (some o) → Reads enums .time r (.tm t) (.tm t)
  | tmText {r s t} : s ≠ [] → Ofx.DateTime.tmConvertStr Ofx.Generated.tzs s = .ok (.tm t) → Reads enums .time r (.str s) (.tm t)

theorem enforceRequired_ok {r : Bool} {v : Val} (h : enforceRequired r .none = .ok v) : r = false ∧ v = .none := by
  cases r
  · exact ⟨rfl, (Except.ok.inj h).symm⟩
  · cases h

theorem dt_enforceRequired_ok {r : Bool} {v : Val} (h : Ofx.DateTime.enforceRequired r = .ok v) :
    r = false ∧ v = .none := by
  cases r
  · exact ⟨rfl, (Except.ok.inj h).symm⟩
  · cases h

open Ofx.DateTime in
theorem dtConvertStr_dt (tzs : List (Str × Int)) (s : Str) (v : Val) (h : dtConvertStr tzs s = .ok v) :
    s ≠ [] ∧ ∃ d, v = .dt d := by
  refine ⟨(by rintro rfl; cases h), ?_⟩
  unfold dtConvertStr at h
  dsimp only at h
  split at h
  · -- the binds before the `if`: groups, offset, seven numbers
    iterate 9 obtain ⟨_, _, h⟩ := PyM.bind_ok h
    split at h
    · cases h
    · obtain ⟨_, _, h⟩ := PyM.bind_ok h
      cases h; exact ⟨_, rfl⟩
  · cases h

open Ofx.DateTime in
theorem tmConvertStr_tm (tzs : List (Str × Int)) (s : Str) (v : Val) (h : tmConvertStr tzs s = .ok v) :
    s ≠ [] ∧ ∃ t, v = .tm t := by
  refine ⟨(by rintro rfl; cases h), ?_⟩
  unfold tmConvertStr at h
  dsimp only at h
  split at h
  · -- groups, offset, four numbers
    iterate 6 obtain ⟨_, _, h⟩ := PyM.bind_ok h
    split at h
    · cases h
    · cases h; exact ⟨_, rfl⟩
  · cases h

theorem reads_of_convert (enums : List (List Str)) : ∀ (k : Kind) (r : Bool) (x v : Val),
    convert enums k r x = .ok v → Reads enums k r x v
  | .bool, r, x, v, h => by
    cases x with
    | none => obtain ⟨rfl, rfl⟩ := enforceRequired_ok h; exact .none rfl
    | bool b => cases h; exact .bool b
    | str s =>
      simp only [convert, boolConvert] at h
      split at h
      · rename_i hs; cases h; exact hs ▸ .boolText true
      · split at h
        · rename_i hs; cases h; exact hs ▸ .boolText false
        · cases h
    | _ => cases h
  | .string l st, r, x, v, h => by
    cases x with
    | none => obtain ⟨rfl, rfl⟩ := enforceRequired_ok h; exact .none rfl
    | str s =>
      by_cases hs : s = []
      · subst hs; obtain ⟨rfl, rfl⟩ := enforceRequired_ok (r := r) h; exact .empty rfl
      · rw [convert_string_text enums l st r hs] at h
        split at h
        · cases h; exact .string hs ‹_›
        · cases h
    | _ => cases h
  | .oneOf e, r, x, v, h => by
    rw [convert] at h
    split at h
    · rename_i valid he
      have hlt : e < enums.length := (List.getElem?_eq_some_iff.mp he).1
      cases x with
      | none => obtain ⟨rfl, rfl⟩ := enforceRequired_ok h; exact .none (by simpa [hasConverter] using hlt)
      | str s =>
        by_cases hs : s = []
        · subst hs; obtain ⟨rfl, rfl⟩ := enforceRequired_ok (r := r) h; exact .empty (by simpa [emptyIsNone] using hlt)
        · simp only [oneOfConvert, hs, if_false, oneOfDefault] at h
          split at h
          · cases h; exact .oneOf he hs ‹_›
          · cases h
      | _ => cases h
    · cases h
  | .integer l, r, x, v, h => by
    have key : ∀ {i}, (do intEnforceLength l i; pure (Val.int i) : PyM Val) = .ok v → intFits l i = true ∧ v = .int i := by
      intro i hi
      rw [intEnforceLength_ok] at hi
      split at hi
      · cases hi; exact ⟨‹_›, rfl⟩
      · cases hi
    cases x with
    | none => obtain ⟨rfl, rfl⟩ := enforceRequired_ok h; exact .none rfl
    | int i => obtain ⟨hf, rfl⟩ := key h; exact .int hf
    | str s =>
      by_cases hs : s = []
      · subst hs; obtain ⟨rfl, rfl⟩ := enforceRequired_ok (r := r) h; exact .empty rfl
      · have hl : s.length ≠ 0 := by simpa using hs
        simp only [convert, integerConvert, hl, if_false] at h
        split at h
        · rename_i i hp; obtain ⟨hf, rfl⟩ := key h; exact .intText hs hp hf
        · cases h
    | dec d =>
      obtain ⟨i, hi, h⟩ := PyM.bind_ok (f := fun i => _) h
      obtain ⟨hf, rfl⟩ := key h
      exact .intDec hi hf
    | _ => cases h
  | .decimal q, r, x, v, h => by
    cases x with
    | none => obtain ⟨rfl, rfl⟩ := enforceRequired_ok h; exact .none rfl
    | dec d => obtain ⟨d', hd, rfl⟩ := PyM.map_ok (g := Val.dec) h; exact .dec hd
    | str s =>
      obtain ⟨d0, h1, h⟩ := PyM.bind_ok (f := fun d => _) h
      obtain ⟨d, h2, h⟩ := PyM.bind_ok h
      cases h; exact .decText h1 h2
    | bool b => cases h; exact .decBool b
    | int i => cases h; exact .decInt i
    | _ => cases h
  | .datetime, r, x, v, h => by
    cases x with
    | none => obtain ⟨rfl, rfl⟩ := dt_enforceRequired_ok h; exact .none rfl
    | str s =>
      obtain ⟨hs, d, rfl⟩ := dtConvertStr_dt _ s v h
      exact .dtText hs h
    | dt d =>
      obtain ⟨o, ho, h⟩ := PyM.bind_ok (f := fun o => _) h
      cases o with
      | none => cases h
      | some o => cases h; exact .dt ho
    | _ => cases h
  | .time, r, x, v, h => by
    cases x with
    | none => obtain ⟨rfl, rfl⟩ := dt_enforceRequired_ok h; exact .none rfl
    | str s =>
      obtain ⟨hs, t, rfl⟩ := tmConvertStr_tm _ s v h
      exact .tmText hs h
    | tm t =>
      obtain ⟨o, ho, h⟩ := PyM.bind_ok (f := fun o => _) h
      cases o with
      | none => cases h
      | some o => cases h; exact .tm ho
    | _ => cases h
  | .listElem k ir, r, x, v, h => .list (reads_of_convert enums k ir x v h)
  | .sub _, _, _, _, h => by cases h
  | .listAgg _, _, _, _, h => by cases h
  | .unsupported, _, _, _, h => by cases h

theorem Reads.of_none {enums k r v} (h : Reads enums k r .none v) : v = .none := by
  generalize hx : Val.none = x at h
  induction h with
  | none _ => rfl
  | list _ ih => exact ih hx
  | _ => cases hx

theorem Reads.optional {enums k r x} (h : Reads enums k r x .none) (hl : k.isList = false) : r = false := by
  cases h with
  | none _ => rfl
  | empty _ => rfl
  | list _ => cases hl

theorem Reads.of_text {enums k r c cs v} (h : Reads enums k r (.str (c :: cs)) v) : v ≠ .none := by
  generalize hx : Val.str (c :: cs) = x at h
  induction h with
  | list _ ih => exact ih hx
  | none _ | empty _ => cases hx
  | _ => nofun

theorem Reads.of_other {enums k r s v} (h : Reads enums k r (.other s) v) : False := by
  generalize hx : Val.other s = x at h
  induction h with
  | list _ ih => exact ih hx
  | _ => cases hx

theorem convert_of_reads {enums : List (List Str)} {k : Kind} {r : Bool} {x v : Val} (h : Reads enums k r x v) :
    convert enums k r x = .ok v := by
  induction h with
  | @none k hk =>
    cases k <;> first | rfl | cases hk | skip
    simp only [hasConverter, decide_eq_true_eq] at hk
    simp only [convert, List.getElem?_eq_getElem hk]; rfl
  | @empty k hk =>
    cases k <;> first | rfl | cases hk | skip
    simp only [emptyIsNone, decide_eq_true_eq] at hk
    simp only [convert, List.getElem?_eq_getElem hk]; rfl
  | list _ ih => exact ih
  | bool b => rfl
  | boolText b => cases b <;> rfl
  | string hs hf => rw [convert_string_text enums _ _ _ hs, if_pos hf]
  | oneOf he hs hm => rw [convert_oneOf_text enums _ he hs, if_pos hm]
  | int hf => simp only [convert, integerConvert, intEnforceLength_ok, hf, if_true]; rfl
  | intText hs hp hf => rw [convert_integer_text enums _ _ hs hp, if_pos hf]
  | intDec hi hf => simp only [convert, integerConvert, hi, PyM.ok_bind, intEnforceLength_ok, hf, if_true]; rfl
  | dec hd => simp only [convert, decimalConvert, hd]; rfl
  | decText h1 h2 => simp only [convert, decimalConvert, h1, PyM.ok_bind, h2]; rfl
  | decInt i => rfl
  | decBool b => rfl
  | dt ho => simp only [convert, Ofx.DateTime.dtConvert, Ofx.DateTime.dtConvertWith, ho]; rfl
  | dtText _ h => exact h
  | tm ho => simp only [convert, Ofx.DateTime.tmConvert, Ofx.DateTime.tmConvertWith, ho]; rfl
  | tmText _ h => exact h

inductive Writes (enums : List (List Str)) : Kind → Bool → Val → Str → Prop
  | list {k ir r v t} : Writes enums k ir v t → Writes enums (.listElem k ir) r v t
  | bool {r} (b : Bool) : Writes enums .bool r (.bool b) (if b then ['Y'] else ['N'])
  | string {l st r s} : fits l st s = true → Writes enums (.string l st) r (.str s) s
  | oneOf {e valid r s} : enums[e]? = some valid → s ∈ valid → Writes enums (.oneOf e) r (.str s) s
  | int {l r i} : intFits l i = true → Writes enums (.integer l) r (.int i) (pyStrInt i)
  | dec {q r neg c e} : atQuantum q (.fin neg c e) = true →
      Writes enums (.decimal q) r (.dec (.fin neg c e)) (decFormatF (.fin neg c e))
  | dt {r d t} : Ofx.DateTime.dtUnconvert r (.dt d) = .ok (.str t) → Writes enums .datetime r (.dt d) t
  | tm {r x t} : Ofx.DateTime.tmUnconvert r (.tm x) = .ok (.str t) → Writes enums .time r (.tm x) t

theorem writes_of_unconvert (enums : List (List Str)) : ∀ (k : Kind) (r : Bool) (v : Val) (t : Str),
    unconvert enums k r v = .ok (.str t) → Writes enums k r v t
  | .bool, r, v, t, h => by
    cases v with
    | none => cases (enforceRequired_ok h).2
    | bool b => cases h; exact .bool b
    | _ => cases h
  | .string l st, r, v, t, h => by
    cases v with
    | none => cases (enforceRequired_ok h).2
    | str s =>
      simp only [unconvert, stringUnconvert, strEnforceLength_eq] at h
      split at h
      · cases h; exact .string ‹_›
      · cases h
    | _ => cases h
  | .oneOf e, r, v, t, h => by
    rw [unconvert] at h
    split at h
    · rename_i valid he
      cases v with
      | none => cases (enforceRequired_ok h).2
      | str s =>
        simp only [oneOfUnconvert, oneOfDefault] at h
        split at h
        · cases h; exact .oneOf he ‹_›
        · cases h
      | _ => cases h
    · cases h
  | .integer l, r, v, t, h => by
    cases v with
    | none => cases (enforceRequired_ok h).2
    | int i =>
      simp only [unconvert, integerUnconvert, intEnforceLength_ok] at h
      split at h
      · cases h; exact .int ‹_›
      · cases h
    | _ => cases h
  | .decimal q, r, v, t, h => by
    cases v with
    | none => cases (enforceRequired_ok h).2
    | dec d =>
      rw [unconvert, C10_decimal_limits_write] at h
      split at h
      · rename_i hq
        simp only [Bool.and_eq_true] at hq
        cases d with
        | fin neg c e => cases h; exact .dec hq.1
        | _ => cases hq.2
      · cases h
    | _ => cases h
  | .datetime, r, v, t, h => by
    cases v with
    | none => cases (dt_enforceRequired_ok h).2
    | dt d => exact .dt h
    | _ => cases h
  | .time, r, v, t, h => by
    cases v with
    | none => cases (dt_enforceRequired_ok h).2
    | tm x => exact .tm h
    | _ => cases h
  | .listElem k ir, r, v, t, h => .list (writes_of_unconvert enums k ir v t h)
  | .sub _, _, _, _, h => by cases h
  | .listAgg _, _, _, _, h => by cases h
  | .unsupported, _, _, _, h => by cases h

end Ofx.Types
