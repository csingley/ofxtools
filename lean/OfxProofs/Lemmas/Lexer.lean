/-
Scanner lemmas for `Ofx.Lexer`, in the normal form of DESIGN 3.4:
`scan (prefix ++ rest) = (prefix, rest)` given `∀ x ∈ prefix, p x` and `rest` empty or starting with a
character that fails `p`.  Then `lex` against `toks` (`lex_toks`), and every match is a `WfMatch` (`toks_wf`).
-/
import OfxModel.Ofx.Lexer
import OfxModel.Spec.Renders
import OfxProofs.Lemmas.List

namespace Ofx.Lexer
open Ofx Ofx.Spec

def Stops (p : Char → Bool) (rest : Str) : Prop := ∀ c r, rest = c :: r → p c = false

theorem stops_nil (p : Char → Bool) : Stops p [] := by intro c r h; cases h
theorem stops_cons {p : Char → Bool} {c : Char} (r : Str) (h : p c = false) : Stops p (c :: r) := by
  intro c' r' h'; cases h'; exact h

theorem Stops.head {p : Char → Bool} {rest : Str} (h : Stops p rest) : ∀ c ∈ rest.head?, p c = false :=
  fun c hc => (List.head?_eq_some_iff.1 hc).elim (h c)

theorem dropPrefix_append (p r : Str) : dropPrefix p (p ++ r) = some r := by
  induction p with
  | nil => cases r <;> rfl
  | cons a as ih => simp [dropPrefix, ih]

theorem dropPrefix_nil_right (p : Str) (h : p ≠ []) : dropPrefix p [] = none := by
  cases p with
  | nil => exact absurd rfl h
  | cons a as => rfl

theorem dropPrefix_cons_ne (a c : Char) (as cs : Str) (h : a ≠ c) : dropPrefix (a :: as) (c :: cs) = none := by
  simp [dropPrefix, h]

theorem dropPrefix_cons_eq (a : Char) (as cs : Str) : dropPrefix (a :: as) (a :: cs) = dropPrefix as cs := by
  simp [dropPrefix]

theorem isTagChar_of_name {c : Char} (h : isNameChar c = true) : isTagChar c = true := by
  simp [isTagChar, h]

theorem name_ne_slash {c : Char} (h : isNameChar c = true) : c ≠ '/' := by
  intro e; subst e; revert h; decide
theorem name_ne_gt {c : Char} (h : isNameChar c = true) : c ≠ '>' := by
  intro e; subst e; revert h; decide
theorem name_ne_bang {c : Char} (h : isNameChar c = true) : c ≠ '!' := by
  intro e; subst e; revert h; decide
theorem space_ne_lt {c : Char} (h : isSpace c = true) : c ≠ '<' := by
  intro e; subst e; revert h; decide
theorem space_notLt {c : Char} (h : isSpace c = true) : notLt c = true := by
  simp [notLt, space_ne_lt h]
theorem tagChar_gt : isTagChar '>' = false := by decide
theorem tagChar_slash : isTagChar '/' = true := by decide
theorem notLt_lt : notLt '<' = false := by decide

theorem optStr_eq_none (x : Str) : optStr x = none ↔ x = [] := by
  cases x <;> simp [optStr]

theorem optLen_optStr (x : Str) : optLen (optStr x) = x.length := by
  cases x <;> simp [optStr, optLen]

theorem toksGo_skip (a rest : Str) : toksGo a.length (a ++ rest) = toksGo 0 rest := by
  induction a with
  | nil => rfl
  | cons c cs ih => simpa [toksGo] using ih

theorem matchHere_len_pos (s : Str) (m : Match) (h : matchHere s = some m) : 0 < m.len := by
  unfold matchHere at h
  split at h
  · split at h
    · cases h; show 0 < 2 + _ + _ + _; omega
    · cases h
  · cases h

theorem toksGo_match (tok rest : Str) (m : Match)
    (hm : matchHere (tok ++ rest) = some m) (hl : m.len = tok.length) :
    toksGo 0 (tok ++ rest) = m :: toksGo 0 rest := by
  cases tok with
  | nil => exact absurd (matchHere_len_pos _ m hm) (by simp [hl])
  | cons c cs =>
    simp only [List.cons_append] at hm ⊢
    simp only [toksGo, hm]
    have : m.len - 1 = cs.length := by simp [hl]
    rw [this, toksGo_skip]

theorem matchHere_ne_lt (c : Char) (cs : Str) (h : c ≠ '<') : matchHere (c :: cs) = none := by
  unfold matchHere
  split
  · rename_i r heq; cases heq; exact absurd rfl h
  · rfl

theorem toksGo_skip_notLt (w rest : Str) (hw : ∀ c ∈ w, notLt c = true) : toksGo 0 (w ++ rest) = toksGo 0 rest := by
  induction w with
  | nil => rfl
  | cons c cs ih =>
    have hc : c ≠ '<' := by
      have := hw c (by simp); simpa [notLt] using this
    simp only [List.cons_append, toksGo, matchHere_ne_lt c _ hc]
    exact ih (fun x hx => hw x (by simp [hx]))

theorem scanBody_plain (x rest : Str) (hx : ∀ c ∈ x, notLt c = true) (hrest : Stops notLt rest)
    (hcd : dropPrefix cdataOpen (x ++ rest) = none) :
    scanBody (x ++ rest) = (none, optStr x, rest) := by
  simp only [scanBody, hcd, Option.bind_none, List.takeWhile_run hx hrest.head, List.dropWhile_run hx hrest.head]

theorem scanClose_none (tg r : Str) (h : dropPrefix (endTag tg) r = none) : scanClose tg r = (none, r) := by
  simp only [endTag] at h
  simp only [scanClose, h]

theorem scanClose_some (tg r : Str) : scanClose tg (endTag tg ++ r) = (some tg, r) := by
  have := dropPrefix_append (endTag tg) r
  simp only [endTag] at this ⊢
  simp only [scanClose, this]

theorem scanTail_run (w rest : Str) (hw : ∀ c ∈ w, notLt c = true) (hrest : Stops notLt rest) :
    scanTail (w ++ rest) = optStr w := by
  simp only [scanTail, List.takeWhile_run hw hrest.head]

theorem scanTail_stop (rest : Str) (hrest : Stops notLt rest) : scanTail rest = none := by
  have := scanTail_run [] rest (by simp) hrest
  simpa [optStr] using this

theorem matchHere_tag (tg r2 : Str) (htg : tg ≠ []) (htc : ∀ c ∈ tg, isTagChar c = true) :
    matchHere (startTag tg ++ r2) =
      some { tag := tg, cdata := (scanBody r2).1, text := (scanBody r2).2.1,
             closetag := (scanClose tg (scanBody r2).2.2).1,
             tail := scanTail (scanClose tg (scanBody r2).2.2).2,
             len := 2 + tg.length + (r2.length - (scanClose tg (scanBody r2).2.2).2.length)
                      + optLen (scanTail (scanClose tg (scanBody r2).2.2).2) } := by
  have hst : Stops isTagChar ('>' :: r2) := stops_cons r2 tagChar_gt
  have e : startTag tg ++ r2 = '<' :: (tg ++ '>' :: r2) := by simp [startTag]
  rw [e]
  unfold matchHere
  simp only [List.takeWhile_run htc hst.head, List.dropWhile_run htc hst.head]
  cases tg with
  | nil => exact absurd rfl htg
  | cons t ts => rfl

theorem matchHere_parts (tg B C T rest : Str) (cd tx ct : Option Str) (htg : tg ≠ [])
    (htc : ∀ c ∈ tg, isTagChar c = true)
    (hb : scanBody (B ++ (C ++ (T ++ rest))) = (cd, tx, C ++ (T ++ rest)))
    (hc : scanClose tg (C ++ (T ++ rest)) = (ct, T ++ rest))
    (ht : scanTail (T ++ rest) = optStr T) :
    matchHere (startTag tg ++ (B ++ (C ++ (T ++ rest)))) =
      some { tag := tg, cdata := cd, text := tx, closetag := ct, tail := optStr T,
             len := (startTag tg ++ (B ++ (C ++ T))).length } := by
  rw [matchHere_tag tg _ htg htc, hb]
  simp only [hc, ht, optLen_optStr]
  simp only [startTag, List.length_append, List.length_cons, List.length_nil, Match.mk.injEq, Option.some.injEq,
    true_and]
  omega

theorem dropPrefix_cdataOpen_notLt (x r : Str) (hne : x ≠ []) (hx : ∀ c ∈ x, notLt c = true) :
    dropPrefix cdataOpen (x ++ r) = none := by
  cases x with
  | nil => exact absurd rfl hne
  | cons c cs =>
    have : c ≠ '<' := by simpa [notLt] using hx c (by simp)
    exact dropPrefix_cons_ne _ _ _ _ (Ne.symm this)

theorem dropPrefix_cdataOpen_plain (x tg r : Str) (hx : ∀ c ∈ x, notLt c = true) :
    dropPrefix cdataOpen (x ++ (endTag tg ++ r)) = none := by
  cases x with
  | nil => rfl
  | cons c cs => exact dropPrefix_cdataOpen_notLt _ _ (List.cons_ne_nil c cs) hx

/-- covers start tags of aggregates, SGML-style data elements and end tags (`tg = /NAME`) -/
theorem matchHere_open (tg x rest : Str) (htg : tg ≠ []) (htc : ∀ c ∈ tg, isTagChar c = true)
    (hx : ∀ c ∈ x, notLt c = true) (hrest : Stops notLt rest)
    (hcd : dropPrefix cdataOpen (x ++ rest) = none)
    (hcl : dropPrefix (endTag tg) rest = none) :
    matchHere (startTag tg ++ (x ++ rest)) =
      some { tag := tg, cdata := none, text := optStr x, closetag := none, tail := none,
             len := (startTag tg ++ x).length } := by
  simpa only [List.nil_append, List.append_nil, optStr] using matchHere_parts tg x [] [] rest none (optStr x) none htg htc
    (scanBody_plain x rest hx hrest hcd) (scanClose_none tg rest hcl) (scanTail_stop rest hrest)

theorem matchHere_closed (tg x w rest : Str) (htg : tg ≠ []) (htc : ∀ c ∈ tg, isTagChar c = true)
    (hx : ∀ c ∈ x, notLt c = true) (hw : ∀ c ∈ w, notLt c = true) (hrest : Stops notLt rest) :
    matchHere (startTag tg ++ (x ++ (endTag tg ++ (w ++ rest)))) =
      some { tag := tg, cdata := none, text := optStr x, closetag := some tg, tail := optStr w,
             len := (startTag tg ++ (x ++ (endTag tg ++ w))).length } :=
  matchHere_parts tg x (endTag tg) w rest none (optStr x) (some tg) htg htc
    (scanBody_plain x _ hx (stops_cons _ notLt_lt) (dropPrefix_cdataOpen_plain x tg _ hx))
    (scanClose_some tg _) (scanTail_run w rest hw hrest)

/-- no occurrence of `]]>` straddles the end of data that itself contains none -/
theorem isPrefixOf_close_append (x L : Str) (hne : x ≠ []) (h : cdataClose.isPrefixOf x = false) :
    cdataClose.isPrefixOf (x ++ (cdataClose ++ L)) = false := by
  match x, hne, h with
  | [a], _, _ => simp [cdataClose, List.isPrefixOf]
  | [a, b], _, _ => simp [cdataClose, List.isPrefixOf]
  | a :: b :: c :: r, _, h =>
    simp only [cdataClose, List.cons_append, List.isPrefixOf] at h ⊢
    simpa using h

theorem findFirstClose_run (d L : Str) (h : containsSub cdataClose d = false) :
    findFirstClose (d ++ (cdataClose ++ L)) = some d.length := by
  induction d with
  | nil => simp [findFirstClose, cdataClose, List.isPrefixOf]
  | cons c cs ih =>
    simp only [containsSub, Bool.or_eq_false_iff] at h
    have hp := isPrefixOf_close_append (c :: cs) L (by simp) h.1
    simp only [List.cons_append] at hp ⊢
    simp only [findFirstClose, hp, Bool.false_eq_true, if_false, ih h.2, List.length_cons]

theorem containsSub_tail (sub : Str) (c : Char) (cs : Str) (h : containsSub sub (c :: cs) = false) :
    containsSub sub cs = false := by
  simp only [containsSub, Bool.or_eq_false_iff] at h
  exact h.2

theorem scanCdata_run (d post : Str) (hd : d ≠ []) (hnl : ∀ c ∈ d, notNl c = true)
    (hcl : containsSub cdataClose d = false) :
    scanCdata (d ++ (cdataClose ++ post)) = some (d, post) := by
  cases d with
  | nil => exact absurd rfl hd
  | cons c0 d' =>
    have hline : ((c0 :: d') ++ (cdataClose ++ post)).takeWhile notNl
        = c0 :: (d' ++ (cdataClose ++ post.takeWhile notNl)) := by
      rw [List.takeWhile_append_of_pos hnl, List.takeWhile_append_of_pos (l₁ := cdataClose) (by decide)]
      rfl
    have hf : findFirstClose (d' ++ (cdataClose ++ post.takeWhile notNl)) = some d'.length :=
      findFirstClose_run d' _ (containsSub_tail _ c0 d' hcl)
    unfold scanCdata
    rw [hline]
    simp only [hf]
    have e1 : ((c0 :: d') ++ (cdataClose ++ post)).take (d'.length + 1) = c0 :: d' := by
      apply List.take_left'; simp
    have e2 : ((c0 :: d') ++ (cdataClose ++ post)).drop (d'.length + 4) = post := by
      have : (c0 :: d') ++ (cdataClose ++ post) = ((c0 :: d') ++ cdataClose) ++ post := by simp
      rw [this]; apply List.drop_left'; simp [cdataClose]
    rw [e1, e2]

theorem stops_space_of_notLt {rest : Str} (h : Stops notLt rest) : Stops isSpace rest := by
  intro c r e
  have hc : notLt c = false := h c r e
  have : c = '<' := by simpa [notLt] using hc
  subst this; decide

theorem scanBody_cdata_raw (d post : Str) (hd : d ≠ []) (hnl : ∀ c ∈ d, notNl c = true)
    (hg : containsSub cdataClose d = false) :
    scanBody (cdataOf d ++ post) = (some d, none, post.dropWhile isSpace) := by
  have e : cdataOf d ++ post = cdataOpen ++ (d ++ (cdataClose ++ post)) := by simp [cdataOf]
  rw [e]
  simp only [scanBody, dropPrefix_append, Option.bind_some, scanCdata_run d post hd hnl hg]

theorem scanBody_cdata (d w post : Str) (hd : d ≠ []) (hnl : ∀ c ∈ d, notNl c = true)
    (hg : containsSub cdataClose d = false) (hw : ∀ c ∈ w, isSpace c = true) (hpost : Stops isSpace post) :
    scanBody (cdataOf d ++ (w ++ post)) = (some d, none, post) := by
  rw [scanBody_cdata_raw d _ hd hnl hg, List.dropWhile_run hw hpost.head]

/-- the white space after `]]>` belongs to the match, not to `tail` -/
theorem matchHere_cdata_open (tg d w rest : Str) (htg : tg ≠ []) (htc : ∀ c ∈ tg, isTagChar c = true)
    (hd : d ≠ []) (hnl : ∀ c ∈ d, notNl c = true) (hw : ∀ c ∈ w, isSpace c = true) (hrest : Stops notLt rest)
    (hg : containsSub cdataClose d = false)
    (hcl : dropPrefix (endTag tg) rest = none) :
    matchHere (startTag tg ++ (cdataOf d ++ (w ++ rest))) =
      some { tag := tg, cdata := some d, text := none, closetag := none, tail := none,
             len := (startTag tg ++ (cdataOf d ++ w)).length } := by
  simpa only [List.nil_append, List.append_nil, List.append_assoc, optStr] using
    matchHere_parts tg (cdataOf d ++ w) [] [] rest (some d) none none htg htc
      (by rw [List.append_assoc]; exact scanBody_cdata d w rest hd hnl hg hw (stops_space_of_notLt hrest))
      (scanClose_none tg rest hcl) (scanTail_stop rest hrest)

theorem matchHere_cdata_tail (tg d w x rest : Str) (c : Char) (htg : tg ≠ []) (htc : ∀ c ∈ tg, isTagChar c = true)
    (hd : d ≠ []) (hnl : ∀ c ∈ d, notNl c = true) (hw : ∀ c ∈ w, isSpace c = true)
    (hc : isSpace c = false) (hx : ∀ a ∈ c :: x, notLt a = true) (hrest : Stops notLt rest)
    (hg : containsSub cdataClose d = false) :
    matchHere (startTag tg ++ (cdataOf d ++ (w ++ (c :: x ++ rest)))) =
      some { tag := tg, cdata := some d, text := none, closetag := none, tail := some (c :: x),
             len := (startTag tg ++ (cdataOf d ++ (w ++ c :: x))).length } := by
  have hcl : dropPrefix (endTag tg) (c :: x ++ rest) = none := by
    have : c ≠ '<' := by simpa [notLt] using hx c (by simp)
    exact dropPrefix_cons_ne _ _ _ _ (Ne.symm this)
  simpa only [List.nil_append, List.append_assoc, optStr] using
    matchHere_parts tg (cdataOf d ++ w) [] (c :: x) rest (some d) none none htg htc
      (by rw [List.append_assoc]; exact scanBody_cdata d w _ hd hnl hg hw (stops_cons (x ++ rest) hc))
      (scanClose_none tg _ hcl) (scanTail_run (c :: x) rest hx hrest)

theorem matchHere_cdata_closed (tg d w1 w rest : Str) (htg : tg ≠ []) (htc : ∀ c ∈ tg, isTagChar c = true)
    (hd : d ≠ []) (hnl : ∀ c ∈ d, notNl c = true) (hw1 : ∀ c ∈ w1, isSpace c = true)
    (hw : ∀ c ∈ w, notLt c = true) (hrest : Stops notLt rest)
    (hg : containsSub cdataClose d = false) :
    matchHere (startTag tg ++ (cdataOf d ++ (w1 ++ (endTag tg ++ (w ++ rest))))) =
      some { tag := tg, cdata := some d, text := none, closetag := some tg, tail := optStr w,
             len := (startTag tg ++ (cdataOf d ++ (w1 ++ (endTag tg ++ w)))).length } := by
  simpa only [List.append_assoc] using
    matchHere_parts tg (cdataOf d ++ w1) (endTag tg) w rest (some d) none (some tg) htg htc
      (by rw [List.append_assoc]; exact scanBody_cdata d w1 _ hd hnl hg hw1 (stops_cons _ (by decide)))
      (scanClose_some tg _) (scanTail_run w rest hw hrest)

/-- the `lex` driver op (with offsets) and the token list used by `feed` are the same scan -/
theorem lexGo_toksGo (skip pos : Nat) (s : Str) : (lexGo skip pos s).map Prod.snd = toksGo skip s := by
  induction s generalizing skip pos with
  | nil => cases skip <;> rfl
  | cons c cs ih =>
    cases skip with
    | succ k => simpa [lexGo, toksGo] using ih k (pos + 1)
    | zero =>
      simp only [lexGo, toksGo]
      cases matchHere (c :: cs) with
      | none => exact ih 0 (pos + 1)
      | some m => simp only [List.map_cons]; rw [ih]

theorem lex_toks (s : Str) : (lex s).map Prod.snd = toks s := lexGo_toksGo 0 0 s

/-- what every regex match satisfies (`toks_wf`): the two `assert`s of `feed`/`_feedmatch` never fire -/
def WfMatch (m : Match) : Prop :=
  m.tag ≠ [] ∧ (m.closetag = none ∨ m.closetag = some m.tag) ∧
  ((m.cdata = none) ∨ (m.text = none ∧ ∃ c cs, m.cdata = some (c :: cs)))

theorem scanCdata_ne (r d r' : Str) (h : scanCdata r = some (d, r')) : ∃ c cs, d = c :: cs := by
  unfold scanCdata at h
  split at h
  · cases h
  · rename_i c0 l hl
    split at h
    · cases h
    · rename_i i hi
      injection h with h; injection h with h1 h2
      cases r with
      | nil => simp at hl
      | cons a as => exact ⟨a, as.take i, by rw [← h1]; simp⟩

theorem scanBody_wf (r : Str) :
    (scanBody r).1 = none ∨ ((scanBody r).2.1 = none ∧ ∃ c cs, (scanBody r).1 = some (c :: cs)) := by
  unfold scanBody
  split
  · rename_i cd r' h
    refine Or.inr ⟨rfl, ?_⟩
    cases hd : dropPrefix cdataOpen r with
    | none => rw [hd] at h; cases h
    | some r2 =>
      rw [hd] at h
      obtain ⟨c, cs, rfl⟩ := scanCdata_ne r2 cd r' h
      exact ⟨c, cs, rfl⟩
  · exact Or.inl rfl

theorem scanClose_wf (tg r : Str) : (scanClose tg r).1 = none ∨ (scanClose tg r).1 = some tg := by
  unfold scanClose
  split
  · exact Or.inr rfl
  · exact Or.inl rfl

theorem matchHere_wf (s : Str) (m : Match) (h : matchHere s = some m) : WfMatch m := by
  unfold matchHere at h
  split at h
  · rename_i r
    split at h
    · rename_i t ts r2 h1 h2
      injection h with h
      subst h
      exact ⟨by simp, scanClose_wf _ _, scanBody_wf r2⟩
    · cases h
  · cases h

theorem toksGo_wf (skip : Nat) (s : Str) : ∀ m ∈ toksGo skip s, WfMatch m := by
  induction s generalizing skip with
  | nil => intro m hm; cases skip <;> simp [toksGo] at hm
  | cons c cs ih =>
    cases skip with
    | succ k => intro m hm; simp only [toksGo] at hm; exact ih k m hm
    | zero =>
      intro m hm
      simp only [toksGo] at hm
      cases hmh : matchHere (c :: cs) with
      | none => rw [hmh] at hm; exact ih 0 m hm
      | some m0 =>
        rw [hmh] at hm
        rcases List.mem_cons.mp hm with rfl | h
        · exact matchHere_wf _ _ hmh
        · exact ih _ m h

theorem toks_wf (s : Str) : ∀ m ∈ toks s, WfMatch m := toksGo_wf 0 s

end Ofx.Lexer
