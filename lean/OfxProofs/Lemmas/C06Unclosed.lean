/-
When does `Aggregate.to_etree` write no childless aggregate?  (the guard of the unclosed SGML writer,
`Serialize.unclosedGuard`, known finding unclosed-empty-aggregate-no-end-tag)  For a valid instance it is enough that
every aggregate in it has an attribute that is set or a list member (`dense`).
-/
import OfxProofs.Lemmas.Written

namespace Ofx.Pipeline
open Ofx Ofx.Agg Ofx.Spec.Wire Ofx.Serialize

mutual
  def dense : Node → Bool
    | .val _ => true
    | .agg _ fs its => (fs.any (fun p => !p.2.isNone) || !its.isEmpty) && denseFields fs && denseItems its
  def denseFields : List (Str × Node) → Bool
    | [] => true
    | (_, v) :: r => dense v && denseFields r
  def denseItems : List Node → Bool
    | [] => true
    | v :: r => dense v && denseItems r
end

theorem denseFields_iff : ∀ fs, denseFields fs = true ↔ ∀ p ∈ fs, dense p.2 = true :=
  allItemsB rfl fun _ _ => rfl

theorem denseItems_iff : ∀ is, denseItems is = true ↔ ∀ m ∈ is, dense m = true :=
  allItemsB rfl fun _ _ => rfl

theorem hasEmptyAggList_false_iff : ∀ cs, hasEmptyAggList cs = false ↔ ∀ c ∈ cs, hasEmptyAgg c = false
  | [] => by simp [hasEmptyAggList]
  | c :: cs => by simp [hasEmptyAggList, hasEmptyAggList_false_iff cs]

/-- the `ungroom` rename changes a tag only -/
theorem renameFirst_facts (u : Rename) : ∀ (L : List Tree),
    (renameFirst u L).isEmpty = L.isEmpty ∧ hasEmptyAggList (renameFirst u L) = hasEmptyAggList L
  | [] => by simp [renameFirst]
  | .node t x tl cs :: rest => by
    by_cases ht : t = u.fromTag
    · simp [renameFirst, ht, hasEmptyAggList, hasEmptyAgg]
    · simp [renameFirst, ht, hasEmptyAggList, hasEmptyAgg, (renameFirst_facts u rest).2]

section
variable (S : Schema) (cv : Conv)

theorem listAppend_length (c : Cls) (items : List Node) (ms : List Tree)
    (h : listAppend S cv c items (itemTrees S cv items) = .ok ms) : ms.length = items.length := by
  unfold listAppend at h
  split at h
  · split at h
    · split at h
      · exact PyM.mapM_length h
      · simp at h
    · simp at h
  · rw [PyM.mapM_length h, itemTrees_eq_map, List.length_map]

theorem emit_ne_field (c : Cls) (fields : List (Str × Node)) (items : List Node) (spec : List Attr) (dl : Bool)
    (ts : List Tree)
    (h : emitSpec S cv c fields (fieldTrees S cv fields) items (itemTrees S cv items) spec dl = .ok ts)
    (hex : ∃ a ∈ spec, a.kind.isList = false ∧ a.kind.isUnsupported = false ∧
      ∃ w, lookup a.name fields = some w ∧ w.isNone = false) : ts ≠ [] := by
  obtain ⟨a, ha, hl, hu, w, hw, hn⟩ := hex
  obtain ⟨o, o1, o2, ho, rfl⟩ := emitSpec_field_mem S cv c fields items h ha hl hu hw
  obtain ⟨ch, rfl⟩ := fieldTree_some S cv ho hn
  simp

theorem emit_ne_items (c : Cls) (fields : List (Str × Node)) (items : List Node) (hne : items ≠ [])
    (spec : List Attr) (ts : List Tree)
    (h : emitSpec S cv c fields (fieldTrees S cv fields) items (itemTrees S cv items) spec true = .ok ts)
    (hany : spec.any (·.kind.isList) = true) : ts ≠ [] := by
  obtain ⟨ms, o1, o2, hms, rfl⟩ := emitSpec_members S cv c fields items h hany
  have hlen := listAppend_length S cv c items ms hms
  cases ms with
  | nil => exact absurd (List.eq_nil_of_length_eq_zero hlen.symm) hne
  | cons _ _ => simp
end

section
variable (S : Schema) (cv : Conv) (esc : Str → Str) (Dom : Kind → Bool → Val → Prop)

theorem FieldsMatch.keys_nodup {P : Attr → Node → Prop} {L : List Attr} {fs : List (Str × Node)}
    (h : FieldsMatch P L fs) (hnd : (L.map (·.name)).Nodup) : (fs.map (·.1)).Nodup :=
  (fieldsMatch_keys_sublist h).nodup hnd

theorem NodeOk.keys_nodup {c : Cls} {ci : Nat} {fields : List (Str × Node)} {items : List Node}
    (ok : NodeOk S cv esc Dom c ci fields items) : (fields.map (·.1)).Nodup :=
  FieldsMatch.keys_nodup ok.fm (specNoList_nodup c ok.wf.nodup)

theorem node_dense (laws : ConvLaws cv S.enums esc Dom)
    (c : Cls) (ci : Nat) (fields : List (Str × Node)) (items : List Node)
    (ok : NodeOk S cv esc Dom c ci fields items)
    (ihF : ∀ n v, (n, v) ∈ fields → v.isAgg = true → RT S cv esc v)
    (ihI : ∀ m ∈ items, m.isAgg = true → RT S cv esc m)
    (gF : ∀ n v t, (n, v) ∈ fields → v.isAgg = true → toEtree S cv v = .ok t → hasEmptyAgg t = false)
    (gI : ∀ m t, m ∈ items → toEtree S cv m = .ok t → hasEmptyAgg t = false)
    (hne : (fields.any (fun p => !p.2.isNone) || !items.isEmpty) = true) :
    ∀ t, toEtree S cv (.agg ci fields items) = .ok t → hasEmptyAgg t = false := by
  intro t ht
  obtain ⟨ts, hemit, hts, hch⟩ := node_written S cv esc Dom laws c ci fields items ok ihF ihI
  have hts' : ts ≠ [] := by
    simp only [Bool.or_eq_true, List.any_eq_true, Bool.not_eq_true'] at hne
    rcases hne with ⟨⟨n, w⟩, hmem, hw⟩ | hit
    · have hnd := specNoList_nodup c ok.wf.nodup
      obtain ⟨a, ha, han, hu, _, _, hlk⟩ := (ok.fm.withLookup hnd).mem n w hmem
      simp only [specNoList, List.mem_filter, Bool.not_eq_true'] at ha
      exact emit_ne_field S cv c fields items c.spec true ts hemit ⟨a, ha.1, ha.2, hu, w, hlk, hw⟩
    · have hi : items ≠ [] := by intro h0; subst h0; simp at hit
      have hany : c.spec.any (·.kind.isList) = true := by
        cases hh : c.spec.any (·.kind.isList) with
        | true => rfl
        | false => exact absurd (ok.noList hh) hi
      exact emit_ne_items S cv c fields items hi c.spec ts hemit hany
  rw [hts] at ht; injection ht with ht; subst ht
  have hkids : hasEmptyAggList ts = false := by
    rw [hasEmptyAggList_false_iff]
    intro ch hmem
    rcases hch ch hmem with ⟨a, ha, x, s, hl, hu, hx, hv, hunc, rfl⟩ | ⟨v, hvmem, hagg, hvt⟩ |
      ⟨a, ha, inner, ireq, x, s, hel, hk, hxi, hx, hunc, rfl⟩
    · simp [hasEmptyAgg, hasEmptyAggList]
    · rcases hvmem with ⟨n, hn⟩ | hi
      · exact gF n v ch hn hagg hvt
      · exact gI v ch hi hvt
    · simp [hasEmptyAgg, hasEmptyAggList]
  have h1 : (ungroomed c ts).isEmpty = false := by
    have : (ungroomed c ts).isEmpty = ts.isEmpty := by
      simp only [ungroomed]; cases c.ungroom with
      | none => rfl
      | some u => exact (renameFirst_facts u ts).1
    rw [this]; cases ts with
    | nil => exact absurd rfl hts'
    | cons _ _ => rfl
  have h2 : hasEmptyAggList (ungroomed c ts) = false := by
    have : hasEmptyAggList (ungroomed c ts) = hasEmptyAggList ts := by
      simp only [ungroomed]; cases c.ungroom with
      | none => rfl
      | some u => exact (renameFirst_facts u ts).2
    rw [this]; exact hkids
  simp [hasEmptyAgg, h1, h2]

theorem dense_written (laws : ConvLaws cv S.enums esc Dom) :
    ∀ n, Valid S cv esc Dom n → dense n = true → ∀ t, toEtree S cv n = .ok t → hasEmptyAgg t = false :=
  valid_induct S cv esc Dom fun c ci fields items ok ihF ihI hd => by
    simp only [dense, Bool.and_eq_true] at hd
    refine node_dense S cv esc Dom laws c ci fields items ok
      (fun n v hm hagg => rt_node S cv esc Dom laws v (ihF n v hm hagg).1)
      (fun m hm hagg => rt_node S cv esc Dom laws m (ihI m hm hagg).1) ?_ ?_ hd.1.1
    · exact fun k v t hm hagg => (ihF k v hm hagg).2 ((denseFields_iff fields).mp hd.1.2 (k, v) hm) t
    · intro m t hm hmt
      have hagg : m.isAgg = true := by
        cases m with
        | val x => simp [toEtree] at hmt
        | agg _ _ _ => rfl
      exact (ihI m hm hagg).2 ((denseItems_iff items).mp hd.2 m hm) t hmt

theorem dense_items (laws : ConvLaws cv S.enums esc Dom) :
    ∀ is, ValidItems S cv esc Dom is → denseItems is = true → ∀ m t, m ∈ is → toEtree S cv m = .ok t →
      hasEmptyAgg t = false := by
  intro is h hd m t hm ht
  have hagg : m.isAgg = true := by
    cases m with
    | val x => simp [toEtree] at ht
    | agg _ _ _ => rfl
  exact dense_written S cv esc Dom laws m ((validItems_iff S cv esc Dom is).mp h m hm hagg) ((denseItems_iff is).mp hd m hm)
    t ht

theorem unclosedGuard_of_dense (laws : ConvLaws cv S.enums esc Dom) (i : Node) (hv : Valid S cv esc Dom i)
    (hd : dense i = true) : ∀ t, toEtree S cv i = .ok t → unclosedGuard t = true := by
  intro t ht
  simp [unclosedGuard, dense_written S cv esc Dom laws i hv hd t ht]

end
end Ofx.Pipeline
