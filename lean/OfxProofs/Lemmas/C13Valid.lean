/-
Validity of an instance (`Valid`, Lemmas/NodeRT.lean) as a test the kernel can run: `validB` (Defs/ValidB.lean) walks
the instance once and evaluates, per node, the clauses of `NodeOk` — except the class-level ones (`ClsWF`, `GroomOk`),
which are facts about the schema and come in through `CheckEnv`, and the lookup of the class by its name, which follows
from the class being exported when the names are sorted (`WF.findIdx?_self`).  An instance that passes is `Valid` over
the domain `domOf domB` of the value test (`validB_sound`), hence read back unchanged (`validB_roundtrip`), so the
constructibility table need not run writer or reader on it.  Last, what takes a caller to a domain of its own: the
`mono` lemmas (`Valid` carries over to a larger domain, `ConvLaws` to a smaller one), and `typesDomB_sound` with
`typesConv_laws_domB`, the `laws` field of `CheckEnv` for the modelled converters.
-/
import OfxProofs.Lemmas.NodeRT
import OfxProofs.Lemmas.WFBridge
import OfxProofs.Lemmas.ConvLaws
import OfxProofs.Defs.ValidB

namespace Ofx.Agg
open Ofx

def domOf (domB : Kind → Bool → Val → Bool) : Kind → Bool → Val → Prop := fun k r v => domB k r v = true

theorem fieldOkB_sound (domB : Kind → Bool → Val → Bool) (a : Attr) (v : Node) (h : fieldOkB domB a v = true) :
    FieldOk (domOf domB) a v := by
  unfold FieldOk
  cases v with
  | agg ci f i =>
    have ht : Kind.subTarget a.kind = some ci := by simpa [fieldOkB] using h
    rw [ht]
    exact Or.inr ⟨f, i, rfl⟩
  | val x =>
    by_cases hx : x = .none
    · subst hx
      have hr : a.required = false := by simpa [fieldOkB] using h
      cases Kind.subTarget a.kind with
      | some t => exact Or.inl ⟨rfl, hr⟩
      | none => exact ⟨.none, rfl, fun _ => hr, fun hne => absurd rfl hne⟩
    · have h' : Kind.subTarget a.kind = none ∧ domB a.kind a.required x = true := by
        cases x <;> first | exact absurd rfl hx | simpa [fieldOkB] using h
      rw [h'.1]
      exact ⟨x, rfl, fun he => absurd he hx, fun _ => h'.2⟩

theorem fieldsMatchB_sound {p : Attr → Node → Bool} {P : Attr → Node → Prop}
    (hp : ∀ a v, p a v = true → P a v) :
    ∀ (L : List Attr) (fs : List (Str × Node)), fieldsMatchB p L fs = true → FieldsMatch P L fs
  | [], [], _ => .nil
  | [], _ :: _, h => by cases h
  | a :: L, fs, h => by
    unfold fieldsMatchB at h
    cases hu : a.kind.isUnsupported with
    | true =>
      rw [hu, if_pos rfl] at h
      exact .unsup a L fs hu (fieldsMatchB_sound hp L fs h)
    | false =>
      rw [hu, if_neg Bool.false_ne_true] at h
      cases fs with
      | nil => cases h
      | cons q fs' =>
        obtain ⟨n, v⟩ := q
        simp only [Bool.and_eq_true, decide_eq_true_eq] at h
        obtain ⟨⟨hn, hv⟩, hr⟩ := h
        subst hn
        exact .field a v L fs' hu (hp a v hv) (fieldsMatchB_sound hp L fs' hr)

theorem elemOkB_sound (domB : Kind → Bool → Val → Bool) (inner : Kind) (ireq : Bool) (m : Node)
    (h : elemOkB domB inner ireq m = true) : ∃ x, m = .val x ∧ x ≠ .none ∧ domOf domB inner ireq x := by
  cases m with
  | agg => cases h
  | val x =>
    by_cases hx : x = .none
    · subst hx; cases h
    · refine ⟨x, rfl, hx, ?_⟩
      cases x <;> first | exact absurd rfl hx | exact h

section
variable (S : Schema) (cv : Conv) (esc : Str → Str) (domB : Kind → Bool → Val → Bool) (X : List Str)

/-- what the test takes for granted about the schema.  `X` names the classes without the class-level premises of the
    round trip (for the generated schema `Gen.roundTripExceptions`): an instance containing a node of such a class
    fails `validB`, and the C13 table runs writer and reader on it instead (`writtenRead`) -/
structure CheckEnv : Prop where
  laws : ConvLaws cv S.enums esc (domOf domB)
  sorted : WF.namesSorted (S.classes.map (·.name)) = true
  clsOk : ∀ c ∈ S.classes, X.contains c.name = false → ClsWF S c ∧ GroomOk c

theorem rawKwOf_zip (F : List (Str × Node)) : ∀ (L : List Attr) (fs : List (Str × Node)),
    FieldsMatch (fun a v => lookup a.name F = some v) (L.filter (fun a => !a.kind.isList)) fs →
    rawKwOf S cv esc F L = rawKwZip S cv esc L fs
  | [], _, _ => rfl
  | a :: L, fs, h => by
    cases hl : a.kind.isList with
    | true =>
      rw [List.filter_cons_of_neg (by simp [hl])] at h
      simp only [rawKwOf, rawKwZip, hl, Bool.true_or, if_true]
      exact rawKwOf_zip F L fs h
    | false =>
      rw [List.filter_cons_of_pos (by simp [hl])] at h
      cases h with
      | unsup _ _ _ hu h =>
        simp only [rawKwOf, rawKwZip, hu, Bool.or_true, if_true]
        exact rawKwOf_zip F L fs h
      | field _ v _ fs' hu hq h =>
        simp only [rawKwOf, rawKwZip, hl, hu, Bool.or_self, Bool.false_eq_true, if_false, hq]
        rw [rawKwOf_zip F L fs' h]; rfl

theorem nodeOkB_sound (env : CheckEnv S cv esc domB X) (c : Cls) (ci : Nat) (fields : List (Str × Node))
    (items : List Node) (hc : S.cls? ci = some c) (h : nodeOkB S cv esc domB X c fields items = true) :
    NodeOk S cv esc (domOf domB) c ci fields items := by
  simp only [nodeOkB, Bool.and_eq_true, Bool.not_eq_true', Bool.or_eq_true] at h
  obtain ⟨⟨⟨⟨⟨⟨⟨hab, hex⟩, hX⟩, hfm⟩, hit⟩, hel⟩, hnl⟩, hval⟩ := h
  obtain ⟨wf, gr⟩ := env.clsOk c (List.mem_of_getElem? hc) hX
  refine ⟨hc, hab, WF.findIdx?_self S env.sorted ci c hc hex, wf, gr,
    fieldsMatchB_sound (fieldOkB_sound domB) _ _ hfm, ?_, ?_, ?_, ?_⟩
  · intro he m hm
    rcases hit with hit | hit
    · rw [he] at hit; cases hit
    · have hm' := List.all_eq_true.mp hit m hm
      cases m with
      | val => cases hm'
      | agg cj f i =>
        simp only [memberOkB] at hm'
        cases hcj : S.cls? cj with
        | none => rw [hcj] at hm'; cases hm'
        | some cjc =>
          simp only [hcj, Bool.and_eq_true, Bool.not_eq_true', List.contains_eq_mem, decide_eq_false_iff_not] at hm'
          exact ⟨cj, f, i, cjc, rfl, hcj, by simpa using hm'.1, hm'.2⟩
  · intro he a ha inner ireq hk m hm
    rcases hel with hel | hel
    · rw [he] at hel; cases hel
    · have h1 := List.all_eq_true.mp hel a ha
      simp only [hk] at h1
      exact elemOkB_sound domB inner ireq m (List.all_eq_true.mp h1 m hm)
  · intro hany
    rcases hnl with hnl | hnl
    · rw [hany] at hnl; cases hnl
    · exact List.isEmpty_iff.mp hnl
  · have hm := fieldsMatchB_sound (fieldOkB_sound domB) _ _ hfm
    rw [rawKwOf_zip S cv esc fields c.spec fields
      ((hm.withLookup (specNoList_nodup c wf.nodup)).imp fun _ _ _ h => h.2.2)]
    cases hv : validateArgs S c (rawItemsOf S cv esc c items) (rawKwZip S cv esc c.spec fields) with
    | ok u => rfl
    | error e => rw [hv] at hval; cases hval

theorem validB_sound (env : CheckEnv S cv esc domB X) : ∀ n : Node,
    validB S cv esc domB X n = true → Valid S cv esc (domOf domB) n := by
  intro n
  induction n using Node.induct with
  | val v => intro h; simp [validB] at h
  | agg ci fields items ihF ihI =>
    intro h
    simp only [validB, Bool.and_eq_true] at h
    obtain ⟨⟨hn, hf⟩, hi⟩ := h
    rw [allFieldsB (p := fun v => !v.isAgg || validB S cv esc domB X v) rfl fun _ _ _ => rfl] at hf
    rw [allItemsB (p := fun v => !v.isAgg || validB S cv esc domB X v) rfl fun _ _ => rfl] at hi
    cases hc : S.cls? ci with
    | none => rw [hc] at hn; cases hn
    | some c =>
      rw [hc] at hn
      rw [Valid, validFields_iff, validItems_iff]
      exact ⟨⟨c, nodeOkB_sound S cv esc domB X env c ci fields items hc hn⟩,
        fun k v hm hagg => ihF k v hm (by simpa [hagg] using hf k v hm),
        fun v hm hagg => ihI v hm (by simpa [hagg] using hi v hm)⟩

theorem validB_roundtrip (env : CheckEnv S cv esc domB X) (n : Node) (h : validB S cv esc domB X n = true) :
    ∃ t, toEtree S cv n = .ok t ∧ fromEtree S cv (mapText esc t) = .ok n :=
  rt_node S cv esc (domOf domB) env.laws n (validB_sound S cv esc domB X env n h)

end

theorem ConvLaws.mono {cv : Conv} {enums : List (List Str)} {esc : Str → Str}
    {Dom Dom' : Kind → Bool → Val → Prop} (laws : ConvLaws cv enums esc Dom)
    (h : ∀ k r v, Dom' k r v → Dom k r v) : ConvLaws cv enums esc Dom' :=
  ⟨laws.none_ok, fun k r v hd => laws.round k r v (h k r v hd)⟩

theorem FieldOk.mono {Dom Dom' : Kind → Bool → Val → Prop} (h : ∀ k r v, Dom k r v → Dom' k r v) {a : Attr} {v : Node}
    (hf : FieldOk Dom a v) : FieldOk Dom' a v := by
  unfold FieldOk at hf ⊢
  cases hs : Kind.subTarget a.kind with
  | some t => rw [hs] at hf; exact hf
  | none =>
    rw [hs] at hf
    obtain ⟨x, hx, h1, h2⟩ := hf
    exact ⟨x, hx, h1, fun hn => h _ _ _ (h2 hn)⟩

section
variable (S : Schema) (cv : Conv) (esc : Str → Str) {Dom Dom' : Kind → Bool → Val → Prop}

theorem NodeOk.mono (h : ∀ k r v, Dom k r v → Dom' k r v) {c : Cls} {ci : Nat} {fields : List (Str × Node)}
    {items : List Node} (ok : NodeOk S cv esc Dom c ci fields items) : NodeOk S cv esc Dom' c ci fields items :=
  ⟨ok.hc, ok.concrete, ok.hfind, ok.wf, ok.gr, ok.fm.imp fun _ _ _ => FieldOk.mono h, ok.itemsEx,
    fun he a ha inner ireq hk m hm =>
      let ⟨x, hx, hn, hd⟩ := ok.elItems he a ha inner ireq hk m hm
      ⟨x, hx, hn, h _ _ _ hd⟩,
    ok.noList, ok.validate⟩

theorem Valid.mono (h : ∀ k r v, Dom k r v → Dom' k r v) : ∀ n, Valid S cv esc Dom n → Valid S cv esc Dom' n :=
  valid_induct S cv esc Dom fun c ci fields items ok ihF ihI => by
    rw [Valid]
    exact ⟨⟨c, ok.mono S cv esc h⟩, (validFields_iff S cv esc Dom' fields).mpr fun n v hm hagg => (ihF n v hm hagg).2,
      (validItems_iff S cv esc Dom' items).mpr fun m hm hagg => (ihI m hm hagg).2⟩

end

end Ofx.Agg

namespace Ofx.Types
open Ofx Ofx.Agg Ofx.DateTime Ofx.Spec.Instant

theorem typesDomB_sound (enums : List (List Str)) (k : Kind) (r : Bool) (v : Val)
    (h : typesDomB enums k r v = true) : typesDom enums k r v := by
  fun_induction typesDomB enums k r v with
  | case1 _ b => exact ⟨b, rfl⟩
  | case2 l st _ s =>
    simp only [Bool.and_eq_true, Bool.not_eq_true', List.isEmpty_eq_false_iff] at h
    exact ⟨s, rfl, h.1, h.2⟩
  | case3 e _ s valid he =>
    simp only [Bool.and_eq_true, Bool.not_eq_true', List.isEmpty_eq_false_iff, List.contains_eq_mem,
      decide_eq_true_eq] at h
    exact ⟨s, valid, rfl, he, h.1.1, h.1.2, h.2⟩
  | case4 => cases h
  | case5 l _ i => exact ⟨i, rfl, h⟩
  | case6 _ neg c e => exact ⟨neg, c, e, rfl, of_decide_eq_true h⟩
  | case7 q _ neg c e =>
    simp only [Bool.and_eq_true, decide_eq_true_eq] at h
    obtain ⟨⟨rfl, hq⟩, hc⟩ := h
    exact ⟨neg, c, rfl, hq, hc⟩
  | case8 _ d =>
    simp only [Bool.and_eq_true, decide_eq_true_eq] at h
    exact ⟨d, rfl, h.1.1.1.1, h.1.1.1.2, h.1.1.2, h.1.2, h.2⟩
  | case9 _ t =>
    simp only [Bool.and_eq_true, decide_eq_true_eq] at h
    exact ⟨t, rfl, h.1.1, h.1.2, h.2⟩
  | case10 k ir _ v ih => exact ih h
  | case11 => cases h
theorem typesConv_laws_domB (enums : List (List Str)) :
    ConvLaws conv enums escapeCdata (domOf (typesDomB enums)) :=
  (typesConv_laws_esc enums).mono (typesDomB_sound enums)

end Ofx.Types
