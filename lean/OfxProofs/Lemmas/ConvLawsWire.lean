/-
The element converters on the wire domain of the end-to-end C01 theorems (`Props/C01Wire.lean`, `Props/C01File.lean`):
`typesDomWire` is `typesDom` with string values and enumeration tokens free of leading/trailing white space (the
property's own quantifier); the `ConvLaws` on it, and `TextOk` (`Lemmas/Written.lean`): every text the converters write
for a value of the domain is non-empty and trimmed.
-/
import OfxProofs.Lemmas.ConvLaws
import OfxProofs.Lemmas.C13Valid
import OfxProofs.Lemmas.Written

namespace Ofx.Types
open Ofx Ofx.Agg Ofx.Spec.Wire

theorem trimmedB_of_noSpace (s : Str) (h : ∀ c ∈ s, isSpace c = false) : trimmedB s = true := by
  unfold trimmedB
  cases hh : s.head? with
  | none =>
    cases hl : s.getLast? with
    | none => rfl
    | some c => simp [h c (List.mem_of_getLast? hl)]
  | some a =>
    cases hl : s.getLast? with
    | none => simp [h a (List.mem_of_head? hh)]
    | some c => simp [h a (List.mem_of_head? hh), h c (List.mem_of_getLast? hl)]

theorem trimmedB_of_AllOk (s : Str) (h : AllOk s) : trimmedB s = true := by
  apply trimmedB_of_noSpace
  intro c hc
  have := h c hc
  simp only [plainOk, Bool.and_eq_true, Bool.not_eq_true'] at this
  exact this.2

end Ofx.Types

namespace Ofx.DateTime
open Ofx Ofx.Cal Ofx.Spec.Instant Ofx.Types

theorem dch_plainOk (n : Nat) : plainOk (dch n) = true := digitChar_plainOk _ (mod10_lt n)

theorem dt_written_utc (r : Bool) (d : DT) (hd : dtUtcMs d) (s : Str)
    (h : dtUnconvert r (.dt d) = .ok (.str s)) : s ≠ [] ∧ AllOk s := by
  obtain ⟨hv, htz, hms, hlo, hhi⟩ := hd
  have hyear : us1000 ≤ localUs d + 500 ∧ localUs d + 500 < usEnd := by
    have := localUs_ms d hms
    unfold us1000 usEnd at *; omega
  obtain ⟨p, us, _, hun, _, _, htod, hpms, hpo, _⟩ :=
    C09_write r d utc hv htz (by decide) (by decide) utc_name_ok hyear
  have hs : s = p.render := by
    rw [hun] at h; injection h with h; injection h with h; exact h.symm
  subst hs
  have hpo' : p.off = some (canonOff 0 (some "UTC".toList)) := by rw [hpo]; rfl
  exact ⟨render_ne_nil p htod, List.all_eq_true.mp (render_utc_all plainOk dch_plainOk (by decide) p htod hpms hpo')⟩

theorem tm_written_utc (r : Bool) (t : TM) (hd : tmUtcMs t) (s : Str)
    (h : tmUnconvert r (.tm t) = .ok (.str s)) : s ≠ [] ∧ AllOk s := by
  obtain ⟨hv, htz, hms⟩ := hd
  obtain ⟨p, hun, _, _, htod, hpms, hpo, _⟩ := C09_time_write r t utc hv htz (by decide) (by decide) utc_name_ok
  have hs : s = p.render := by
    rw [hun] at h; injection h with h; injection h with h; exact h.symm
  subst hs
  have hpo' : p.off = some (canonOff 0 (some "UTC".toList)) := by rw [hpo]; rfl
  exact ⟨render_ne_nil p htod, List.all_eq_true.mp (render_utc_all plainOk dch_plainOk (by decide) p htod hpms hpo')⟩

end Ofx.DateTime

namespace Ofx.Types
open Ofx Ofx.Agg Ofx.Spec.Wire

def typesDomWire (enums : List (List Str)) : Kind → Bool → Val → Prop
  | .string l st, r, v => typesDom enums (.string l st) r v ∧ ∀ s, v = .str s → trimmedB s = true
  | .oneOf e, r, v => typesDom enums (.oneOf e) r v ∧ ∀ s, v = .str s → trimmedB s = true
  | .listElem k ir, _, v => typesDomWire enums k ir v
  | k, r, v => typesDom enums k r v

theorem typesDomWire_sub (enums : List (List Str)) (k : Kind) (r : Bool) (v : Val)
    (h : typesDomWire enums k r v) : typesDom enums k r v := by
  induction k generalizing r with
  | string l st => exact h.1
  | oneOf e => exact h.1
  | listElem k ir ih => exact ih ir h
  | _ => exact h

def typesDomWireB (enums : List (List Str)) : Kind → Bool → Val → Bool
  | .string l st, r, .str s => typesDomB enums (.string l st) r (.str s) && trimmedB s
  | .oneOf e, r, .str s => typesDomB enums (.oneOf e) r (.str s) && trimmedB s
  | .listElem k ir, _, v => typesDomWireB enums k ir v
  | k, r, v => typesDomB enums k r v

theorem typesDomWireB_sound (enums : List (List Str)) (k : Kind) (r : Bool) (v : Val)
    (h : typesDomWireB enums k r v = true) : typesDomWire enums k r v := by
  fun_induction typesDomWireB enums k r v with
  | case1 l st r s =>
    rw [Bool.and_eq_true] at h
    exact ⟨typesDomB_sound _ _ _ _ h.1, fun s' hs => by injection hs with hs; subst hs; exact h.2⟩
  | case2 e r s =>
    rw [Bool.and_eq_true] at h
    exact ⟨typesDomB_sound _ _ _ _ h.1, fun s' hs => by injection hs with hs; subst hs; exact h.2⟩
  | case3 k ir _ v ih => exact ih h
  | case4 k r v h1 h2 h3 =>
    have hd := typesDomB_sound _ _ _ _ h
    cases k with
    | string l st =>
      obtain ⟨s, rfl, _⟩ := hd
      exact (h1 l st s rfl rfl).elim
    | oneOf e =>
      obtain ⟨s, _, rfl, _⟩ := hd
      exact (h2 e s rfl rfl).elim
    | listElem k ir => exact absurd rfl (h3 k ir)
    | _ => exact hd

example : typesDomWire [] (.string (some 12) true) true (.str "AT&T <&amp;>".toList) :=
  ⟨⟨_, rfl, by decide, by decide⟩, fun s hs => by injection hs with hs; subst hs; decide⟩
example : typesDomWire [["CALL".toList, "PUT".toList]] (.listElem (.oneOf 0) true) false (.str "PUT".toList) :=
  ⟨⟨_, _, rfl, rfl, by decide, by decide, by decide⟩, fun s hs => by injection hs with hs; subst hs; decide⟩
example : typesDomWire [] (.decimal (some (-2))) false (.dec (.fin true 15065 (-2))) :=
  ⟨_, _, rfl, by decide, by decide⟩

theorem typesConv_laws_wire (enums : List (List Str)) :
    ConvLaws conv enums escapeCdata (typesDomWire enums) where
  none_ok := typesConv_none_ok enums
  round := fun k r v hd hv => typesConv_round_esc enums k r v (typesDomWire_sub enums k r v hd) hv

theorem typesConv_textOk (S : Schema) : Ofx.Pipeline.TextOk S conv (typesDomWire S.enums) := by
  intro k r v s hd h
  have hw := writes_of_unconvert S.enums k r v s h
  clear h
  induction hw with
  | list _ ih => exact ih hd
  | bool b => cases b <;> exact ⟨by simp, by decide⟩
  | string _ => obtain ⟨⟨_, hs, hne, _⟩, htr⟩ := hd; cases hs; exact ⟨hne, htr _ rfl⟩
  | oneOf _ _ => obtain ⟨⟨_, _, hs, _, _, hne, _⟩, htr⟩ := hd; cases hs; exact ⟨hne, htr _ rfl⟩
  | int _ => exact ⟨pyStrInt_ne_nil _, trimmedB_of_AllOk _ (AllOk_lit _ (pyStrInt_all plainOk digitChar_plainOk (by decide) _))⟩
  | dec _ => exact ⟨decFormatF_ne_nil _ _ _, trimmedB_of_AllOk _ (decFormatF_AllOk _ _ _)⟩
  | dt h =>
    obtain ⟨d, hv, hdd⟩ := hd; cases hv
    obtain ⟨h1, h2⟩ := Ofx.DateTime.dt_written_utc _ _ hdd _ h
    exact ⟨h1, trimmedB_of_AllOk _ h2⟩
  | tm h =>
    obtain ⟨x, hv, hdt⟩ := hd; cases hv
    obtain ⟨h1, h2⟩ := Ofx.DateTime.tm_written_utc _ _ hdt _ h
    exact ⟨h1, trimmedB_of_AllOk _ h2⟩

end Ofx.Types
