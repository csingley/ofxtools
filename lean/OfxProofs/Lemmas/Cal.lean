/-
CPython's `_ord2ymd` and `_ymd2ord` are mutually inverse on all valid dates (arithmetic over the 400/100/4/1-year
decomposition; the month step is a finite table closed by `decide +kernel` and lifted), and the closed forms agree
with the counting definitions of the Spec.
-/
import OfxModel.Py.Cal
import OfxModel.Spec.Instant

namespace Ofx.Cal

theorem validDate_iff {y m d : Nat} :
    validDate y m d = true ↔ 1 ≤ y ∧ y ≤ 9999 ∧ 1 ≤ m ∧ m ≤ 12 ∧ 1 ≤ d ∧ d ≤ daysInMonth y m := by
  simp only [validDate, Bool.and_eq_true, decide_eq_true_eq, and_assoc]

theorem validTime_iff {h mi s us : Nat} : validTime h mi s us = true ↔ h < 24 ∧ mi < 60 ∧ s < 60 ∧ us < 1000000 := by
  simp only [validTime, Bool.and_eq_true, decide_eq_true_eq, and_assoc]

theorem dby_decomp (a b c e : Nat) (hb : b < 4) (hc : c < 25) (he : e < 4) :
    daysBeforeYear (400 * a + 100 * b + 4 * c + e + 1) = 146097 * a + 36524 * b + 1461 * c + 365 * e := by
  unfold daysBeforeYear
  simp only [Nat.add_sub_cancel]
  omega

theorem isLeap_decomp (a b c e : Nat) (hb : b < 4) (hc : c < 25) (he : e < 4) :
    isLeap (400 * a + 100 * b + 4 * c + e + 1) = (e == 3 && (c != 24 || b == 3)) := by
  rw [Bool.eq_iff_iff]
  simp [isLeap]
  omega

/-- `b = 4` and `e = 4` do occur: the last day of a 400-year resp. 4-year cycle. -/
theorem ord_split (n : Nat) : ∃ a b c e k, n / 146097 = a ∧ n % 146097 / 36524 = b
    ∧ n % 146097 % 36524 / 1461 = c ∧ n % 146097 % 36524 % 1461 / 365 = e ∧ n % 146097 % 36524 % 1461 % 365 = k
    ∧ n = 146097 * a + 36524 * b + 1461 * c + 365 * e + k ∧ 36524 * b + 1461 * c + 365 * e + k < 146097
    ∧ 1461 * c + 365 * e + k < 36524 ∧ 365 * e + k < 1461 ∧ k < 365 := by
  refine ⟨_, _, _, _, _, rfl, rfl, rfl, rfl, rfl, ?_⟩
  have e1 := Nat.div_add_mod n 146097
  have l1 := Nat.mod_lt n (show 0 < 146097 by decide)
  generalize n / 146097 = a, n % 146097 = r1 at *
  have e2 := Nat.div_add_mod r1 36524
  have l2 := Nat.mod_lt r1 (show 0 < 36524 by decide)
  generalize r1 / 36524 = b, r1 % 36524 = r2 at *
  have e3 := Nat.div_add_mod r2 1461
  have l3 := Nat.mod_lt r2 (show 0 < 1461 by decide)
  generalize r2 / 1461 = c, r2 % 1461 = r3 at *
  have e4 := Nat.div_add_mod r3 365
  have l4 := Nat.mod_lt r3 (show 0 < 365 by decide)
  generalize r3 / 365 = e, r3 % 365 = k at *
  omega

def dimL (leap : Bool) (m : Nat) : Nat := if m == 2 && leap then 29 else dimTable m
def dbmL (leap : Bool) (m : Nat) : Nat := dbmTable m + (if m > 2 && leap then 1 else 0)

theorem daysInMonth_eq (y m : Nat) : daysInMonth y m = dimL (isLeap y) m := rfl
theorem daysBeforeMonth_eq (y m : Nat) : daysBeforeMonth y m = dbmL (isLeap y) m := rfl

def monthBwdOk (leap : Bool) : Bool :=
  (List.range 365).all fun k =>
    let (m, d) := monthDay leap k
    1 ≤ m && m ≤ 12 && 1 ≤ d && d ≤ dimL leap m && dbmL leap m + d == k + 1

theorem monthBwd_table : monthBwdOk true = true ∧ monthBwdOk false = true := by decide +kernel

theorem monthDay_bwd (leap : Bool) (k : Nat) (hk : k < 365) :
    1 ≤ (monthDay leap k).1 ∧ (monthDay leap k).1 ≤ 12 ∧ 1 ≤ (monthDay leap k).2
    ∧ (monthDay leap k).2 ≤ dimL leap (monthDay leap k).1
    ∧ dbmL leap (monthDay leap k).1 + (monthDay leap k).2 = k + 1 := by
  have h : monthBwdOk leap = true := by cases leap <;> simp [monthBwd_table.1, monthBwd_table.2]
  unfold monthBwdOk at h
  rw [List.all_eq_true] at h
  have h1 := h k (List.mem_range.mpr hk)
  simp only [Bool.and_eq_true, decide_eq_true_eq, beq_iff_eq] at h1
  obtain ⟨⟨⟨⟨a, b⟩, c⟩, d⟩, e⟩ := h1
  exact ⟨a, b, c, d, e⟩

theorem dimL_le (leap : Bool) (m : Nat) (hm : 1 ≤ m ∧ m ≤ 12) : dimL leap m ≤ 31 :=
  (by decide : ∀ L, ∀ m < 13, dimL L m ≤ 31) leap m (by omega)

theorem dbmL_succ (leap : Bool) (m : Nat) (hm : 1 ≤ m ∧ m < 12) :
    dbmL leap (m + 1) = dbmL leap m + dimL leap m :=
  (by decide : ∀ L, ∀ m < 12, 1 ≤ m → dbmL L (m + 1) = dbmL L m + dimL L m) leap m hm.2 hm.1

theorem dbm_dim_le (leap : Bool) (m : Nat) (hm : 1 ≤ m ∧ m ≤ 12) :
    dbmL leap m + dimL leap m ≤ (if leap then 366 else 365) :=
  (by decide : ∀ L, ∀ m < 13, 1 ≤ m → dbmL L m + dimL L m ≤ (if L then 366 else 365)) leap m (by omega) hm.1

theorem dbm_dim_le_dbm (leap : Bool) (m m' : Nat) (h1 : 1 ≤ m) (h : m < m') (h' : m' ≤ 12) :
    dbmL leap m + dimL leap m ≤ dbmL leap m' :=
  (by decide : ∀ L, ∀ m' < 13, ∀ m < m', 1 ≤ m → dbmL L m + dimL L m ≤ dbmL L m') leap m' (by omega) m h h1

theorem ymd2ord_last_leap (a b c : Nat) (hb : b < 4) (hc : c < 25) (hl : c ≠ 24 ∨ b = 3) :
    31 ≤ daysInMonth (400 * a + 100 * b + 4 * c + 3 + 1) 12
    ∧ ymd2ord (400 * a + 100 * b + 4 * c + 3 + 1) 12 31 = 146097 * a + 36524 * b + 1461 * c + 1461 := by
  have hleap := isLeap_decomp a b c 3 hb hc (by omega)
  have hl' : (3 == 3 && (c != 24 || b == 3)) = true := by simpa using hl
  rw [hl'] at hleap
  unfold ymd2ord
  rw [daysInMonth_eq, daysBeforeMonth_eq, hleap, dby_decomp a b c 3 hb hc (by omega)]
  exact ⟨by decide, by rw [show dbmL true 12 = 335 by decide]⟩

/-- `_ord2ymd` returns a valid date, and `_ymd2ord` takes it back to the ordinal -/
theorem ymd2ord_ord2ymd (n : Nat) (hn : 1 ≤ n) :
    1 ≤ (ord2ymd n).1 ∧ 1 ≤ (ord2ymd n).2.1 ∧ (ord2ymd n).2.1 ≤ 12 ∧ 1 ≤ (ord2ymd n).2.2
    ∧ (ord2ymd n).2.2 ≤ daysInMonth (ord2ymd n).1 (ord2ymd n).2.1
    ∧ ymd2ord (ord2ymd n).1 (ord2ymd n).2.1 (ord2ymd n).2.2 = n := by
  obtain ⟨a, b, c, e, k, q1, q2, q3, q4, q5, hn0, h1, h2, h3, h4⟩ := ord_split (n - 1)
  unfold ord2ymd
  simp only [q1, q2, q3, q4, q5]
  clear q1 q2 q3 q4 q5
  by_cases hb4 : b = 4
  · -- last day of a 400-year cycle
    subst hb4
    obtain ⟨rfl, rfl, rfl⟩ : c = 0 ∧ e = 0 ∧ k = 0 := by omega
    simp only [beq_self_eq_true, Bool.or_true, if_true]
    rw [show a * 400 + 1 + 4 * 100 + 0 * 4 + 0 - 1 = 400 * a + 100 * 3 + 4 * 24 + 3 + 1 by omega]
    obtain ⟨hd, ho⟩ := ymd2ord_last_leap a 3 24 (by decide) (by decide) (.inr rfl)
    exact ⟨Nat.le_add_left 1 _, by decide, by decide, by decide, hd, by omega⟩
  · by_cases he4 : e = 4
    · -- last day of an ordinary leap year
      subst he4
      simp only [beq_self_eq_true, Bool.true_or, if_true]
      rw [show a * 400 + 1 + b * 100 + c * 4 + 4 - 1 = 400 * a + 100 * b + 4 * c + 3 + 1 by omega]
      obtain ⟨hd, ho⟩ := ymd2ord_last_leap a b c (by omega) (by omega) (.inl (by omega))
      exact ⟨Nat.le_add_left 1 _, by decide, by decide, by decide, hd, by omega⟩
    · have hb' : b < 4 := by omega
      have hc' : c < 25 := by omega
      have he' : e < 4 := by omega
      have hne : (e == 4 || b == 4) = false := by simp; exact ⟨he4, hb4⟩
      simp only [hne, Bool.false_eq_true, if_false]
      rw [show a * 400 + 1 + b * 100 + c * 4 + e = 400 * a + 100 * b + 4 * c + e + 1 by omega]
      have hdby := dby_decomp a b c e hb' hc' he'
      rw [← isLeap_decomp a b c e hb' hc' he']
      generalize hL : isLeap (400 * a + 100 * b + 4 * c + e + 1) = L
      obtain ⟨m1, m2, d1, d2, hs⟩ := monthDay_bwd L k h4
      rcases hmd : monthDay L k with ⟨mm, dd⟩
      rw [hmd] at m1 m2 d1 d2 hs
      simp only at m1 m2 d1 d2 hs ⊢
      refine ⟨Nat.le_add_left 1 _, m1, m2, d1, ?_, ?_⟩
      · rw [daysInMonth_eq, hL]; exact d2
      · unfold ymd2ord; rw [daysBeforeMonth_eq, hL, hdby]; omega

open Ofx.Spec.Instant in
theorem spec_leap_eq (y : Nat) : leap y = isLeap y := by
  rw [Bool.eq_iff_iff]; simp [leap, isLeap]; omega

open Ofx.Spec.Instant in
theorem yearLen_eq (y : Nat) :
    yearLen y + (if 100 ∣ y then 1 else 0) = 365 + (if 4 ∣ y then 1 else 0) + (if 400 ∣ y then 1 else 0) := by
  simp only [yearLen, leap, Bool.and_eq_true, Bool.or_eq_true, beq_iff_eq, bne_iff_ne, ne_eq,
    ← Nat.dvd_iff_mod_eq_zero]
  by_cases h400 : 400 ∣ y
  · have h100 : 100 ∣ y := Nat.dvd_trans (by decide) h400
    have h4 : 4 ∣ y := Nat.dvd_trans (by decide) h100
    simp [h400, h100, h4]
  · by_cases h100 : 100 ∣ y
    · have h4 : 4 ∣ y := Nat.dvd_trans (by decide) h100
      simp [h400, h100, h4]
    · by_cases h4 : 4 ∣ y <;> simp [h400, h100, h4]

open Ofx.Spec.Instant in
theorem spec_daysInYearsUpTo (k : Nat) : daysInYearsUpTo k = k * 365 + k / 4 - k / 100 + k / 400 := by
  induction k with
  | zero => rfl
  | succ k ih =>
    -- a quotient grows by one exactly at the multiples (`Nat.succ_div`); with the quotients and the three
    -- indicators as atoms the step is linear
    have hle : k / 100 ≤ k / 4 := Nat.div_le_div_left (by decide) (by decide)
    have hi : (if 100 ∣ k + 1 then 1 else 0) ≤ (if 4 ∣ k + 1 then 1 else 0) := by
      by_cases h : 100 ∣ k + 1
      · simp [h, Nat.dvd_trans (by decide : 4 ∣ 100) h]
      · simp [h]
    have hy := yearLen_eq (k + 1)
    rw [daysInYearsUpTo, ih, Nat.succ_div, Nat.succ_div, Nat.succ_div]
    clear ih
    generalize k / 4 = A, k / 100 = B, k / 400 = C, yearLen (k + 1) = Y at *
    generalize (if 4 ∣ k + 1 then 1 else 0) = i4, (if 100 ∣ k + 1 then 1 else 0) = i100,
      (if 400 ∣ k + 1 then 1 else 0) = i400 at *
    omega

open Ofx.Spec.Instant in
theorem spec_monthLen_eq (y m : Nat) (hm : 1 ≤ m ∧ m ≤ 12) : monthLen y m = daysInMonth y m := by
  have h13 : m < 13 := by omega
  unfold monthLen
  rw [daysInMonth_eq, spec_leap_eq]
  generalize isLeap y = L
  clear hm
  revert L
  revert m
  decide

open Ofx.Spec.Instant in
theorem spec_daysInMonthsUpTo (y m : Nat) (hm : 1 ≤ m ∧ m ≤ 12) :
    daysInMonthsUpTo y (m - 1) = daysBeforeMonth y m := by
  obtain ⟨k, rfl⟩ : ∃ k, m = k + 1 := ⟨m - 1, by omega⟩
  rw [Nat.add_sub_cancel]
  induction k with
  | zero => rfl
  | succ k ih =>
    rw [daysInMonthsUpTo, ih (by omega), spec_monthLen_eq y (k + 1) (by omega), daysInMonth_eq,
      daysBeforeMonth_eq, daysBeforeMonth_eq, dbmL_succ _ (k + 1) (by omega)]

open Ofx.Spec.Instant in
theorem spec_ordinal_eq (y m d : Nat) (hm : 1 ≤ m ∧ m ≤ 12) : ordinal y m d = ymd2ord y m d := by
  unfold ordinal ymd2ord
  rw [spec_daysInYearsUpTo, spec_daysInMonthsUpTo y m hm]
  rfl

open Ofx.Spec.Instant in
theorem spec_validDate_eq (y m d : Nat) : Spec.Instant.validDate y m d = Cal.validDate y m d := by
  unfold Spec.Instant.validDate Cal.validDate
  by_cases hm : 1 ≤ m ∧ m ≤ 12
  · rw [spec_monthLen_eq y m hm]
  · rw [Bool.eq_iff_iff]; simp; omega

open Ofx.Spec.Instant in
theorem daysBeforeYear_eq (y : Nat) : daysBeforeYear y = daysInYearsUpTo (y - 1) :=
  (spec_daysInYearsUpTo (y - 1)).symm

open Ofx.Spec.Instant in
theorem daysBeforeYear_succ (y : Nat) (hy : 1 ≤ y) :
    daysBeforeYear (y + 1) = daysBeforeYear y + (if isLeap y then 366 else 365) := by
  obtain ⟨k, rfl⟩ : ∃ k, y = k + 1 := ⟨y - 1, by omega⟩
  rw [daysBeforeYear_eq, daysBeforeYear_eq, ← spec_leap_eq]
  rfl

open Ofx.Spec.Instant in
theorem daysBeforeYear_mono {y y' : Nat} (h : y ≤ y') : daysBeforeYear y ≤ daysBeforeYear y' := by
  rw [daysBeforeYear_eq, daysBeforeYear_eq]
  have mono : ∀ j k, daysInYearsUpTo k ≤ daysInYearsUpTo (k + j) := by
    intro j k
    induction j with
    | zero => exact Nat.le_refl _
    | succ j ih => exact Nat.le_trans ih (Nat.le_add_right _ _)
  have := mono (y' - 1 - (y - 1)) (y - 1)
  rwa [show y - 1 + (y' - 1 - (y - 1)) = y' - 1 by omega] at this

theorem ymd2ord_gt (y m d : Nat) (hd : 1 ≤ d) : daysBeforeYear y < ymd2ord y m d := by
  unfold ymd2ord; omega

theorem ymd2ord_le (y m d : Nat) (hy : 1 ≤ y) (hm : 1 ≤ m ∧ m ≤ 12) (hd : d ≤ daysInMonth y m) :
    ymd2ord y m d ≤ daysBeforeYear (y + 1) := by
  have hle := dbm_dim_le (isLeap y) m hm
  rw [daysInMonth_eq] at hd
  rw [daysBeforeYear_succ y hy]
  unfold ymd2ord
  rw [daysBeforeMonth_eq]
  omega

theorem daysBeforeYear_10000 : daysBeforeYear 10000 = maxOrdinal := by decide

theorem ymd2ord_lt_of_year_lt (y m d y' m' d' : Nat) (hy : 1 ≤ y) (hm : 1 ≤ m ∧ m ≤ 12)
    (hd : d ≤ daysInMonth y m) (hd' : 1 ≤ d') (h : y < y') : ymd2ord y m d < ymd2ord y' m' d' :=
  Nat.lt_of_le_of_lt (Nat.le_trans (ymd2ord_le y m d hy hm hd) (daysBeforeYear_mono h))
    (ymd2ord_gt y' m' d' hd')

theorem ymd2ord_lt_of_month_lt (y m d m' d' : Nat) (hm : 1 ≤ m) (hd : d ≤ daysInMonth y m) (hd' : 1 ≤ d')
    (h : m < m') (hm' : m' ≤ 12) : ymd2ord y m d < ymd2ord y m' d' := by
  have := dbm_dim_le_dbm (isLeap y) m m' hm h hm'
  rw [daysInMonth_eq] at hd
  unfold ymd2ord
  rw [daysBeforeMonth_eq, daysBeforeMonth_eq]
  omega

theorem ymd2ord_inj (y m d y' m' d' : Nat) (hy : 1 ≤ y) (hm : 1 ≤ m ∧ m ≤ 12) (hd : 1 ≤ d ∧ d ≤ daysInMonth y m)
    (hy' : 1 ≤ y') (hm' : 1 ≤ m' ∧ m' ≤ 12) (hd' : 1 ≤ d' ∧ d' ≤ daysInMonth y' m')
    (h : ymd2ord y m d = ymd2ord y' m' d') : y = y' ∧ m = m' ∧ d = d' := by
  have ey : y = y' := by
    rcases Nat.lt_trichotomy y y' with l | e | l
    · have := ymd2ord_lt_of_year_lt y m d y' m' d' hy hm hd.2 hd'.1 l; omega
    · exact e
    · have := ymd2ord_lt_of_year_lt y' m' d' y m d hy' hm' hd'.2 hd.1 l; omega
  subst ey
  have em : m = m' := by
    rcases Nat.lt_trichotomy m m' with l | e | l
    · have := ymd2ord_lt_of_month_lt y m d m' d' hm.1 hd.2 hd'.1 l hm'.2; omega
    · exact e
    · have := ymd2ord_lt_of_month_lt y m' d' m d hm'.1 hd'.2 hd.1 l hm.2; omega
  subst em
  unfold ymd2ord at h
  exact ⟨rfl, rfl, by omega⟩

/-- `_ord2ymd` inverts `_ymd2ord` on valid dates: what it returns is a valid date with the same ordinal
    (`ymd2ord_ord2ymd`), and there is only one (`ymd2ord_inj`) -/
theorem ord2ymd_ymd2ord (y m d : Nat) (hy : 1 ≤ y) (hm : 1 ≤ m ∧ m ≤ 12)
    (hd : 1 ≤ d ∧ d ≤ daysInMonth y m) : ord2ymd (ymd2ord y m d) = (y, m, d) := by
  have hn := ymd2ord_gt y m d hd.1
  obtain ⟨c1, c2, c3, c4, c5, c6⟩ := ymd2ord_ord2ymd (ymd2ord y m d) (by omega)
  obtain ⟨ey, em, ed⟩ := ymd2ord_inj _ _ _ y m d c1 ⟨c2, c3⟩ ⟨c4, c5⟩ hy hm hd c6
  exact Prod.ext ey (Prod.ext em ed)

theorem ord2ymd_year_le (n : Nat) (h : n ≤ maxOrdinal) : (ord2ymd n).1 ≤ 9999 := by
  by_cases h1 : 1 ≤ n
  · obtain ⟨c1, c2, c3, c4, c5, c6⟩ := ymd2ord_ord2ymd n h1
    have hb := ymd2ord_gt (ord2ymd n).1 (ord2ymd n).2.1 _ c4
    rw [c6] at hb
    -- a year from 10000 on begins after `_MAXORDINAL = _days_before_year(10000)`
    apply Nat.le_of_not_lt
    intro hy
    have := daysBeforeYear_mono (show 10000 ≤ (ord2ymd n).1 from hy)
    rw [daysBeforeYear_10000] at this
    omega
  · rw [show n = 0 by omega]; decide

/-- 364878 is 1000-01-01 -/
theorem ymd2ord_year_ge (y m d : Nat) (hy : 1 ≤ y) (hm : 1 ≤ m ∧ m ≤ 12) (hd : d ≤ daysInMonth y m)
    (h : 364878 ≤ ymd2ord y m d) : 1000 ≤ y := by
  have hb := ymd2ord_le y m d hy hm hd
  apply Nat.le_of_not_lt
  intro hlt
  have := daysBeforeYear_mono (show y + 1 ≤ 1000 from hlt)
  rw [show daysBeforeYear 1000 = 364877 by decide] at this
  omega

theorem ymd2ord_le_max (y m d : Nat) (y1 : 1 ≤ y) (y2 : y ≤ 9999) (hm : 1 ≤ m ∧ m ≤ 12)
    (hd : d ≤ daysInMonth y m) : ymd2ord y m d ≤ maxOrdinal := by
  have := daysBeforeYear_mono (show y + 1 ≤ 10000 by omega)
  rw [daysBeforeYear_10000] at this
  exact Nat.le_trans (ymd2ord_le y m d y1 hm hd) this

end Ofx.Cal
