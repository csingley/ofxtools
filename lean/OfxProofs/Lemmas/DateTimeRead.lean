/-
What `DT_REGEX` and `TIME_REGEX` accept, exactly, and what the two converters do with it. A `Raw` is a text of either
pattern taken apart (`Spec.Instant.Parts` with the hours of the offset still as text, so that the Interactive Brokers
form is one too); the patterns match the texts of the `Raw`s satisfying `Raw.Ok` and nothing else, and on such a text
the converter is `readRaw`, the same computation in numbers. Props/C09 reasons about `readRaw` only.  For that the end
of the file embeds the specification's `Parts` (`rawOf`: same text, `Ok` when `wf`) and says what the offset computation
`offsetOf` gives on a bracket of the notation, on the IB form, and that it accepts nothing else (`offsetOf_ok_inv`).
-/
import OfxProofs.Lemmas.DateTime
namespace Ofx.DateTime
open Ofx Ofx.Cal Ofx.Spec.Instant

/-- the inside of `[…]` as the patterns see it: the hours are any run over `[0-9+-]` -/
structure RawOff where
  hours : Str
  minutes : Option Nat
  name : Option Str

structure Raw where
  date : Option (Nat × Nat × Nat)
  tod : Option (Nat × Nat × Nat)
  ms : Option Nat
  off : Option RawOff

structure RawOff.Ok (b : RawOff) : Prop where
  ne : b.hours ≠ []
  hours : ∀ c ∈ b.hours, isHoursChar c = true
  minutes : ∀ m, b.minutes = some m → m < 60
  name : ∀ n, b.name = some n → '\n' ∉ n

def RawOff.tail (b : RawOff) : Str := minutesText b.minutes ++ (nameText b.name ++ [']'])
def bracketText : Option RawOff → Str | some b => '[' :: (b.hours ++ b.tail) | none => []
def todPart : Option (Nat × Nat × Nat) → Str | some (h, mi, s) => todText h mi s | none => []

def Raw.text (r : Raw) : Str := datePart r.date ++ (todPart r.tod ++ (msText r.ms ++ bracketText r.off))

def Raw.groups (r : Raw) : Groups :=
  ⟨r.date.map (d4 ·.1), r.date.map (d2 ·.2.1), r.date.map (d2 ·.2.2),
   r.tod.map (d2 ·.1), r.tod.map (d2 ·.2.1), r.tod.map (d2 ·.2.2), r.ms.map d3,
   r.off.map (·.hours), r.off.bind fun b => b.minutes.map d2, r.off.bind (·.name)⟩

/-- what the patterns demand; `isTime` selects `TIME_REGEX`.  Year `0000` and second `60` pass them (Types.py:500,507);
    it is `validDate`/`validTime` in `readRaw` that refuse -/
structure Raw.Ok (isTime : Bool) (r : Raw) : Prop where
  date : match r.date with
    | some (y, m, d) => isTime = false ∧ y < 10000 ∧ 1 ≤ m ∧ m ≤ 12 ∧ 1 ≤ d ∧ d ≤ 31
    | none => isTime = true
  tod : match r.tod with
    | some (h, mi, s) => h < 24 ∧ mi < 60 ∧ s ≤ 60
    | none => isTime = false ∧ r.ms = none ∧ r.off = none
  ms : ∀ x, r.ms = some x → x < 1000
  off : ∀ b, r.off = some b → b.Ok

theorem isAsciiDigit_of {lo hi c : Char} (h1 : lo ≤ c) (h2 : c ≤ hi) (hlo : '0' ≤ lo := by decide)
    (hhi : hi ≤ '9' := by decide) : isAsciiDigit c = true := by
  simp [isAsciiDigit, Char.le_trans hlo h1, Char.le_trans h2 hhi]

theorem digits_fix (t : Str) (h : ∀ c ∈ t, isAsciiDigit c = true) :
    ∃ n, n < 10 ^ t.length ∧ t = (fixDigits t.length n).map dch := by
  have : ∃ n, natOfAscii t = some n := by
    unfold natOfAscii
    generalize 0 = acc
    induction t generalizing acc with
    | nil => exact ⟨_, rfl⟩
    | cons c cs ih =>
      obtain ⟨k, hk, rfl⟩ := asciiDigit_eq_dch c (h c (by simp))
      simp only [digitsVal, digitVal_dch]
      exact ih (fun x hx => h x (by simp [hx])) _
  obtain ⟨n, hn⟩ := this
  exact ⟨n, natOfAscii_inv t n hn⟩

theorem pair_iff {P : Char → Char → Bool} {bnd : Nat → Bool}
    (hdig : ∀ a b, P a b = true → isAsciiDigit a = true ∧ isAsciiDigit b = true)
    (htab : ∀ n, n < 100 → P (dch (n / 10)) (dch n) = bnd n) (a b : Char) :
    P a b = true ↔ ∃ n, n < 100 ∧ bnd n = true ∧ [a, b] = d2 n := by
  constructor
  · intro h
    obtain ⟨ha, hb⟩ := hdig a b h
    obtain ⟨n, hn, e⟩ := digits_fix [a, b] (by simp [ha, hb])
    have hn : n < 100 := hn
    rw [show [a, b].length = 2 from rfl, ← d2_eq] at e
    obtain ⟨rfl, rfl⟩ : a = dch (n / 10) ∧ b = dch n := by simpa [d2] using e
    exact ⟨n, hn, by rw [← htab n hn]; exact h, rfl⟩
  · rintro ⟨n, hn, hb, e⟩
    obtain ⟨rfl, rfl⟩ : a = dch (n / 10) ∧ b = dch n := by simpa [d2] using e
    rw [htab n hn]; exact hb

theorem hourOk_iff (a b : Char) : hourOk a b = true ↔ ∃ n, n < 100 ∧ decide (n < 24) = true ∧ [a, b] = d2 n := by
  refine pair_iff (fun a b h => ?_) (by decide) a b
  simp only [hourOk, Bool.and_eq_true, Bool.or_eq_true, decide_eq_true_eq, beq_iff_eq] at h
  rcases h with ⟨⟨x, y⟩, z⟩ | ⟨⟨rfl, x⟩, y⟩
  · exact ⟨isAsciiDigit_of x y, z⟩
  · exact ⟨by decide, isAsciiDigit_of x y⟩

theorem minOk_iff (a b : Char) : minOk a b = true ↔ ∃ n, n < 100 ∧ decide (n < 60) = true ∧ [a, b] = d2 n := by
  refine pair_iff (fun a b h => ?_) (by decide) a b
  simp only [minOk, Bool.and_eq_true, decide_eq_true_eq] at h
  exact ⟨isAsciiDigit_of h.1.1 h.1.2, h.2⟩

theorem secOk_iff (a b : Char) : secOk a b = true ↔ ∃ n, n < 100 ∧ decide (n ≤ 60) = true ∧ [a, b] = d2 n := by
  refine pair_iff (fun a b h => ?_) (by decide) a b
  simp only [secOk, Bool.and_eq_true, Bool.or_eq_true, decide_eq_true_eq, beq_iff_eq] at h
  rcases h with ⟨⟨x, y⟩, z⟩ | ⟨rfl, rfl⟩
  · exact ⟨isAsciiDigit_of x y, z⟩
  · exact ⟨by decide, by decide⟩

theorem monthOk_iff (a b : Char) :
    monthOk a b = true ↔ ∃ n, n < 100 ∧ decide (1 ≤ n ∧ n ≤ 12) = true ∧ [a, b] = d2 n := by
  refine pair_iff (fun a b h => ?_) (by decide) a b
  simp only [monthOk, Bool.and_eq_true, Bool.or_eq_true, decide_eq_true_eq, beq_iff_eq] at h
  rcases h with ⟨⟨rfl, x⟩, y⟩ | ⟨⟨rfl, x⟩, y⟩ <;> exact ⟨by decide, isAsciiDigit_of x y⟩

theorem dayOk_iff (a b : Char) :
    dayOk a b = true ↔ ∃ n, n < 100 ∧ decide (1 ≤ n ∧ n ≤ 31) = true ∧ [a, b] = d2 n := by
  refine pair_iff (fun a b h => ?_) (by decide) a b
  simp only [dayOk, Bool.and_eq_true, Bool.or_eq_true, decide_eq_true_eq, beq_iff_eq] at h
  rcases h with (⟨⟨rfl, x⟩, y⟩ | ⟨⟨x, y⟩, z⟩) | ⟨⟨rfl, x⟩, y⟩
  · exact ⟨by decide, isAsciiDigit_of x y⟩
  · exact ⟨isAsciiDigit_of x y, z⟩
  · exact ⟨by decide, isAsciiDigit_of x y⟩

theorem hoursScan_nonhours (acc t : Str) (ht : ∀ c r, t = c :: r → isHoursChar c = false) :
    hoursScan acc t = none := by
  cases t with
  | nil => rfl
  | cons c r => simp [hoursScan, ht c r rfl]

theorem hoursScan_run (h : Str) : ∀ (acc t : Str) (x : Str × Option Str × Option Str),
    h ≠ [] → (∀ c ∈ h, isHoursChar c = true) → (∀ c r, t = c :: r → isHoursChar c = false) →
    offTail (acc.reverse ++ h) t = some x → hoursScan acc (h ++ t) = some x := by
  induction h with
  | nil => intro _ _ _ h; exact absurd rfl h
  | cons c h' ih =>
    intro acc t x _ hh ht hx
    have hc : isHoursChar c = true := hh c (by simp)
    simp only [List.cons_append, hoursScan, hc, if_true]
    cases h' with
    | nil =>
      simp only [List.nil_append]
      rw [hoursScan_nonhours (c :: acc) t ht]
      simpa using hx
    | cons c' h'' =>
      have := ih (c :: acc) t x (by simp) (fun d hd => hh d (by simp at hd ⊢; exact Or.inr hd)) ht
        (by simpa using hx)
      rw [this]

theorem splitName_render (n : Str) (hn : '\n' ∉ n) : splitName (n ++ [']']) = some n := by
  simp [splitName, hn]

theorem nameTail_none : nameTail [']'] = some none := by decide

theorem nameTail_some (n : Str) (hn : '\n' ∉ n) : nameTail (':' :: (n ++ [']'])) = some (some n) := by
  simp [nameTail, splitName_render n hn]

theorem offTail_render (h : Str) (mm : Option Nat) (name : Option Str)
    (hmm : ∀ m, mm = some m → m < 60)
    (hname : ∀ n, name = some n → '\n' ∉ n) :
    offTail h (minutesText mm ++ (nameText name ++ [']'])) = some (h, mm.map d2, name) := by
  have hnt : nameTail (nameText name ++ [']']) = some name := by
    cases name with
    | none => exact nameTail_none
    | some n => exact nameTail_some n (hname n rfl)
  cases mm with
  | some m =>
    have hok : min2Ok (dch (m / 10)) (dch m) = true :=
      (minOk_iff _ _).mpr ⟨m, Nat.lt_trans (hmm m rfl) (by decide), decide_eq_true (hmm m rfl), rfl⟩
    simp only [minutesText, d2, List.cons_append, List.nil_append, offTail, hok, hnt]
    simp [d2]
  | none =>
    simp only [minutesText, List.nil_append, Option.map_none]
    cases name with
    | none => simp [nameText, offTail, nameTail_none]
    | some n =>
      have hn := hnt
      simp only [nameText, List.cons_append] at hn ⊢
      simp only [offTail]
      simpa using hn

theorem splitName_inv (t n : Str) (h : splitName t = some n) : t = n ++ [']'] ∧ '\n' ∉ n := by
  unfold splitName at h
  split at h
  · rename_i r heq
    split at h
    · exact absurd h (by simp)
    · rename_i hc
      injection h with h
      subst h
      have := congrArg List.reverse heq
      simp only [List.reverse_reverse, List.reverse_cons] at this
      refine ⟨this, ?_⟩
      simpa using hc
  · exact absurd h (by simp)

theorem nameTail_inv (r : Str) (x : Option Str) (h : nameTail r = some x) :
    (x = none ∧ r = [']']) ∨ (∃ n, x = some n ∧ r = ':' :: (n ++ [']']) ∧ '\n' ∉ n) := by
  unfold nameTail at h
  simp only [] at h
  split at h
  · rename_i y hy
    injection h with h
    subst h
    split at hy
    · rename_i t
      rw [Option.map_eq_some_iff] at hy
      obtain ⟨n, hn, rfl⟩ := hy
      obtain ⟨e1, e2⟩ := splitName_inv t n hn
      exact Or.inr ⟨n, rfl, by rw [e1], e2⟩
    · exact absurd hy (by simp)
  · split at h
    · rename_i hr
      injection h with h
      exact Or.inl ⟨h.symm, hr⟩
    · exact absurd h (by simp)

theorem offTail_inv (hh rest : Str) (x : Str × Option Str × Option Str) (hx : offTail hh rest = some x) :
    x.1 = hh ∧ ∃ mt rest', rest = mt ++ rest' ∧ nameTail rest' = some x.2.2
      ∧ ((mt = [] ∧ x.2.1 = none) ∨ ∃ d1 d2, mt = ['.', d1, d2] ∧ min2Ok d1 d2 = true ∧ x.2.1 = some [d1, d2]) := by
  unfold offTail at hx
  simp only [] at hx
  split at hx
  · rename_i y hy
    injection hx with hx
    subst hx
    split at hy
    · rename_i d1 d2 r
      split at hy
      · rename_i hok
        rw [Option.map_eq_some_iff] at hy
        obtain ⟨n, hn, rfl⟩ := hy
        exact ⟨rfl, ['.', d1, d2], r, rfl, hn, Or.inr ⟨d1, d2, rfl, hok, rfl⟩⟩
      · exact absurd hy (by simp)
    · exact absurd hy (by simp)
  · rw [Option.map_eq_some_iff] at hx
    obtain ⟨n, hn, rfl⟩ := hx
    exact ⟨rfl, [], rest, rfl, hn, Or.inl ⟨rfl, rfl⟩⟩

theorem hoursScan_inv (t : Str) : ∀ (acc : Str) (x : Str × Option Str × Option Str),
    hoursScan acc t = some x →
    ∃ h' t', h' ≠ [] ∧ (∀ c ∈ h', isHoursChar c = true) ∧ t = h' ++ t' ∧ offTail (acc.reverse ++ h') t' = some x := by
  induction t with
  | nil => intro acc x h; simp [hoursScan] at h
  | cons c cs ih =>
    intro acc x h
    unfold hoursScan at h
    split at h
    · rename_i hc
      split at h
      · rename_i y hy
        injection h with h
        subst h
        obtain ⟨h'', t', _, hall, hcs, hoff⟩ := ih (c :: acc) y hy
        refine ⟨c :: h'', t', by simp, ?_, by rw [hcs]; rfl, ?_⟩
        · intro d hd
          rcases List.mem_cons.mp hd with rfl | hd
          · exact hc
          · exact hall d hd
        · simpa using hoff
      · exact ⟨[c], cs, by simp, by intro d hd; simp at hd; subst hd; exact hc, rfl, by simpa using h⟩
    · exact absurd h (by simp)

/-- why only the greedy run of the hours can succeed -/
theorem tail_head (b : RawOff) : ∀ c r, b.tail = c :: r → isHoursChar c = false := by
  obtain ⟨hh, mm, nm⟩ := b
  intro c r h
  cases mm <;> cases nm <;> simp [RawOff.tail, minutesText, nameText] at h <;> rw [← h.1] <;> decide

theorem hoursScan_iff (t : Str) (x : Str × Option Str × Option Str) :
    hoursScan [] t = some x ↔ ∃ b : RawOff, b.Ok ∧ t = b.hours ++ b.tail ∧ x = (b.hours, b.minutes.map d2, b.name) := by
  constructor
  · intro h
    obtain ⟨hh, r, hne, hall, rfl, hoff⟩ := hoursScan_inv t [] x h
    obtain ⟨e1, mt, rest', rfl, hnt, hmt⟩ := offTail_inv _ _ _ hoff
    obtain ⟨a, om, nm⟩ := x
    simp only [List.reverse_nil, List.nil_append] at e1 hnt hmt
    subst e1
    have hn : (∀ n, nm = some n → '\n' ∉ n) ∧ rest' = nameText nm ++ [']'] := by
      rcases nameTail_inv _ _ hnt with ⟨rfl, rfl⟩ | ⟨n, rfl, rfl, hn⟩
      · exact ⟨fun _ h => (nomatch h), rfl⟩
      · exact ⟨fun _ h => Option.some.inj h ▸ hn, rfl⟩
    rcases hmt with ⟨rfl, rfl⟩ | ⟨d1, d2c, rfl, hok, rfl⟩
    · exact ⟨⟨a, none, nm⟩, ⟨hne, hall, fun _ h => (nomatch h), hn.1⟩, by rw [hn.2]; rfl, rfl⟩
    · obtain ⟨m, _, hm, e⟩ := (minOk_iff d1 d2c).mp hok
      have hm := of_decide_eq_true hm
      exact ⟨⟨a, some m, nm⟩, ⟨hne, hall, fun _ h => Option.some.inj h ▸ hm, hn.1⟩,
        by rw [hn.2]; simp [RawOff.tail, minutesText, ← e], by simp [e]⟩
  · rintro ⟨b, ok, rfl, rfl⟩
    exact hoursScan_run b.hours [] _ _ ok.ne ok.hours (tail_head b)
      (by simpa [RawOff.tail] using offTail_render b.hours b.minutes b.name ok.minutes ok.name)

/-- the groups after `(.XXX)?([…])?` -/
def withTail (g : Groups) (ms : Option Nat) (off : Option RawOff) : Groups :=
  { g with ms := ms.map d3, offH := off.map (·.hours), offM := off.bind fun b => b.minutes.map d2,
           name := off.bind (·.name) }

def HeadOnly (g : Groups) : Prop := g.ms = none ∧ g.offH = none ∧ g.offM = none ∧ g.name = none

theorem afterSeconds_text (g : Groups) (hg : HeadOnly g) (ms : Option Nat) (off : Option RawOff)
    (hoff : ∀ b, off = some b → b.Ok) :
    afterSeconds g (msText ms ++ bracketText off) = some (withTail g ms off) := by
  obtain ⟨y, mo, d, h, mi, s, ms', oh, om, nm⟩ := g
  obtain ⟨rfl, rfl, rfl, rfl⟩ := hg
  cases off with
  | some b =>
    have hx := (hoursScan_iff _ _).mpr ⟨b, hoff b rfl, rfl, rfl⟩
    cases ms with
    | some m => simp [msText, bracketText, afterSeconds, withTail, d3, isAsciiDigit_dch, hx]
    | none => simp [msText, bracketText, afterSeconds, withTail, hx]
  | none =>
    cases ms with
    | some m => simp [msText, bracketText, afterSeconds, withTail, d3, isAsciiDigit_dch]
    | none => simp [msText, bracketText, afterSeconds, withTail]

theorem three_digits (a b c : Char) (h : (isAsciiDigit a && isAsciiDigit b && isAsciiDigit c) = true) :
    ∃ n, n < 1000 ∧ [a, b, c] = d3 n := by
  simp only [Bool.and_eq_true] at h
  obtain ⟨n, hn, e⟩ := digits_fix [a, b, c] (by simp [h.1.1, h.1.2, h.2])
  exact ⟨n, by simpa using hn, by rw [d3_eq]; exact e⟩

theorem afterSeconds_inv (g0 g : Groups) (r : Str) (h0 : HeadOnly g0) (h : afterSeconds g0 r = some g) :
    ∃ ms off, (∀ x, ms = some x → x < 1000) ∧ (∀ b, off = some b → b.Ok) ∧ r = msText ms ++ bracketText off
      ∧ g = withTail g0 ms off := by
  obtain ⟨y, mo, d, hr, mi, s, ms', oh, om, nm⟩ := g0
  obtain ⟨rfl, rfl, rfl, rfl⟩ := h0
  unfold afterSeconds at h
  simp only [] at h
  split at h
  · rename_i a b c t
    split at h
    · rename_i hdig
      obtain ⟨n, hn, e⟩ := three_digits a b c hdig
      have hms : ∀ x, some n = some x → x < 1000 := fun _ hx => Option.some.inj hx ▸ hn
      split at h
      · cases h
        exact ⟨some n, none, hms, nofun, by simp [msText, bracketText, ← e], by simp [withTail, e]⟩
      · obtain ⟨x, hx, rfl⟩ := Option.map_eq_some_iff.mp h
        obtain ⟨b', ok, rfl, rfl⟩ := (hoursScan_iff _ _).mp hx
        exact ⟨some n, some b', hms, fun _ hb => Option.some.inj hb ▸ ok, by simp [msText, bracketText, ← e],
          by simp [withTail, e]⟩
      · cases h
    · cases h
  · split at h
    · cases h; exact ⟨none, none, nofun, nofun, rfl, rfl⟩
    · obtain ⟨x, hx, rfl⟩ := Option.map_eq_some_iff.mp h
      obtain ⟨b', ok, rfl, rfl⟩ := (hoursScan_iff _ _).mp hx
      exact ⟨none, some b', nofun, fun _ hb => Option.some.inj hb ▸ ok, rfl, rfl⟩
    · cases h

theorem timePart_iff (g0 : Groups) (h0 : HeadOnly g0) (s : Str) (g : Groups) :
    timePart g0 s = some g ↔ ∃ h mi sec ms off, (h < 24 ∧ mi < 60 ∧ sec ≤ 60) ∧ (∀ x, ms = some x → x < 1000)
      ∧ (∀ b, off = some b → b.Ok) ∧ s = todText h mi sec ++ (msText ms ++ bracketText off)
      ∧ g = withTail { g0 with hour := some (d2 h), minute := some (d2 mi), second := some (d2 sec) } ms off := by
  constructor
  · intro h
    unfold timePart at h
    split at h
    · rename_i h1 h2 m1 m2 s1 s2 r
      split at h
      · rename_i hok
        simp only [hmsOk, Bool.and_eq_true, hourOk_iff, minOk_iff, secOk_iff, decide_eq_true_eq] at hok
        obtain ⟨⟨⟨hh, _, b1, e1⟩, ⟨mi, _, b2, e2⟩⟩, ⟨sec, _, b3, e3⟩⟩ := hok
        rw [e1, e2, e3] at h
        obtain ⟨ms, off, hms, hoff, rfl, rfl⟩ := afterSeconds_inv _ g r (by exact h0) h
        exact ⟨hh, mi, sec, ms, off, ⟨b1, b2, b3⟩, hms, hoff, by simp [todText, ← e1, ← e2, ← e3], rfl⟩
      · cases h
    · cases h
  · rintro ⟨h, mi, sec, ms, off, ⟨b1, b2, b3⟩, hms, hoff, rfl, rfl⟩
    have hok : hmsOk (dch (h / 10)) (dch h) (dch (mi / 10)) (dch mi) (dch (sec / 10)) (dch sec) = true := by
      simp only [hmsOk, Bool.and_eq_true, hourOk_iff, minOk_iff, secOk_iff, decide_eq_true_eq]
      exact ⟨⟨⟨h, by omega, b1, rfl⟩, ⟨mi, by omega, b2, rfl⟩⟩, ⟨sec, by omega, b3, rfl⟩⟩
    simp only [todText, d2, List.cons_append, List.nil_append, timePart, hok, if_true]
    exact afterSeconds_text _ (by exact h0) ms off hoff

theorem tmRegex_iff (s : Str) (g : Groups) : tmRegex s = some g ↔ ∃ r : Raw, r.Ok true ∧ r.text = s ∧ r.groups = g := by
  rw [tmRegex, timePart_iff {} ⟨rfl, rfl, rfl, rfl⟩]
  constructor
  · rintro ⟨h, mi, sec, ms, off, hb, hms, hoff, rfl, rfl⟩
    exact ⟨⟨none, some (h, mi, sec), ms, off⟩, ⟨rfl, hb, hms, hoff⟩, rfl, rfl⟩
  · rintro ⟨⟨date, tod, ms, off⟩, ⟨hd, ht, hms, hoff⟩, rfl, rfl⟩
    cases date with
    | some x => exact absurd hd.1 (by decide)
    | none =>
      cases tod with
      | none => exact absurd ht.1 (by decide)
      | some x => exact ⟨x.1, x.2.1, x.2.2, ms, off, ht, hms, hoff, rfl, rfl⟩

theorem four_digits (a b c e : Char)
    (h : (isAsciiDigit a && isAsciiDigit b && isAsciiDigit c && isAsciiDigit e) = true) :
    ∃ n, n < 10000 ∧ [a, b, c, e] = d4 n := by
  simp only [Bool.and_eq_true] at h
  obtain ⟨n, hn, e⟩ := digits_fix [a, b, c, e] (by simp [h.1.1.1, h.1.1.2, h.1.2, h.2])
  exact ⟨n, by simpa using hn, by rw [d4_eq]; exact e⟩

theorem dtRegex_iff (s : Str) (g : Groups) : dtRegex s = some g ↔ ∃ r : Raw, r.Ok false ∧ r.text = s ∧ r.groups = g := by
  constructor
  · intro h
    unfold dtRegex at h
    split at h
    · rename_i y1 y2 y3 y4 m1 m2 d1 d2c r
      split at h
      · rename_i hok
        simp only [Bool.and_eq_true, mdOk, monthOk_iff, dayOk_iff, decide_eq_true_eq] at hok
        obtain ⟨hy, ⟨m, _, bm, em⟩, ⟨d, _, bd, ed⟩⟩ := hok
        obtain ⟨y, by', ey⟩ := four_digits y1 y2 y3 y4 (by simpa [Bool.and_eq_true] using hy)
        have hd : (false = false ∧ y < 10000 ∧ 1 ≤ m ∧ m ≤ 12 ∧ 1 ≤ d ∧ d ≤ 31) := ⟨rfl, by', bm.1, bm.2, bd.1, bd.2⟩
        simp only [] at h
        rw [ey, em, ed] at h
        have htext : y1 :: y2 :: y3 :: y4 :: m1 :: m2 :: d1 :: d2c :: r = dateText y m d ++ r := by
          simp [dateText, ← ey, ← em, ← ed]
        rw [htext]
        split at h
        · cases h
          exact ⟨⟨some (y, m, d), none, none, none⟩, ⟨hd, ⟨rfl, rfl, rfl⟩, nofun, nofun⟩, by simp [Raw.text, datePart, todPart, msText, bracketText], rfl⟩
        · obtain ⟨hh, mi, sec, ms, off, hb, hms, hoff, rfl, rfl⟩ := (timePart_iff _ ⟨rfl, rfl, rfl, rfl⟩ _ g).mp h
          exact ⟨⟨some (y, m, d), some (hh, mi, sec), ms, off⟩, ⟨hd, hb, hms, hoff⟩, rfl, rfl⟩
      · cases h
    · cases h
  · rintro ⟨⟨date, tod, ms, off⟩, ⟨hd, ht, hms, hoff⟩, rfl, rfl⟩
    cases date with
    | none => cases hd
    | some x =>
      obtain ⟨y, m, d⟩ := x
      obtain ⟨_, by', m1, m2, d1, d2'⟩ := hd
      have hmd : mdOk (dch (m / 10)) (dch m) (dch (d / 10)) (dch d) = true := by
        simp only [mdOk, Bool.and_eq_true, monthOk_iff, dayOk_iff, decide_eq_true_eq]
        exact ⟨⟨m, by omega, ⟨m1, m2⟩, rfl⟩, ⟨d, by omega, ⟨d1, d2'⟩, rfl⟩⟩
      unfold dtRegex
      cases tod with
      | none =>
        obtain ⟨_, rfl, rfl⟩ := ht
        simp [Raw.text, datePart, dateText, todPart, msText, bracketText, d4, d2, isAsciiDigit_dch, hmd, Raw.groups]
      | some x =>
        obtain ⟨h, mi, sec⟩ := x
        have ht' := (timePart_iff ⟨some (d4 y), some (d2 m), some (d2 d), none, none, none, none, none, none, none⟩
          ⟨rfl, rfl, rfl, rfl⟩ _ _).mpr ⟨h, mi, sec, ms, off, ht, hms, hoff, rfl, rfl⟩
        simp only [Raw.text, datePart, dateText, todPart, todText, d4, d2, List.cons_append, List.nil_append,
          isAsciiDigit_dch, hmd, Bool.and_self, if_true] at ht' ⊢
        exact ht'

/-- `parse_gmt_offset` on the groups of an optional `[…]` part, in numbers -/
def offsetOf (tzs : List (Str × Int)) : Option RawOff → PyM Int
  | none => .ok 0
  | some b =>
    match (pyIntSigned b.hours).or (b.name.bind fun n => tzs.lookup n) with
    | none => .error .value
    | some h =>
      if h < -12 ∨ h > 14 then .error .assert else .ok (signedMinutes (startsMinus (some b.hours)) h (b.minutes.getD 0))

theorem parseGmtOffset_groups (tzs : List (Str × Int)) (off : Option RawOff) (ok : ∀ b, off = some b → b.Ok) :
    parseGmtOffset tzs (off.map (·.hours)) (off.bind fun b => b.minutes.map d2) (off.bind (·.name)) = offsetOf tzs off := by
  cases off with
  | none => rfl
  | some b =>
    have hf := gmtOffset_flip (startsMinus (some b.hours))
    simp only [PyM.pure_eq] at hf
    simp only [Option.map_some, Option.bind_some, parseGmtOffset, offsetOf, intOfAscii_min b.minutes (ok b rfl).minutes,
      PyM.ok_bind, PyM.pure_eq]
    -- once the hours are known, both sides are `gmt_offset` and the correction
    cases pyIntSigned b.hours with
    | some h => exact hf h _
    | none =>
      cases b.name with
      | none => rfl
      | some n =>
        simp only [Option.none_or, Option.bind_some]
        cases tzs.lookup n with
        | none => rfl
        | some z => exact hf z _

def readRaw (tzs : List (Str × Int)) (r : Raw) : PyM Val := do
  let off ← offsetOf tzs r.off
  let t := r.tod.getD (0, 0, 0)
  let us := 1000 * r.ms.getD 0
  match r.date with
  | some (y, m, d) =>
    if !(Cal.validDate y m d && validTime t.1 t.2.1 t.2.2 us) then .error .value
    else do
      let f ← fromUs (toUs y m d t.1 t.2.1 t.2.2 us - off * 60000000)
      pure (.dt (dtOfFields f (some utcTz)))
  | none =>
    if !(validTime t.1 t.2.1 t.2.2 us) then .error .value
    else
      let x := todOfUs (toUs 1999 6 8 t.1 t.2.1 t.2.2 us - off * 60000000)
      pure (.tm ⟨x.1, x.2.1, x.2.2.1, x.2.2.2, some utcTz⟩)

theorem intOfAscii_tod (tod : Option (Nat × Nat × Nat)) (h : ∀ x, tod = some x → x.1 < 100 ∧ x.2.1 < 100 ∧ x.2.2 < 100) :
    intOfAscii (tod.map (d2 ·.1)) = .ok (tod.getD (0, 0, 0)).1
    ∧ intOfAscii (tod.map (d2 ·.2.1)) = .ok (tod.getD (0, 0, 0)).2.1
    ∧ intOfAscii (tod.map (d2 ·.2.2)) = .ok (tod.getD (0, 0, 0)).2.2 := by
  cases tod with
  | none => exact ⟨rfl, rfl, rfl⟩
  | some x => exact ⟨intOfAscii_d2 _ (h x rfl).1, intOfAscii_d2 _ (h x rfl).2.1, intOfAscii_d2 _ (h x rfl).2.2⟩

theorem Raw.Ok.tod_lt {t : Bool} {r : Raw} (ok : r.Ok t) : ∀ x, r.tod = some x → x.1 < 100 ∧ x.2.1 < 100 ∧ x.2.2 < 100 := by
  rintro ⟨h, mi, s⟩ hx
  have := ok.tod
  rw [hx] at this
  simp only at this ⊢
  omega

theorem dtConvertStr_text (tzs : List (Str × Int)) (r : Raw) (ok : r.Ok false) : dtConvertStr tzs r.text = readRaw tzs r := by
  obtain ⟨h1, h2, h3⟩ := intOfAscii_tod r.tod ok.tod_lt
  have hms := intOfAscii_ms r.ms ok.ms
  have hd := ok.date
  obtain ⟨date, tod, ms, off⟩ := r
  cases date with
  | none => cases hd
  | some x =>
    obtain ⟨y, m, d⟩ := x
    simp only [dtConvertStr, (dtRegex_iff _ _).mpr ⟨_, ok, rfl, rfl⟩, Raw.groups, Option.map_some, readRaw,
      parseGmtOffset_groups tzs off ok.off,
      intOfAscii_d4 y hd.2.1, intOfAscii_d2 m (by omega), intOfAscii_d2 d (by omega), h1, h2, h3, hms, PyM.ok_bind,
      PyM.pure_eq]

theorem tmConvertStr_text (tzs : List (Str × Int)) (r : Raw) (ok : r.Ok true) : tmConvertStr tzs r.text = readRaw tzs r := by
  obtain ⟨h1, h2, h3⟩ := intOfAscii_tod r.tod ok.tod_lt
  have hms := intOfAscii_ms r.ms ok.ms
  have hd := ok.date
  obtain ⟨date, tod, ms, off⟩ := r
  cases date with
  | some x => exact absurd hd.1 (by decide)
  | none =>
    simp only [tmConvertStr, (tmRegex_iff _ _).mpr ⟨_, ok, rfl, rfl⟩, Raw.groups, readRaw,
      parseGmtOffset_groups tzs off ok.off, h1, h2, h3, hms, PyM.ok_bind, PyM.pure_eq]

theorem dtConvertWith_str (tzs : List (Str × Int)) (required : Bool) (s : Str) :
    dtConvertWith tzs required (.str s) = dtConvertStr tzs s := rfl

theorem tmConvertWith_str (tzs : List (Str × Int)) (required : Bool) (s : Str) :
    tmConvertWith tzs required (.str s) = tmConvertStr tzs s := rfl

theorem dtConvertStr_iff (tzs : List (Str × Int)) (s : Str) (v : Val) :
    dtConvertStr tzs s = .ok v ↔ ∃ r : Raw, r.Ok false ∧ r.text = s ∧ readRaw tzs r = .ok v := by
  constructor
  · intro h
    cases hre : dtRegex s with
    | none => rw [dtConvertStr, hre] at h; cases h
    | some g =>
      obtain ⟨r, ok, rfl, -⟩ := (dtRegex_iff s g).mp hre
      exact ⟨r, ok, rfl, dtConvertStr_text tzs r ok ▸ h⟩
  · rintro ⟨r, ok, rfl, h⟩
    rw [dtConvertStr_text tzs r ok, h]

theorem tmConvertStr_iff (tzs : List (Str × Int)) (s : Str) (v : Val) :
    tmConvertStr tzs s = .ok v ↔ ∃ r : Raw, r.Ok true ∧ r.text = s ∧ readRaw tzs r = .ok v := by
  constructor
  · intro h
    cases hre : tmRegex s with
    | none => rw [tmConvertStr, hre] at h; cases h
    | some g =>
      obtain ⟨r, ok, rfl, -⟩ := (tmRegex_iff s g).mp hre
      exact ⟨r, ok, rfl, tmConvertStr_text tzs r ok ▸ h⟩
  · rintro ⟨r, ok, rfl, h⟩
    rw [tmConvertStr_text tzs r ok, h]

def rawOff (o : OffText) : RawOff := ⟨hoursText o, o.minutes, o.name⟩
def rawOf (p : Parts) : Raw := ⟨p.date, p.tod, p.ms, p.off.map rawOff⟩

theorem rawOf_text (p : Parts) : (rawOf p).text = p.render := by
  obtain ⟨date, tod, ms, off⟩ := p
  rcases date with _ | ⟨y, m, d⟩ <;> rcases tod with _ | ⟨h, mi, s⟩ <;> cases ms <;> cases off <;>
    simp [Parts.render, rawOf, Raw.text, datePart, dateText, todPart, todText, msText, bracketText, rawOff,
      RawOff.tail, OffText.render_eq]

theorem rawOff_ok {o : OffText} (ok : OffScanOk o) : (rawOff o).Ok := by
  refine ⟨?_, ?_, ok.minutes, ok.name⟩
  · obtain ⟨a, r, h⟩ := List.exists_cons_of_ne_nil ok.digits
    simp [rawOff, hoursText, h]
  · intro c hc
    rcases List.mem_append.mp hc with hc | hc
    · unfold signText at hc
      split at hc <;> simp at hc <;> subst hc <;> decide
    · obtain ⟨d, _, rfl⟩ := List.mem_map.mp hc
      exact isHoursChar_dch d

theorem rawOf_ok {p : Parts} {t : Bool} (hwf : p.wf t = true) : (rawOf p).Ok t := by
  obtain ⟨hd, ht, hms, hoff⟩ := (Parts.wf_iff t p).mp hwf
  obtain ⟨date, tod, ms, off⟩ := p
  refine ⟨?_, ?_, hms, ?_⟩
  · rcases date with _ | ⟨y, m, d⟩
    · exact hd
    · obtain ⟨_, h2, h3, h4, h5, h6⟩ := validDate_bounds hd.2
      exact ⟨hd.1, by omega, h3, h4, h5, h6⟩
  · rcases tod with _ | ⟨h, mi, s⟩
    · obtain ⟨h1, rfl, rfl⟩ := ht
      exact ⟨h1, rfl, rfl⟩
    · have := validTod_iff.mp ht
      exact ⟨this.1, this.2.1, by omega⟩
  · intro b hb
    obtain ⟨o, ho, rfl⟩ := Option.map_eq_some_iff.mp hb
    obtain ⟨a, _, c, d, _⟩ := (OffText.wf_iff o).mp (hoff o ho)
    exact rawOff_ok ⟨a, c, d⟩

theorem rawOff_notation (b : RawOff) (ok : b.Ok) (hv : Int) (hint : pyIntSigned b.hours = some hv)
    (hr : -12 ≤ hv ∧ hv ≤ 14) : ∃ o : OffText, o.wf = true ∧ rawOff o = b := by
  obtain ⟨sign, ds, ehh, hne, hlt, _, hval⟩ := pyIntSigned_inv b.hours hv hint
  obtain ⟨hh, mm, nm⟩ := b
  refine ⟨⟨sign, ds, mm, nm⟩, (OffText.wf_iff _).mpr ⟨hne, hlt, ok.minutes, ok.name, ?_⟩,
    by simp only [rawOff, hoursText, ← ehh]⟩
  by_cases hs : sign = some true
  · simp only [hs, if_true] at hval ⊢; omega
  · simp only [hs, if_false] at hval ⊢; omega

theorem offsetOf_notation (tzs : List (Str × Int)) (o : OffText) (hwf : o.wf = true)
    (hlen : o.hdigits.length ≤ intMaxStrDigits) : offsetOf tzs (some (rawOff o)) = .ok o.minutesEast := by
  obtain ⟨hne, hd, _, _, hh⟩ := (OffText.wf_iff o).mp hwf
  simp only [offsetOf, rawOff, pyIntSigned_hoursText o hne hd hlen, startsMinus_hoursText o hne, Option.some_or]
  unfold signedMinutes OffText.minutesEast
  by_cases hs : o.sign = some true
  · simp only [hs, if_true] at hh ⊢
    rw [if_neg (by omega), if_pos (by simp; omega)]
    simp
  · simp only [hs, if_false] at hh ⊢
    rw [if_neg (by omega), if_neg (by simp)]
    simp

theorem offsetOf_ib (tzs : List (Str × Int)) (hh n : Str) (z : Int)
    (hint : pyIntSigned hh = none) (hz : tzs.lookup n = some z) (hr : -12 ≤ z ∧ z ≤ 14) :
    offsetOf tzs (some ⟨hh, none, some n⟩) = .ok (60 * z) := by
  simp only [offsetOf, hint, hz, Option.none_or, Option.bind_some, if_neg (show ¬ (z < -12 ∨ z > 14) by omega)]
  unfold signedMinutes
  split <;> simp <;> omega

theorem offsetOf_ok_inv (tzs : List (Str × Int)) (b : RawOff) (off : Int) (h : offsetOf tzs (some b) = .ok off) :
    (∃ hv, pyIntSigned b.hours = some hv ∧ -12 ≤ hv ∧ hv ≤ 14)
    ∨ (pyIntSigned b.hours = none ∧ ∃ n z, b.name = some n ∧ tzs.lookup n = some z) := by
  unfold offsetOf at h
  cases hp : pyIntSigned b.hours with
  | some hv =>
    simp only [hp, Option.some_or] at h
    split at h
    · cases h
    · exact Or.inl ⟨hv, rfl, by omega⟩
  | none =>
    cases hn : b.name with
    | none => simp [hp, hn] at h
    | some n =>
      cases hl : tzs.lookup n with
      | none => simp [hp, hn, hl] at h
      | some z => exact Or.inr ⟨rfl, n, z, rfl, hl⟩

theorem dtRegex_inv (s : Str) (g : Groups) (h : dtRegex s = some g) :
    ∃ y1 y2 y3 y4 m1 m2 d1 d2 r, s = y1 :: y2 :: y3 :: y4 :: m1 :: m2 :: d1 :: d2 :: r
      ∧ g.year = some [y1, y2, y3, y4] ∧ g.month = some [m1, m2] ∧ g.day = some [d1, d2]
      ∧ ((r = [] ∧ g.hour = none ∧ g.minute = none ∧ g.second = none ∧ g.ms = none) ∨
          ∃ h1 h2 mi1 mi2 s1 s2 r', r = h1 :: h2 :: mi1 :: mi2 :: s1 :: s2 :: r'
            ∧ g.hour = some [h1, h2] ∧ g.minute = some [mi1, mi2] ∧ g.second = some [s1, s2]
            ∧ (r' = [] ∨ ∃ c t, r' = c :: t ∧ (c = '.' ∨ c = '['))) := by
  obtain ⟨⟨date, tod, ms, off⟩, ok, rfl, rfl⟩ := (dtRegex_iff s g).mp h
  have hd := ok.date
  have ht := ok.tod
  rcases date with _ | ⟨y, m, d⟩
  · cases hd
  · refine ⟨_, _, _, _, _, _, _, _, todPart tod ++ (msText ms ++ bracketText off), rfl, rfl, rfl, rfl, ?_⟩
    rcases tod with _ | ⟨hh, mi, sec⟩
    · obtain ⟨_, rfl, rfl⟩ := ht
      exact Or.inl ⟨rfl, rfl, rfl, rfl, rfl⟩
    · refine Or.inr ⟨_, _, _, _, _, _, msText ms ++ bracketText off, rfl, rfl, rfl, rfl, ?_⟩
      cases ms with
      | some x => exact Or.inr ⟨'.', _, rfl, Or.inl rfl⟩
      | none =>
        cases off with
        | none => exact Or.inl rfl
        | some b => exact Or.inr ⟨'[', _, rfl, Or.inr rfl⟩

end Ofx.DateTime
