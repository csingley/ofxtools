/-
Lemmas for C18 (`--write`): which options `mk_server_cfg` can touch; the global CLIENTUID.
-/
import OfxProofs.Lemmas.OfxgetFiles

namespace Ofx.Ofxget
open Ofx Ofx.Spec.Ofxget

theorem set_look (c : Ini) (s : Str) (k : Name) (v : Str) (s' : Str) (k' : Name) :
    (c.set s k v).look s' k' = if s' = s ∧ k' = lower k then some v else c.look s' k' := by
  unfold Ini.set Ini.look Ini.sect
  by_cases hd : s = defaultSect <;> by_cases hs' : s' = defaultSect <;> by_cases hss : s' = s <;>
    simp_all [lookup_mapSet]

theorem removeOption_look_ne (c : Ini) (sect : Str) (k : Name) (sect' : Str) (k' : Name) (hk : k' ≠ lower k) :
    (c.removeOption sect k).look sect' k' = c.look sect' k' := by
  unfold Ini.removeOption
  by_cases hd : (sect == defaultSect) = true
  · simp only [hd, if_true, Ini.look, Ini.sect]
    split
    · rw [lookup_mapErase_ne _ _ _ hk]
    · rfl
  · have hdf : (sect == defaultSect) = false := eq_false_of_ne_true hd
    simp only [hdf, Bool.false_eq_true, if_false, Ini.look, Ini.sect]
    split
    · rfl
    · rw [sect_mapSet]
      by_cases hs : sect' = sect
      · subst hs
        simp only [if_true, lookup_mapErase_ne _ _ _ hk, Ini.sect]
      · simp only [hs, if_false]

theorem writeOpt_cases {T : Tables} {args : Chain} {libCfg : Map} {server : Str} {cfg cfg' : Ini} {ot : Name × CfgTy}
    (h : writeOpt T args libCfg server cfg ot = .ok cfg') :
    cfg' = cfg ∨ ∃ v txt, args.get? ot.1 = some v ∧ arg2config ot.2 v = .ok txt ∧ cfg' = cfg.set server ot.1 txt := by
  unfold writeOpt at h
  cases hv : args.get? ot.1 with
  | none => rw [hv] at h; exact Or.inl (Except.ok.inj h).symm
  | some v =>
    rw [hv] at h
    obtain ⟨act, _, h⟩ := PyM.bind_ok h
    simp only at h
    split at h
    · obtain ⟨txt, htxt, h⟩ := PyM.bind_ok h
      exact Or.inr ⟨v, txt, rfl, htxt, (Except.ok.inj h).symm⟩
    · exact Or.inl (Except.ok.inj h).symm

theorem writeLoop_ind {T : Tables} {args : Chain} {libCfg : Map} {s : Str} (Q : Ini → Prop)
    {l : List (Name × CfgTy)} {c c' : Ini} (h : l.foldlM (writeOpt T args libCfg s) c = .ok c') (h0 : Q c)
    (hset : ∀ cfg, Q cfg → ∀ ot ∈ l, ∀ v txt, args.get? ot.1 = some v → arg2config ot.2 v = .ok txt →
      Q (cfg.set s ot.1 txt)) : Q c' := by
  refine PyM.foldlM_preserves _ Q l (fun b a b' ha hf hb => ?_) c c' h h0
  rcases writeOpt_cases hf with rfl | ⟨v, txt, hv, htxt, rfl⟩
  · exact hb
  · exact hset b hb a ha v txt hv htxt

theorem mkServerCfg_ok {T : Tables} {args : Chain} {mem lib : Ini} {disk : FileC} {uuid : Str} {cfg' : Ini}
    (h : mkServerCfg T args mem lib disk uuid = .ok cfg') :
    ∃ s libCfg, serverNick args = .ok s ∧ readConfig T lib s = .ok libCfg ∧
      T.configurable.foldlM (writeOpt T args libCfg s) (ensureSection (reloadCfg mem disk uuid) s) = .ok cfg' := by
  obtain ⟨s, hs, h⟩ := PyM.bind_ok h
  obtain ⟨libCfg, hlib, h⟩ := PyM.bind_ok h
  exact ⟨s, libCfg, hs, hlib, h⟩

theorem mkServerCfg_ind {T : Tables} {args : Chain} {mem lib : Ini} {disk : FileC} {uuid : Str} {cfg' : Ini} {s : Str}
    (Q : Ini → Prop) (hnick : serverNick args = .ok s) (h : mkServerCfg T args mem lib disk uuid = .ok cfg')
    (h0 : Q (ensureSection (reloadCfg mem disk uuid) s))
    (hset : ∀ cfg, Q cfg → ∀ ot ∈ T.configurable, ∀ v txt, args.get? ot.1 = some v → arg2config ot.2 v = .ok txt →
      Q (cfg.set s ot.1 txt)) : Q cfg' := by
  obtain ⟨s', libCfg, hs', _, hloop⟩ := mkServerCfg_ok h
  cases hnick.symm.trans hs'
  exact writeLoop_ind Q hloop h0 hset

theorem sect_append_empty (l : List (Str × Sect)) (s s' : Str) :
    ((l ++ [(s, ([] : Sect))]).lookup s').getD [] = (l.lookup s').getD [] := by
  rw [List.lookup_append]
  cases l.lookup s' with
  | some x => rfl
  | none =>
    rw [Option.none_or, List.lookup_cons_ite]
    split <;> rfl

/-- `USERCFG[server] = {}`: the reserved nickname `DEFAULT` empties the DEFAULT section -/
theorem ensureSection_look (c : Ini) (s s' : Str) (k : Name) :
    (ensureSection c s).look s' k =
      if c.hasSection s = false ∧ s = defaultSect ∧ s' = defaultSect then none else c.look s' k := by
  unfold ensureSection
  cases hh : c.hasSection s with
  | true => simp
  | false =>
    by_cases hsd : s = defaultSect
    · by_cases hs' : s' = defaultSect <;> simp [hsd, hs', Ini.look, Ini.sect]
    · have : (s == defaultSect) = false := beq_false_of_ne hsd
      simp only [Bool.false_eq_true, if_false, this, hsd, false_and, and_false, Ini.look, Ini.sect, sect_append_empty]

theorem look_default (c : Ini) (k : Name) : c.look defaultSect k = c.defaults.lookup k := by simp [Ini.look]

/-- `USERCFG.clear()` (keeps DEFAULT), then `USERCFG.read(USERCONFIGPATH)` -/
theorem clear_loadFile_look (mem : Ini) (disk : FileC) (s : Str) (k : Name) :
    (({ mem with sections := [] } : Ini).loadFile disk).look s k =
      (fileLookup disk s k).or (if s = defaultSect then mem.defaults.lookup k else none) := by
  rw [loadFile_look]
  by_cases hs : s = defaultSect <;> simp [Ini.look, hs, Ini.sect]

theorem reloadCfg_look (mem : Ini) (disk : FileC) (uuid s : Str) (k : Name) :
    (reloadCfg mem disk uuid).look s k =
      ((fileLookup disk s k).or (if s = defaultSect then mem.defaults.lookup k else none)).or
        (if s = defaultSect ∧ k = "clientuid".toList then some uuid else none) := by
  have hbase := clear_loadFile_look mem disk
  have hcu := hbase defaultSect "clientuid".toList
  simp only [Ini.look, if_true] at hcu
  unfold reloadCfg
  simp only
  split
  · rename_i h
    rw [hbase]
    by_cases hsk : s = defaultSect ∧ k = "clientuid".toList
    · obtain ⟨rfl, rfl⟩ := hsk
      rw [hcu] at h
      obtain ⟨u, hu⟩ := Option.isSome_iff_exists.mp h
      simp only [if_true, hu, Option.some_or]
    · rw [if_neg hsk, Option.or_none]
  · rename_i h
    rw [set_look, hbase]
    by_cases hsk : s = defaultSect ∧ k = "clientuid".toList
    · obtain ⟨rfl, rfl⟩ := hsk
      rw [hcu] at h
      rw [if_pos rfl, Option.not_isSome_iff_eq_none.mp h, if_pos ⟨rfl, by decide⟩, if_pos ⟨rfl, rfl⟩]
      rfl
    · have : ¬ (s = defaultSect ∧ k = lower "clientuid".toList) := by
        rwa [show lower "clientuid".toList = "clientuid".toList by decide]
      rw [if_neg this, if_neg hsk, Option.or_none]

theorem mkServerCfg_untouched (T : Tables) (args : Chain) (mem lib : Ini) (disk : FileC) (uuid : Str) (cfg' : Ini)
    (h : mkServerCfg T args mem lib disk uuid = .ok cfg') (k' : Name)
    (hk : ∀ ot ∈ T.configurable, k' ≠ lower ot.1) (hkc : k' ≠ lower "clientuid".toList)
    (sect' : Str) (v : Str) (hv : cfg'.look sect' k' = some v) :
    (({ mem with sections := [] } : Ini).loadFile disk).look sect' k' = some v := by
  obtain ⟨server, _, hnick, _, _⟩ := mkServerCfg_ok h
  rw [mkServerCfg_ind (fun c => c.look sect' k' = (ensureSection (reloadCfg mem disk uuid) server).look sect' k') hnick h rfl
    (fun cfg hc ot hot _ txt _ _ => by rw [set_look, if_neg (fun e => hk ot hot e.2)]; exact hc),
    ensureSection_look] at hv
  split at hv
  · cases hv
  · rwa [reloadCfg_look, if_neg (fun h : _ ∧ k' = "clientuid".toList => hkc (h.2.trans (by decide))), Option.or_none,
      ← clear_loadFile_look] at hv

end Ofx.Ofxget
