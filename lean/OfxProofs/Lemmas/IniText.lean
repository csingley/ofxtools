/-
Lemmas for C18 (persistence through the file): what `ConfigParser.write` puts on disk, line by line, with the facts
about white space, `strip` and the splitting into lines that reading those lines back needs.  What
`ConfigParser._read` makes of each of the lines is in `Lemmas/IniRead.lean`.  Model: `OfxModel/Ofx/IniText.lean`.
-/
import OfxProofs.Lemmas.Str
import OfxModel.Ofx.IniText

namespace Ofx.IniText
open Ofx Ofx.Ofxget

def AllSpace (w : Str) : Prop := ∀ c ∈ w, isSpace c = true

theorem isSpace_nl : isSpace '\n' = true := by decide
theorem isSpace_tab : isSpace '\t' = true := by decide
theorem isSpace_blank : isSpace ' ' = true := by decide

theorem allSpace_nil : AllSpace [] := by intro c hc; cases hc
theorem allSpace_nl : AllSpace ['\n'] := by intro c hc; simp at hc; subst hc; decide
theorem allSpace_tab : AllSpace ['\t'] := by intro c hc; simp at hc; subst hc; decide
theorem allSpace_blank : AllSpace [' '] := by intro c hc; simp at hc; subst hc; decide
theorem allSpace_blank_nl : AllSpace [' ', '\n'] := by
  intro c hc; simp at hc; rcases hc with h | h <;> subst h <;> decide

theorem edgeClean_iff (s : Str) : edgeClean s = true ↔
    (∀ c ∈ s.head?, isSpace c = false) ∧ ∀ c ∈ s.getLast?, isSpace c = false := by
  unfold edgeClean
  cases s.head? <;> cases s.getLast? <;> simp

theorem edgeClean_cons (c : Char) (cs : Str) (h : edgeClean (c :: cs) = true) : isSpace c = false :=
  ((edgeClean_iff _).mp h).1 c rfl

theorem edgeClean_concat (pre : Str) (d : Char) (h : edgeClean (pre ++ [d]) = true) : isSpace d = false :=
  ((edgeClean_iff _).mp h).2 d (by simp)

theorem rstrip_edgeClean (s : Str) (h : edgeClean s = true) : rstrip s = s :=
  (rstrip_eq_self_iff s).mpr ((edgeClean_iff s).mp h).2

theorem strip_edgeClean (s : Str) (h : edgeClean s = true) : strip s = s :=
  (strip_eq_self_iff s).mpr ((edgeClean_iff s).mp h)

theorem strip_pad (w1 s w2 : Str) (h1 : AllSpace w1) (h2 : AllSpace w2) (hs : edgeClean s = true) :
    strip (w1 ++ s ++ w2) = s := by
  rw [List.append_assoc]
  exact strip_pad_of_space h1 h2 (strip_edgeClean s hs)

theorem edgeClean_sandwich (a m b : Str) (ha : edgeClean a = true) (hb : edgeClean b = true) (hane : a ≠ [])
    (hbne : b ≠ []) : edgeClean (a ++ m ++ b) = true := by
  obtain ⟨c, cs, rfl⟩ := List.exists_cons_of_ne_nil hane
  rcases List.eq_nil_or_snoc b with rfl | ⟨pre, d, rfl⟩
  · exact absurd rfl hbne
  · rw [edgeClean_iff, ← List.append_assoc, List.getLast?_append]
    simp [edgeClean_cons c cs ha, edgeClean_concat pre d hb]

theorem edgeClean_append (a b : Str) (ha : edgeClean a = true) (hb : edgeClean b = true) (hane : a ≠ []) (hbne : b ≠ []) :
    edgeClean (a ++ b) = true := by
  simpa using edgeClean_sandwich a [] b ha hb hane hbne

theorem edgeClean_strip (s : Str) : edgeClean (strip s) = true :=
  (edgeClean_iff _).mpr ((strip_eq_self_iff _).mp (strip_strip s))

theorem edgeClean_of_strip (s : Str) (h : strip s = s) : edgeClean s = true := h ▸ edgeClean_strip s

theorem splitLinesGo_line (cur body rest : Str) (h : '\n' ∉ body) :
    splitLinesGo cur (body ++ '\n' :: rest) = (cur.reverse ++ body ++ ['\n']) :: splitLinesGo [] rest := by
  induction body generalizing cur with
  | nil => simp [splitLinesGo]
  | cons c cs ih =>
    have hc : c ≠ '\n' := fun e => h (by simp [e])
    simp only [List.cons_append, splitLinesGo, hc, if_false]
    rw [ih (c :: cur) (fun hm => h (by simp [hm]))]
    simp

/-- a line as `write` produces it -/
def IsLine (l : Str) : Prop := ∃ body, l = body ++ ['\n'] ∧ '\n' ∉ body

theorem splitLines_flatten (ls : List Str) (h : ∀ l ∈ ls, IsLine l) : splitLines ls.flatten = ls := by
  unfold splitLines
  induction ls with
  | nil => simp [splitLinesGo]
  | cons l ls ih =>
    obtain ⟨body, rfl, hb⟩ := h l (by simp)
    simp only [List.flatten_cons, List.append_assoc, List.singleton_append]
    rw [splitLinesGo_line [] body _ hb, ih (fun x hx => h x (by simp [hx]))]
    simp

theorem nlLines_no_nl (v : Str) : '\n' ∉ (nlLines v).1 ∧ ∀ l ∈ (nlLines v).2, '\n' ∉ l := by
  induction v with
  | nil => simp [nlLines]
  | cons c cs ih =>
    simp only [nlLines]
    split
    · refine ⟨by simp, ?_⟩
      intro l hl
      rcases List.mem_cons.mp hl with rfl | hl
      · exact ih.1
      · exact ih.2 l hl
    · rename_i hc
      refine ⟨?_, ih.2⟩
      intro hm
      rcases List.mem_cons.mp hm with e | hm
      · exact hc e.symm
      · exact ih.1 hm

theorem join_cons_char (sep : Str) (c : Char) (h : Str) (t : List Str) :
    join sep ((c :: h) :: t) = c :: join sep (h :: t) := by
  cases t <;> simp [join]

theorem join_nlLines (v : Str) : join ['\n'] ((nlLines v).1 :: (nlLines v).2) = v := by
  induction v with
  | nil => simp [nlLines, join]
  | cons c cs ih =>
    simp only [nlLines]
    split
    · rename_i hc
      subst hc
      simp only [join]
      rw [ih]
      simp
    · rw [join_cons_char, ih]

/-- the lines `_write_section` produces for one option: `key = first line`, then each further line after a tab -/
def optLines (k : Name) (v : Str) : List Str :=
  (k ++ delim ++ (nlLines v).1 ++ ['\n']) :: (nlLines v).2.map (fun l => '\t' :: l ++ ['\n'])

theorem flatMap_nl_lines (p v : Str) :
    p ++ v.flatMap (fun c => if c = '\n' then ['\n', '\t'] else [c]) ++ ['\n'] =
      (p ++ (nlLines v).1 ++ ['\n']) ++ ((nlLines v).2.map (fun l => '\t' :: l ++ ['\n'])).flatten := by
  induction v generalizing p with
  | nil => simp [nlLines]
  | cons c cs ih =>
    simp only [List.flatMap_cons, nlLines]
    split
    · rename_i hc
      subst hc
      have := ih ['\t']
      simp only [List.map_cons, List.flatten_cons, List.append_nil, List.append_assoc, List.cons_append,
        List.nil_append] at this ⊢
      rw [this]
    · have := ih (p ++ [c])
      simp only [List.append_assoc, List.singleton_append] at this ⊢
      exact this

theorem writeOption_lines (kv : Name × Str) : writeOption kv = (optLines kv.1 kv.2).flatten := by
  unfold writeOption optLines
  rw [replace_single]
  have := flatMap_nl_lines (kv.1 ++ delim) kv.2
  simp only [List.flatten_cons, List.append_assoc] at this ⊢
  exact this

def sectLines (sec : Str × Sect) : List Str :=
  ('[' :: sec.1 ++ [']', '\n']) :: (sec.2.flatMap fun kv => optLines kv.1 kv.2) ++ [['\n']]

theorem writeSection_lines (name : Str) (items : Sect) : writeSection name items = (sectLines (name, items)).flatten := by
  unfold writeSection sectLines
  simp only [List.flatten_cons, List.flatten_append, List.flatten_cons, List.flatten_nil, List.append_nil]
  congr 2
  induction items with
  | nil => rfl
  | cons kv rest ih =>
    simp only [List.flatMap_cons, List.flatten_append, writeOption_lines, ih]

/-- what `write` writes, as a list of sections: DEFAULT first if it has options -/
def fileOf (c : Ini) : FileC := (if c.defaults.isEmpty then [] else [(defaultSect, c.defaults)]) ++ c.sections

theorem iniWrite_lines (c : Ini) : iniWrite c = ((fileOf c).flatMap sectLines).flatten := by
  unfold iniWrite fileOf
  have hs : ∀ l : List (Str × Sect), l.flatMap (fun s => writeSection s.1 s.2) = (l.flatMap sectLines).flatten := by
    intro l
    induction l with
    | nil => rfl
    | cons s rest ih => rw [List.flatMap_cons, List.flatMap_cons, List.flatten_append, ih, writeSection_lines]
  rw [hs]
  split
  · simp
  · simp only [List.flatMap_append, List.flatMap_cons, List.flatMap_nil, List.append_nil, List.flatten_append,
      writeSection_lines]

end Ofx.IniText
