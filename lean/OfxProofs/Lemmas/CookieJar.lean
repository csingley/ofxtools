/-
Lemmas about `OfxModel/Ofx/CookieJar.lean`.  The nested dictionaries of the jar are seen as positions (`At jar d p c`):
each operation on the jar is characterised by what is at a position afterwards.
-/
import OfxModel.Ofx.CookieJar
import OfxProofs.Lemmas.List

namespace Ofx.CookieJar

theorem startsWith_iff {p s : Str} : startsWith p s = true ↔ ∃ rest, s = p ++ rest := by
  simp only [startsWith, List.isPrefixOf_iff_prefix]
  constructor
  · rintro ⟨t, rfl⟩; exact ⟨t, rfl⟩
  · rintro ⟨t, rfl⟩; exact ⟨t, rfl⟩

theorem endsWith_iff {suf s : Str} : endsWith suf s = true ↔ ∃ pre, s = pre ++ suf := by
  simp only [endsWith, List.isPrefixOf_iff_prefix]
  constructor
  · rintro ⟨t, ht⟩
    refine ⟨t.reverse, ?_⟩
    have := congrArg List.reverse ht
    simpa using this.symm
  · rintro ⟨t, rfl⟩
    exact ⟨t.reverse, by simp⟩

theorem mem_insertByPath {x c : Cookie} {l : List Cookie} : x ∈ insertByPath c l ↔ x = c ∨ x ∈ l := by
  induction l with
  | nil => simp [insertByPath]
  | cons d ds ih =>
    simp only [insertByPath]
    split
    · simp
    · simp only [List.mem_cons, ih]
      constructor
      · rintro (h | h | h) <;> simp [h]
      · rintro (h | h | h) <;> simp [h]

theorem mem_sortByPath {x : Cookie} {l : List Cookie} : x ∈ sortByPath l ↔ x ∈ l := by
  induction l with
  | nil => simp [sortByPath]
  | cons d ds ih =>
    have : sortByPath (d :: ds) = insertByPath d (sortByPath ds) := rfl
    rw [this, mem_insertByPath, ih]; simp

def PathOrdered (l : List Cookie) : Prop := l.Pairwise fun a b => b.path.length ≤ a.path.length

theorem insertByPath_ordered {c : Cookie} {l : List Cookie} (h : PathOrdered l) : PathOrdered (insertByPath c l) := by
  induction l with
  | nil => simp [insertByPath, PathOrdered]
  | cons d ds ih =>
    simp only [insertByPath]
    have hd := List.pairwise_cons.mp h
    split
    · rename_i hle
      refine List.pairwise_cons.mpr ⟨?_, h⟩
      intro b hb
      rcases List.mem_cons.mp hb with rfl | hb
      · exact hle
      · exact Nat.le_trans (hd.1 b hb) hle
    · rename_i hlt
      refine List.pairwise_cons.mpr ⟨?_, ih hd.2⟩
      intro b hb
      rcases mem_insertByPath.mp hb with rfl | hb
      · omega
      · exact hd.1 b hb

theorem sortByPath_ordered (l : List Cookie) : PathOrdered (sortByPath l) := by
  induction l with
  | nil => simp [sortByPath, PathOrdered]
  | cons d ds ih => exact insertByPath_ordered ih

theorem hasKey_iff {k : Str} {d : Dict α} : hasKey k d = true ↔ ∃ v, (k, v) ∈ d := by
  simp only [hasKey, List.any_eq_true, decide_eq_true_eq]
  constructor
  · rintro ⟨e, he, rfl⟩; exact ⟨e.2, he⟩
  · rintro ⟨v, hv⟩; exact ⟨(k, v), hv, rfl⟩

theorem exists_mem_adjust {α β : Type} {R : α → β → Prop} {f : α → α} {Q : β → Prop} {k k' : Str} {d : Dict α} {y : β}
    (hf : ∀ v, R (f v) y ↔ R v y ∧ Q y) :
    (∃ v, (k', v) ∈ adjust k f d ∧ R v y) ↔ (∃ v, (k', v) ∈ d ∧ R v y) ∧ (k' = k → Q y) := by
  simp only [adjust, List.mem_map]
  constructor
  · rintro ⟨v, ⟨⟨a, b⟩, hab, he⟩, hr⟩
    by_cases ha : a = k
    · simp only [ha, if_true, Prod.mk.injEq] at he
      obtain ⟨rfl, rfl⟩ := he
      exact ⟨⟨b, ha ▸ hab, ((hf b).mp hr).1⟩, fun _ => ((hf b).mp hr).2⟩
    · simp only [ha, if_false, Prod.mk.injEq] at he
      obtain ⟨rfl, rfl⟩ := he
      exact ⟨⟨b, hab, hr⟩, fun h => absurd h ha⟩
  · rintro ⟨⟨v, hv, hr⟩, hq⟩
    by_cases ha : k' = k
    · exact ⟨f v, ⟨(k', v), hv, by simp [ha]⟩, (hf v).mpr ⟨hr, hq ha⟩⟩
    · exact ⟨v, ⟨(k', v), hv, by simp [ha]⟩, hr⟩

/-- one lemma for every level of the nested dictionary: `R v y` says that `y` is in the value `v` one level down (a cookie
    in the list under a path, a path and cookie in the dictionary under a domain).  `P`: what the new value holds whatever
    was there; `Q`: which of the old contents it keeps. -/
theorem exists_mem_alter {α β : Type} {R : α → β → Prop} {f : Option α → α} {P Q : β → Prop} {k k' : Str} {d : Dict α} {y : β}
    (hsome : ∀ v, R (f (some v)) y ↔ P y ∨ (R v y ∧ Q y)) (hnone : R (f none) y ↔ P y) :
    (∃ v, (k', v) ∈ alter k f d ∧ R v y) ↔
      (k' = k ∧ P y) ∨ ((∃ v, (k', v) ∈ d ∧ R v y) ∧ (k' = k → Q y)) := by
  unfold alter
  by_cases hk : hasKey k d = true
  · obtain ⟨v0, hv0⟩ := hasKey_iff.mp hk
    simp only [hk, if_true, adjust, List.mem_map]
    constructor
    · rintro ⟨v, ⟨⟨a, b⟩, hab, he⟩, hr⟩
      by_cases ha : a = k
      · subst ha
        simp only [if_true, Prod.mk.injEq] at he
        obtain ⟨rfl, rfl⟩ := he
        rcases (hsome b).mp hr with hp | ⟨hr, hq⟩
        · exact .inl ⟨rfl, hp⟩
        · exact .inr ⟨⟨b, hab, hr⟩, fun _ => hq⟩
      · simp only [ha, if_false, Prod.mk.injEq] at he
        obtain ⟨rfl, rfl⟩ := he
        exact .inr ⟨⟨b, hab, hr⟩, fun h => absurd h ha⟩
    · rintro (⟨rfl, hp⟩ | ⟨⟨v, hv, hr⟩, hq⟩)
      · exact ⟨_, ⟨(k', v0), hv0, by simp⟩, (hsome v0).mpr (.inl hp)⟩
      · by_cases ha : k' = k
        · subst ha; exact ⟨_, ⟨(k', v), hv, by simp⟩, (hsome v).mpr (.inr ⟨hr, hq rfl⟩)⟩
        · exact ⟨v, ⟨(k', v), hv, by simp [ha]⟩, hr⟩
  · have hno : ∀ v, (k, v) ∉ d := fun v hv => hk (hasKey_iff.mpr ⟨v, hv⟩)
    rw [if_neg hk]
    simp only [List.mem_append, List.mem_singleton, Prod.mk.injEq]
    constructor
    · rintro ⟨v, hv | ⟨rfl, rfl⟩, hr⟩
      · exact .inr ⟨⟨v, hv, hr⟩, fun h => absurd hv (h ▸ hno v)⟩
      · exact .inl ⟨rfl, hnone.mp hr⟩
    · rintro (⟨rfl, hp⟩ | ⟨⟨v, hv, hr⟩, _⟩)
      · exact ⟨_, .inr ⟨rfl, rfl⟩, hnone.mpr hp⟩
      · exact ⟨v, .inl hv, hr⟩

theorem mem_setName {x c : Cookie} {ns : List Cookie} :
    x ∈ setName c ns ↔ x = c ∨ (x ∈ ns ∧ x.name ≠ c.name) := by
  unfold setName
  by_cases h : ns.any (·.name = c.name) = true
  · rw [if_pos h]
    simp only [List.any_eq_true, decide_eq_true_eq] at h
    obtain ⟨d0, hd0, hn0⟩ := h
    simp only [List.mem_map]
    constructor
    · rintro ⟨d, hd, rfl⟩
      by_cases hn : d.name = c.name
      · simp [hn]
      · simp only [hn, if_false]; exact .inr ⟨hd, hn⟩
    · rintro (rfl | ⟨hx, hn⟩)
      · exact ⟨d0, hd0, by simp [hn0]⟩
      · exact ⟨x, hx, by simp [hn]⟩
  · rw [if_neg h]
    simp only [List.any_eq_true, decide_eq_true_eq, not_exists, not_and] at h
    simp only [List.mem_append, List.mem_singleton]
    constructor
    · rintro (hx | rfl)
      · exact .inr ⟨hx, h x hx⟩
      · exact .inl rfl
    · rintro (rfl | ⟨hx, _⟩)
      · exact .inr rfl
      · exact .inl hx

def At (jar : Jar) (d p : Str) (c : Cookie) : Prop := ∃ ps, (d, ps) ∈ jar ∧ ∃ ns, (p, ns) ∈ ps ∧ c ∈ ns

theorem mem_cookies {jar : Jar} {c : Cookie} : c ∈ cookies jar ↔ ∃ d p, At jar d p c := by
  simp only [cookies, List.mem_flatMap, At]
  constructor
  · rintro ⟨⟨d, ps⟩, he, ⟨p, ns⟩, hq, hc⟩
    exact ⟨d, p, ps, he, ns, hq, hc⟩
  · rintro ⟨d, p, ps, he, ns, hq, hc⟩
    exact ⟨(d, ps), he, (p, ns), hq, hc⟩

/-- every cookie sits under its own domain and path (what `set_cookie` guarantees) -/
def Cons (jar : Jar) : Prop := ∀ d p c, At jar d p c → c.domain = d ∧ c.path = p

def AtP (ps : Dict (List Cookie)) (p : Str) (x : Cookie) : Prop := ∃ ns, (p, ns) ∈ ps ∧ x ∈ ns

theorem atP_setPath {ps : Dict (List Cookie)} {c x : Cookie} {p : Str} :
    AtP (setPath c ps) p x ↔ (p = c.path ∧ x = c) ∨ (AtP ps p x ∧ ¬ (p = c.path ∧ x.name = c.name)) := by
  unfold AtP setPath
  rw [exists_mem_alter (R := fun ns x => x ∈ ns) (P := fun x => x = c) (Q := fun x => x.name ≠ c.name)
    (fun v => mem_setName) (by simp [setName])]
  simp only [not_and]

theorem at_setCookie {jar : Jar} {c x : Cookie} {d p : Str} :
    At (setCookie jar c) d p x ↔
      (d = c.domain ∧ p = c.path ∧ x = c) ∨ (At jar d p x ∧ ¬ (d = c.domain ∧ p = c.path ∧ x.name = c.name)) := by
  show (∃ ps, (d, ps) ∈ setCookie jar c ∧ AtP ps p x) ↔ _ ∨ ((∃ ps, (d, ps) ∈ jar ∧ AtP ps p x) ∧ _)
  unfold setCookie
  rw [exists_mem_alter (R := fun ps (y : Str × Cookie) => AtP ps y.1 y.2) (y := (p, x))
    (P := fun y => y.1 = c.path ∧ y.2 = c) (Q := fun y => ¬ (y.1 = c.path ∧ y.2.name = c.name))
    (fun v => atP_setPath) (by simpa [AtP] using (atP_setPath (ps := []) (c := c) (x := x) (p := p)))]
  simp only [not_and]

theorem at_clear {jar : Jar} {k : Key} {x : Cookie} {d p : Str} :
    At (clear jar k) d p x ↔ At jar d p x ∧ ¬ (d = k.domain ∧ p = k.path ∧ x.name = k.name) := by
  show (∃ ps, (d, ps) ∈ clear jar k ∧ AtP ps p x) ↔ (∃ ps, (d, ps) ∈ jar ∧ AtP ps p x) ∧ _
  unfold clear
  rw [exists_mem_adjust (R := fun ps (y : Str × Cookie) => AtP ps y.1 y.2) (y := (p, x))
    (Q := fun y => y.1 = k.path → y.2.name ≠ k.name)
    (fun ps => exists_mem_adjust (R := fun ns (x : Cookie) => x ∈ ns) (Q := fun x => x.name ≠ k.name)
      (fun ns => by simp only [List.mem_filter, decide_eq_true_eq]))]
  simp only [not_and, ne_eq]

theorem key_eq {c : Cookie} {d p n : Str} : c.key = ⟨d, p, n⟩ ↔ d = c.domain ∧ p = c.path ∧ n = c.name := by
  simp only [Cookie.key, Key.mk.injEq, eq_comm]

theorem at_clearExpired {jar : Jar} {now : Int} {d p : Str} {x : Cookie} :
    At (clearExpired jar now) d p x ↔ At jar d p x ∧ x.isExpired now = false := by
  constructor
  · rintro ⟨ps, hps, ns, hns, hx⟩
    obtain ⟨⟨d', ps'⟩, hps', hd⟩ := List.mem_map.mp hps
    cases hd
    obtain ⟨⟨p', ns'⟩, hns', hp⟩ := List.mem_map.mp hns
    cases hp
    have := List.mem_filter.mp hx
    exact ⟨⟨ps', hps', ns', hns', this.1⟩, by simpa using this.2⟩
  · rintro ⟨⟨ps, hps, ns, hns, hx⟩, he⟩
    exact ⟨_, List.mem_map.mpr ⟨(d, ps), hps, rfl⟩, _, List.mem_map.mpr ⟨(p, ns), hns, rfl⟩,
      List.mem_filter.mpr ⟨hx, by simp [he]⟩⟩

/-- a response stores `x`: one of its headers makes it, the policy accepts it, and no later header of the same response
    stores the same key -/
def Stores (req : Req) (made : List Made) (x : Cookie) : Prop :=
  ∃ ma mb, made = ma ++ Made.cookie x :: mb ∧ setOk req x = true ∧
    ∀ c', Made.cookie c' ∈ mb → setOk req c' = true → c'.key ≠ x.key

/-- a response touches key `k`: one of its headers deletes it, or stores a cookie under it -/
def Touches (req : Req) (made : List Made) (k : Key) : Prop :=
  Made.expired k ∈ made ∨ ∃ c', Made.cookie c' ∈ made ∧ setOk req c' = true ∧ c'.key = k

theorem stores_nil {req : Req} {x : Cookie} : ¬ Stores req [] x := by
  rintro ⟨ma, mb, hm, _⟩; cases ma <;> cases hm

theorem stores_cons {req : Req} {m : Made} {rest : List Made} {x : Cookie} :
    Stores req (m :: rest) x ↔ Stores req rest x ∨
      (m = .cookie x ∧ setOk req x = true ∧ ∀ c', Made.cookie c' ∈ rest → setOk req c' = true → c'.key ≠ x.key) := by
  constructor
  · rintro ⟨ma, mb, hm, hok, hlast⟩
    cases ma with
    | nil => cases hm; exact .inr ⟨rfl, hok, hlast⟩
    | cons m' ma' => cases hm; exact .inl ⟨ma', mb, rfl, hok, hlast⟩
  · rintro (⟨ma, mb, rfl, hok, hlast⟩ | ⟨rfl, hok, hlast⟩)
    · exact ⟨m :: ma, mb, rfl, hok, hlast⟩
    · exact ⟨[], rest, rfl, hok, hlast⟩

theorem at_delStep (jar : Jar) (m : Made) {d p : Str} {x : Cookie} :
    At (delStep jar m) d p x ↔ At jar d p x ∧ m ≠ .expired ⟨d, p, x.name⟩ := by
  cases m with
  | cookie c => simp [delStep]
  | expired k =>
    obtain ⟨kd, kp, kn⟩ := k
    simp only [delStep, at_clear, ne_eq, Made.expired.injEq, Key.mk.injEq, eq_comm]

theorem at_delFold (made : List Made) {jar : Jar} {d p : Str} {x : Cookie} :
    At (made.foldl delStep jar) d p x ↔ At jar d p x ∧ Made.expired ⟨d, p, x.name⟩ ∉ made := by
  induction made generalizing jar with
  | nil => simp
  | cons m rest ih =>
    rw [List.foldl_cons, ih, at_delStep]
    simp only [List.mem_cons, not_or, and_assoc, ne_eq, eq_comm (a := m)]

theorem at_setStep (req : Req) (jar : Jar) (m : Made) {d p : Str} {x : Cookie} :
    At (setStep req jar m) d p x ↔ (m = .cookie x ∧ setOk req x = true ∧ d = x.domain ∧ p = x.path) ∨
      (At jar d p x ∧ ∀ c', m = .cookie c' → setOk req c' = true → c'.key ≠ ⟨d, p, x.name⟩) := by
  cases m with
  | expired k => simp [setStep]
  | cookie c =>
    simp only [setStep, Made.cookie.injEq, forall_eq', ne_eq, key_eq]
    by_cases hok : setOk req c = true
    · rw [if_pos hok, at_setCookie]
      constructor
      · rintro (⟨rfl, rfl, rfl⟩ | ⟨hx, hk⟩)
        · exact .inl ⟨rfl, hok, rfl, rfl⟩
        · exact .inr ⟨hx, fun _ => hk⟩
      · rintro (⟨rfl, _, rfl, rfl⟩ | ⟨hx, hk⟩)
        · exact .inl ⟨rfl, rfl, rfl⟩
        · exact .inr ⟨hx, hk hok⟩
    · rw [if_neg hok]
      constructor
      · exact fun hx => .inr ⟨hx, fun h => absurd h hok⟩
      · rintro (⟨rfl, h, _⟩ | ⟨hx, _⟩)
        · exact absurd h hok
        · exact hx

theorem at_setFold (req : Req) (made : List Made) {jar : Jar} {d p : Str} {x : Cookie} :
    At (made.foldl (setStep req) jar) d p x ↔ (d = x.domain ∧ p = x.path ∧ Stores req made x) ∨
      (At jar d p x ∧ ∀ c', Made.cookie c' ∈ made → setOk req c' = true → c'.key ≠ ⟨d, p, x.name⟩) := by
  induction made generalizing jar with
  | nil => simp [stores_nil]
  | cons m rest ih =>
    rw [List.foldl_cons, ih, at_setStep, stores_cons]
    simp only [List.mem_cons, or_imp, forall_and, eq_comm (a := Made.cookie _)]
    constructor
    · rintro (⟨rfl, rfl, h1⟩ | ⟨⟨rfl, hok, rfl, rfl⟩ | ⟨hx, hm⟩, hrest⟩)
      · exact .inl ⟨rfl, rfl, .inl h1⟩
      · exact .inl ⟨rfl, rfl, .inr ⟨rfl, hok, hrest⟩⟩
      · exact .inr ⟨hx, hm, hrest⟩
    · rintro (⟨rfl, rfl, h1 | ⟨rfl, hok, hrest⟩⟩ | ⟨hx, hm, hrest⟩)
      · exact .inl ⟨rfl, rfl, h1⟩
      · exact .inr ⟨.inl ⟨rfl, hok, rfl, rfl⟩, hrest⟩
      · exact .inr ⟨.inr ⟨hx, hm⟩, hrest⟩

theorem at_extractMade (jar : Jar) (req : Req) (made : List Made) {d p : Str} {x : Cookie} :
    At (extractMade jar req made) d p x ↔
      (d = x.domain ∧ p = x.path ∧ Stores req made x) ∨ (At jar d p x ∧ ¬ Touches req made ⟨d, p, x.name⟩) := by
  unfold extractMade Touches
  rw [at_setFold, at_delFold]
  constructor
  · rintro (h1 | ⟨⟨hx, hdel⟩, hno⟩)
    · exact .inl h1
    · exact .inr ⟨hx, fun h => h.elim hdel fun ⟨c', hc', hok, hk⟩ => hno c' hc' hok hk⟩
  · rintro (h1 | ⟨hx, hno⟩)
    · exact .inl h1
    · exact .inr ⟨⟨hx, fun hd => hno (.inl hd)⟩, fun c' hc' hok hk => hno (.inr ⟨c', hc', hok, hk⟩)⟩

/-- the three gates of `_cookies_for_domain` for one stored cookie -/
def sendable (req : Req) (now : Int) (c : Cookie) : Bool :=
  domainReturnOk c.domain req && pathReturnOk c.path req && returnOk req now c

/-- `add_cookie_header`; the first two gates are asked of the keys under which a cookie sits -/
theorem mem_cookieHeader {jar : Jar} {req : Req} {now : Int} {nv : Str × Str} :
    nv ∈ cookieHeader jar req now ↔ ∃ d p c, At jar d p c ∧
      (domainReturnOk d req && pathReturnOk p req && returnOk req now c) = true ∧ (c.name, c.value) = nv := by
  simp only [cookieHeader, List.mem_map, mem_sortByPath, cookiesForRequest, List.mem_flatMap, cookiesForDomain,
    Bool.and_eq_true]
  constructor
  · rintro ⟨c, ⟨⟨d, ps⟩, hd, hc⟩, rfl⟩
    dsimp only at hc
    split at hc
    · rename_i hdom
      obtain ⟨⟨p, ns⟩, hp, hc⟩ := List.mem_flatMap.mp hc
      dsimp only at hc
      split at hc
      · rename_i hpath
        exact ⟨d, p, c, ⟨ps, hd, ns, hp, (List.mem_filter.mp hc).1⟩, ⟨⟨hdom, hpath⟩, (List.mem_filter.mp hc).2⟩, rfl⟩
      · cases hc
    · cases hc
  · rintro ⟨d, p, c, ⟨ps, hd, ns, hp, hcn⟩, ⟨⟨hdom, hpath⟩, hret⟩, rfl⟩
    refine ⟨c, ⟨(d, ps), hd, ?_⟩, rfl⟩
    simp only [hdom, if_true, List.mem_flatMap]
    exact ⟨(p, ns), hp, by simp only [hpath, if_true, List.mem_filter]; exact ⟨hcn, hret⟩⟩

/-- the request's effective host is the cookie's domain or ends with `"." ++` it -/
def HostMatch (req : Req) (c : Cookie) : Prop := ∃ pre, '.' :: erhn req = pre ++ dotDomain c.domain

/-- the request path is the cookie's path, or continues it at a `/` -/
def PathMatch (req : Req) (c : Cookie) : Prop :=
  ∃ rest, requestPath req = c.path ++ rest ∧
    (rest = [] ∨ (∃ pre, c.path = pre ++ ['/']) ∨ ∃ rest', rest = '/' :: rest')

theorem isExpired_false {c : Cookie} {now : Int} : c.isExpired now = false ↔ ∀ t, c.expires = some t → now < t := by
  unfold Cookie.isExpired
  cases c.expires with
  | none => simp
  | some t => simp [Int.not_le]

theorem pathReturnOk_iff_path {req : Req} {p : Str} : pathReturnOk p req = true ↔
    ∃ rest, requestPath req = p ++ rest ∧ (rest = [] ∨ (∃ pre, p = pre ++ ['/']) ∨ ∃ rest', rest = '/' :: rest') := by
  unfold pathReturnOk
  simp only [Bool.or_eq_true, Bool.and_eq_true, beq_iff_eq, startsWith_iff, endsWith_iff]
  constructor
  · rintro (h | ⟨⟨rest, h⟩, hh⟩)
    · exact ⟨[], by simp [h], .inl rfl⟩
    · refine ⟨rest, h, ?_⟩
      rcases hh with hh | hh
      · exact .inr (.inl hh)
      · rw [h] at hh
        simp only [List.drop_left] at hh
        cases rest with
        | nil => exact .inl rfl
        | cons a rest' =>
          simp only [List.take_succ_cons, List.take_zero, List.cons.injEq, and_true] at hh
          exact .inr (.inr ⟨rest', by rw [hh]⟩)
  · rintro ⟨rest, h, hh⟩
    rcases hh with rfl | hh | ⟨rest', rfl⟩
    · left; simpa using h
    · exact .inr ⟨⟨rest, h⟩, .inl hh⟩
    · refine .inr ⟨⟨_, h⟩, .inr ?_⟩
      rw [h]; simp

theorem pathReturnOk_iff {req : Req} {c : Cookie} : pathReturnOk c.path req = true ↔ PathMatch req c :=
  pathReturnOk_iff_path

theorem sendable_sound {req : Req} {now : Int} {c : Cookie} (h : sendable req now c = true) :
    HostMatch req c ∧ PathMatch req c ∧ (c.secure = true → req.https = true) ∧
      (∀ t, c.expires = some t → now < t) := by
  simp only [sendable, returnOk, returnOkSecure, returnOkDomain, Bool.and_eq_true, Bool.not_eq_true',
    Bool.and_eq_false_iff, Bool.not_eq_false'] at h
  obtain ⟨⟨_, hp⟩, ⟨hs, he⟩, hd⟩ := h
  refine ⟨endsWith_iff.mp hd, pathReturnOk_iff.mp hp, ?_, isExpired_false.mp he⟩
  intro hsec
  rcases hs with hs | hs
  · rw [hs] at hsec; cases hsec
  · exact hs

theorem sendable_iff {req : Req} {now : Int} {c : Cookie} (hdot : startsWith dot (erhn req) = false) :
    sendable req now c = true ↔
      HostMatch req c ∧ PathMatch req c ∧ (c.secure = true → req.https = true) ∧
        (∀ t, c.expires = some t → now < t) := by
  refine ⟨sendable_sound, ?_⟩
  rintro ⟨hh, hp, hs, he⟩
  have hd : endsWith (dotDomain c.domain) ('.' :: erhn req) = true := endsWith_iff.mpr hh
  simp only [sendable, returnOk, returnOkSecure, returnOkDomain, domainReturnOk, withDot, hdot, Bool.and_eq_true,
    Bool.or_eq_true, Bool.not_eq_true', Bool.and_eq_false_iff, Bool.not_eq_false', hd, pathReturnOk_iff.mpr hp,
    isExpired_false.mpr he, and_true, or_true, true_and, Bool.false_eq_true, if_false]
  cases hsec : c.secure with
  | false => exact .inl rfl
  | true => exact .inr (hs hsec)

/-- the cookie `_cookie_from_cookie_tuple` builds from a header, before it looks at the expiry -/
def cookieOf (req : Req) (now : Int) (sc : SetCookie) : Cookie :=
  let std := normalize now sc.attrs
  { name := sc.name, value := sc.value,
    domain := match std.domain with
      | none => erhn req
      | some d => if startsWith dot d then d else '.' :: d,
    domainSpecified := std.domain.isSome,
    path := match std.path with
      | some p => if p.isEmpty then defaultPath req else escapePath p
      | none => defaultPath req,
    pathSpecified := match std.path with | some p => !p.isEmpty | none => false,
    secure := std.secure, expires := std.expires }

theorem mkCookie_eq (req : Req) (now : Int) (sc : SetCookie) : mkCookie req now sc =
    match (normalize now sc.attrs).expires with
    | none => .cookie (cookieOf req now sc)
    | some t => if t ≤ now then .expired (cookieOf req now sc).key else .cookie (cookieOf req now sc) := rfl

theorem mkCookie_cases (req : Req) (now : Int) (sc : SetCookie) :
    mkCookie req now sc = .cookie (cookieOf req now sc) ∨ mkCookie req now sc = .expired (cookieOf req now sc).key := by
  rw [mkCookie_eq]
  split
  · exact .inl rfl
  · split
    · exact .inr rfl
    · exact .inl rfl

theorem mkCookie_cookie {req : Req} {now : Int} {sc : SetCookie} {x : Cookie} (h : mkCookie req now sc = .cookie x) :
    x = cookieOf req now sc := by
  rcases mkCookie_cases req now sc with e | e <;> rw [e] at h <;> cases h
  rfl

theorem mkCookie_key_name (req : Req) (now : Int) (sc : SetCookie) : (mkCookie req now sc).key.name = sc.name := by
  rcases mkCookie_cases req now sc with e | e <;> rw [e] <;> rfl

theorem stores_origin {req : Req} {now : Int} {scs : List SetCookie} {x : Cookie}
    (h : Stores req (scs.map (mkCookie req now)) x) :
    setOk req x = true ∧ ∃ sc ∈ scs, mkCookie req now sc = .cookie x ∧ sc.name = x.name ∧ sc.value = x.value := by
  obtain ⟨ma, mb, hm, hok, _⟩ := h
  have hx : Made.cookie x ∈ scs.map (mkCookie req now) := by rw [hm]; simp
  obtain ⟨sc, hsc, hmk⟩ := List.mem_map.mp hx
  refine ⟨hok, sc, hsc, hmk, ?_⟩
  rw [mkCookie_cookie hmk]
  exact ⟨rfl, rfl⟩

theorem normStep_keep {now : Int} {s : Std} {a : Attr} {t : Int} (h : s.expires = some t) (ha : ∀ w, a ≠ .maxAge w) :
    (normStep now s a).expires = some t := by
  cases a with
  | domain v => simp only [normStep]; split <;> exact h
  | path v => simp only [normStep]; split <;> exact h
  | secure => exact h
  | maxAge w => exact absurd rfl (ha w)
  | expires v => simp only [normStep, h]
  | other => exact h

theorem foldl_normStep_keep {now : Int} (post : List Attr) {s : Std} {t : Int} (h : s.expires = some t)
    (hpost : ∀ a ∈ post, ∀ w, a ≠ .maxAge w) : (post.foldl (normStep now) s).expires = some t := by
  induction post generalizing s with
  | nil => exact h
  | cons a rest ih =>
    exact ih (normStep_keep h (hpost a (List.mem_cons_self ..))) (fun b hb => hpost b (List.mem_cons_of_mem _ hb))

theorem normalize_lastMaxAge (now v : Int) (pre post : List Attr) (hpost : ∀ a ∈ post, ∀ w, a ≠ .maxAge w) :
    (normalize now (pre ++ .maxAge v :: post)).expires = some (now + v) := by
  unfold normalize
  rw [List.foldl_append, List.foldl_cons]
  exact foldl_normStep_keep post rfl hpost

theorem mkCookie_expired {req : Req} {now t : Int} {sc : SetCookie} (h : (normalize now sc.attrs).expires = some t)
    (ht : t ≤ now) : ∃ k, mkCookie req now sc = .expired k ∧ k.name = sc.name := by
  rw [mkCookie_eq, h]
  exact ⟨_, if_pos ht, rfl⟩

theorem dotDomain_of {d : Str} (hne : d ≠ []) (hdot : startsWith dot d = false) : dotDomain d = '.' :: d := by
  cases d with
  | nil => exact absurd rfl hne
  | cons c cs => simp [dotDomain, hdot]

theorem setOk_hostOnly {req : Req} {x : Cookie} (h : x.domainSpecified = false) : setOk req x = true := by
  simp [setOk, setOkDomain, h]

theorem beforeLastSlash_spec {s : Str} (h : '/' ∈ s) : ∃ tail, s = beforeLastSlash s ++ '/' :: tail := by
  unfold beforeLastSlash
  have hc : s.contains '/' = true := by simpa using h
  rw [if_pos hc]
  have hr : '/' ∈ s.reverse := by simpa using h
  have hsplit := List.takeWhile_append_dropWhile (p := fun c => decide (c ≠ '/')) (l := s.reverse)
  cases hd : s.reverse.dropWhile (fun c => decide (c ≠ '/')) with
  | nil =>
    have := List.dropWhile_eq_nil_iff.1 hd '/' hr
    simp at this
  | cons c rest =>
    have hne : s.reverse.dropWhile (fun c => decide (c ≠ '/')) ≠ [] := by rw [hd]; simp
    have hhead := List.head_dropWhile_not (fun c => decide (c ≠ '/')) hne
    simp only [hd, List.head_cons, decide_eq_false_iff_not, ne_eq, Decidable.not_not] at hhead
    subst hhead
    rw [hd] at hsplit
    refine ⟨(s.reverse.takeWhile (fun c => decide (c ≠ '/'))).reverse, ?_⟩
    have := congrArg List.reverse hsplit
    simp only [List.reverse_append, List.reverse_cons, List.reverse_reverse, List.append_assoc] at this
    exact this.symm.trans (by simp)

theorem requestPath_slash (r : Req) : ∃ rest, requestPath r = '/' :: rest := by
  unfold requestPath
  dsimp only
  split
  · rename_i h; exact startsWith_iff.mp h
  · exact ⟨_, rfl⟩

theorem pathReturnOk_default (r : Req) : pathReturnOk (defaultPath r) r = true := by
  obtain ⟨rest0, hp0⟩ := requestPath_slash r
  obtain ⟨tail, ht⟩ := beforeLastSlash_spec (s := requestPath r) (by rw [hp0]; exact List.mem_cons_self)
  rw [pathReturnOk_iff_path, defaultPath]
  cases hb : beforeLastSlash (requestPath r) with
  | nil => rw [hb] at ht; exact ⟨tail, ht, .inr (.inl ⟨[], rfl⟩)⟩
  | cons c cs => rw [hb] at ht; exact ⟨'/' :: tail, ht, .inr (.inr ⟨tail, rfl⟩)⟩

theorem sendable_plain_same (r : Req) (now : Int) (n v : Str) (hne : erhn r ≠ []) (hdot : startsWith dot (erhn r) = false) :
    sendable r now ⟨n, v, erhn r, false, defaultPath r, false, false, none⟩ = true := by
  rw [sendable_iff hdot]
  refine ⟨?_, pathReturnOk_iff_path.mp (pathReturnOk_default r), nofun, nofun⟩
  exact ⟨[], by rw [dotDomain_of hne hdot]; rfl⟩

end Ofx.CookieJar
