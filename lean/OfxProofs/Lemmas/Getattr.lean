/-
Lemmas about attribute access (C16): association lists, the `__getattr__` loop; `Soft` and `Follows`, in which the
statements of Props/C16.lean say what a lookup below the top node returns; `clean`/`undefined` on an aggregate.
-/
import OfxModel.Ofx.Getattr
import OfxModel.Spec.Getattr
import OfxProofs.Lemmas.Agg

namespace Ofx.Getattr
open Ofx Ofx.Agg Ofx.Spec.Getattr

section induction
variable {motive : Node → Prop}
  (hval : ∀ v, motive (.val v))
  (hagg : ∀ ci fields items, (∀ k v, (k, v) ∈ fields → motive v) → (∀ v, v ∈ items → motive v) →
    motive (.agg ci fields items))
include hval hagg

theorem Node.inductFields : (fs : List (Str × Node)) → ∀ k v, (k, v) ∈ fs → motive v :=
  fun _ _ v _ => Ofx.Node.induct hval hagg v
theorem Node.inductItems : (is : List Node) → ∀ v, v ∈ is → motive v :=
  fun _ v _ => Ofx.Node.induct hval hagg v
end induction

theorem lookup_mapped {α β} {g : List (Str × α) → List (Str × β)} {f : α → β} (h0 : g [] = [])
    (hc : ∀ n v r, g ((n, v) :: r) = (n, f v) :: g r) (k : Str) :
    ∀ fs, Agg.lookup k (g fs) = (Agg.lookup k fs).map f
  | [] => by rw [h0]; rfl
  | (n, v) :: r => by
    rw [hc]
    simp only [Agg.lookup, lookup_mapped h0 hc k r]
    split <;> rfl

theorem lookup_fieldSubs (S : Schema) (P : Props) (k : Str) (fs : List (Str × Node)) :
    Agg.lookup k (fieldSubs S P fs) = (Agg.lookup k fs).map (fun v => (v, fun nm => getattr S P v nm)) :=
  lookup_mapped rfl (fun _ _ _ => rfl) k fs

theorem lookup_fieldDefiners (S : Schema) (name k : Str) (fs : List (Str × Node)) :
    Agg.lookup k (fieldDefiners S fs name) = (Agg.lookup k fs).map (fun v => definers S v name) :=
  lookup_mapped (g := (fieldDefiners S · name)) rfl (fun _ _ _ => rfl) k fs

theorem clean_agg {S : Schema} {P : Props} {ci : Nat} {c : Cls} (hc : S.cls? ci = some c)
    (fields : List (Str × Node)) (items : List Node) (name : Str) :
    clean S P (.agg ci fields items) name = true ↔
      P.find ci name = none ∧ (definesNL c name = false → Agg.lookup name fields = none) ∧
        ∀ k v, (k, v) ∈ fields → clean S P v name = true := by
  rw [← allFieldsB (pf := (cleanFields S P · name)) rfl (fun _ _ _ => rfl)]
  cases h : definesNL c name <;> simp [clean, hc, hasKey, h, and_assoc]

theorem undefined_agg (S : Schema) (P : Props) (ci : Nat) (fields : List (Str × Node)) (items : List Node) (name : Str) :
    undefined S P (.agg ci fields items) name = true ↔
      ∃ c, S.cls? ci = some c ∧ c.attr? name = none ∧ clean S P (.agg ci fields items) name = true ∧
        definers S (.agg ci fields items) name = [] := by
  cases hc : S.cls? ci <;> simp [undefined, hc, and_comm]

theorem attr?_name (c : Cls) (name : Str) (a : Attr) (h : c.attr? name = some a) : a.name = name := by
  unfold Cls.attr? at h
  have := List.find?_some h
  simpa using this

/-- a "soft" failure: what `__getattr__` swallows when it comes from a sub-aggregate -/
def Soft (r : PyM Res) : Prop := r = .error .attr ∨ r = .error .key

/-- an empty `__dict__` is what `copy`/`pickle` probe -/
theorem getattrLoop_empty (name : Str) : ∀ (l : List Attr), getattrLoop [] name l = .error .attr
  | [] => rfl
  | a :: rest => by
    unfold getattrLoop
    by_cases hs : a.kind.isSub = true <;> simp [hs, Agg.lookup, getattrLoop_empty name rest]

theorem getattrLoopPinned_empty (name : Str) : ∀ (l : List Attr), (∃ a, a ∈ l ∧ a.kind.isSub = true) →
    getattrLoopPinned [] name l = .error .key
  | [], h => by obtain ⟨a, ha, _⟩ := h; simp at ha
  | a :: rest, h => by
    unfold getattrLoopPinned
    by_cases hs : a.kind.isSub = true
    · simp [hs, Agg.lookup]
    · simp only [hs]
      obtain ⟨b, hb, hbs⟩ := h
      rcases List.mem_cons.mp hb with hb | hb
      · subst hb; exact absurd hbs hs
      · exact getattrLoopPinned_empty name rest ⟨b, hb, hbs⟩

/-- What the declarative side says of the result `r` of looking a `clean` name up in or below an aggregate: `miss` when
    nothing defines it (`ds = []`), else the object stored at the first definer (`at_ p`), when there is one. -/
def Follows (ds : List Path) (at_ : Path → Option Node) (r : PyM Res) (miss : Prop) : Prop :=
  match ds with
  | [] => miss
  | p :: _ => ∀ w, at_ p = some w → r = .ok (.node w)

@[simp] theorem follows_nil {at_ : Path → Option Node} {r : PyM Res} {miss : Prop} : Follows [] at_ r miss ↔ miss := Iff.rfl

@[simp] theorem follows_cons {p : Path} {ps : List Path} {at_ : Path → Option Node} {r : PyM Res} {miss : Prop} :
    Follows (p :: ps) at_ r miss ↔ ∀ w, at_ p = some w → r = .ok (.node w) := Iff.rfl

theorem Follows.mono {ds : List Path} {at_ : Path → Option Node} {r : PyM Res} {miss miss' : Prop}
    (h : Follows ds at_ r miss) (hm : miss → miss') : Follows ds at_ r miss' := by
  cases ds with
  | nil => exact hm h
  | cons _ _ => exact h

/-- a sub-aggregate without definer fails softly and is passed over, the first one with a definer answers -/
theorem getattrLoop_follows (S : Schema) (P : Props) (ci : Nat) (fields : List (Str × Node)) (items : List Node)
    (name : Str)
    (h : ∀ k v, Agg.lookup k fields = some v →
      Follows (definers S v name) (valueAt S v · name) (getattr S P v name) (Soft (getattr S P v name))) :
    ∀ l : List Attr, Follows (childDefiners l (fieldDefiners S fields name)) (valueAt S (.agg ci fields items) · name)
      (getattrLoop (fieldSubs S P fields) name l) (getattrLoop (fieldSubs S P fields) name l = .error .attr)
  | [] => rfl
  | a :: rest => by
    have ih := getattrLoop_follows S P ci fields items name h rest
    unfold getattrLoop
    simp only [childDefiners, lookup_fieldSubs, lookup_fieldDefiners]
    by_cases hs : a.kind.isSub = true
    · cases hl : Agg.lookup a.name fields with
      | none => simpa [hs, hl] using ih
      | some v =>
        have hv := h a.name v hl
        cases hd : definers S v name with
        | nil => rcases (hd ▸ hv : Soft _) with hv | hv <;> simpa [hs, hl, hd, hv] using ih
        | cons q qs =>
          simp only [hs, hd, if_true, Option.map_some, List.map_cons, List.cons_append, follows_cons]
          intro w hw
          simp [(hd ▸ hv : ∀ w, _ → _) w (by simpa [valueAt, hl] using hw)]
    · simpa [hs] using ih

end Ofx.Getattr
