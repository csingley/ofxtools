/-
Lemmas about `OfxModel/Py/Int.lean` and `OfxModel/Py/Dec.lean`. `format(d, "f")` is the form the converters write;
`str` of a `Decimal` belongs to the Python layer of the model but is called by no converter.
-/
import OfxModel.Py.Dec
import OfxModel.Spec.Lex
import OfxProofs.Lemmas.Str
import OfxProofs.Defs.ReadBack
import OfxProofs.Lemmas.Digits

namespace Ofx

theorem digitsVal_foldl (ds : List Nat) (a : Nat) :
    ds.foldl (fun a d => 10 * a + d) a = a * 10 ^ ds.length + digitsVal ds :=
  foldl_digits ds a

theorem digitsVal_nil : digitsVal [] = 0 := rfl

theorem digitsVal_cons (d : Nat) (ds : List Nat) : digitsVal (d :: ds) = d * 10 ^ ds.length + digitsVal ds := by
  have := digitsVal_foldl ds (10 * 0 + d)
  simp only [digitsVal, List.foldl] at this ⊢
  simpa using this

theorem digitsVal_append (xs ys : List Nat) :
    digitsVal (xs ++ ys) = digitsVal xs * 10 ^ ys.length + digitsVal ys := by
  simp only [digitsVal, List.foldl_append]
  rw [digitsVal_foldl ys]
  rfl

theorem digitsVal_replicate_zero (n : Nat) (ys : List Nat) :
    digitsVal (List.replicate n 0 ++ ys) = digitsVal ys :=
  foldl_digits_zeros n ys

theorem digitsVal_replicate_zero' (k : Nat) : digitsVal (List.replicate k 0) = 0 := by
  simpa [digitsVal_nil] using digitsVal_replicate_zero k []

theorem natDigits_val (n : Nat) : digitsVal (natDigits n) = n := natDigits_foldl n

theorem natDigits_zero : natDigits 0 = [0] := by decide

theorem digitChar_not_sign : ∀ d, d < 10 → digitChar d ≠ '-' ∧ digitChar d ≠ '+' := by decide
theorem digitChar_intSpace : ∀ d, d < 10 → intSpace (digitChar d) = false := by decide
theorem digitChar_isDigitC : ∀ d, d < 10 → Spec.isDigitC (digitChar d) = true := by decide
theorem digitChar_lower : ∀ d, d < 10 → asciiLower (digitChar d) = digitChar d := by decide

theorem spanDigits_digits (ds : List Nat) (h : ∀ d ∈ ds, d < 10) (rest : Str)
    (hr : spanDigits rest = ([], rest)) :
    spanDigits (ds.map digitChar ++ rest) = (ds, rest) := by
  induction ds with
  | nil => simpa using hr
  | cons d ds ih =>
    have hd : d < 10 := h d (by simp)
    have := ih (fun x hx => h x (by simp [hx]))
    simp [spanDigits, digitVal_digitChar d hd, this]

theorem spanDigits_nil : spanDigits [] = ([], []) := rfl

theorem spanDigits_nondigit (c : Char) (cs : Str) (h : digitVal c = none) : spanDigits (c :: cs) = ([], c :: cs) := by
  simp [spanDigits, h]

theorem takeSign_other (c : Char) (r : Str) (h1 : c ≠ '-') (h2 : c ≠ '+') : takeSign (c :: r) = (false, c :: r) := by
  unfold takeSign
  split <;> simp_all

theorem lstripBy_id (p : Char → Bool) (s : Str) (h : ∀ c ∈ s, p c = false) : lstripBy p s = s := by
  cases s with
  | nil => rfl
  | cons c cs => simp [lstripBy, h c (by simp)]

theorem stripBy_id (p : Char → Bool) (s : Str) (h : ∀ c ∈ s, p c = false) : stripBy p s = s := by
  unfold stripBy
  rw [lstripBy_id p s h, lstripBy_id p s.reverse (by simpa using h)]
  simp

theorem intBody_digits (ds : List Nat) (h : ∀ d ∈ ds, d < 10) (pd : Bool) (acc : Nat) (hne : ds ≠ [] ∨ pd = true) :
    intBody pd acc (ds.map digitChar) = some (acc * 10 ^ ds.length + digitsVal ds) := by
  induction ds generalizing pd acc with
  | nil =>
    rcases hne with h | h
    · exact absurd rfl h
    · subst h; simp [intBody, digitsVal_nil]
  | cons d ds ih =>
    have hd : d < 10 := h d (by simp)
    simp only [List.map_cons, intBody, digitVal_digitChar d hd]
    rw [ih (fun x hx => h x (by simp [hx])) true (10 * acc + d) (Or.inr rfl), digitsVal_cons]
    simp only [List.length_cons, Nat.pow_succ]
    grind

theorem pyStrNat_ne_nil (n : Nat) : pyStrNat n ≠ [] := by
  simp [pyStrNat, natDigits_ne_nil]

theorem Types.pyStrInt_ne_nil (i : Int) : pyStrInt i ≠ [] := by
  unfold pyStrInt; split
  · simp
  · exact pyStrNat_ne_nil _

theorem pyStrNat_all (q : Char → Bool) (hq : ∀ d, d < 10 → q (digitChar d) = true) (n : Nat) :
    (pyStrNat n).all q = true := by
  rw [pyStrNat, List.all_map, List.all_eq_true]
  exact fun d hd => hq d (natDigits_lt n d hd)

theorem pyStrInt_all (q : Char → Bool) (hq : ∀ d, d < 10 → q (digitChar d) = true) (hm : q '-' = true) (i : Int) :
    (pyStrInt i).all q = true := by
  unfold pyStrInt
  split
  · rw [List.all_cons, hm, pyStrNat_all q hq]; rfl
  · exact pyStrNat_all q hq _

theorem pyStrNat_intSpace (n : Nat) : ∀ c ∈ pyStrNat n, intSpace c = false := by
  intro c hc
  simp only [pyStrNat, List.mem_map] at hc
  obtain ⟨d, hd, rfl⟩ := hc
  exact digitChar_intSpace d (natDigits_lt n d hd)

theorem intBody_pyStrNat (n : Nat) : intBody false 0 (pyStrNat n) = some n := by
  have := intBody_digits (natDigits n) (natDigits_lt n) false 0 (Or.inl (natDigits_ne_nil n))
  simpa [pyStrNat, natDigits_val] using this

theorem pyIntParse_pyStrInt (i : Int) : pyIntParse (pyStrInt i) = some i := by
  unfold pyIntParse pyStrInt
  by_cases hi : i < 0
  · simp only [hi, if_true]
    rw [stripBy_id]
    · simp only [takeSign, intBody_pyStrNat]
      simp; omega
    · intro c hc
      simp at hc
      rcases hc with rfl | hc
      · decide
      · exact pyStrNat_intSpace _ c hc
  · simp only [hi, if_false]
    rw [stripBy_id _ _ (pyStrNat_intSpace _)]
    obtain ⟨d, ds, hds⟩ := List.exists_cons_of_ne_nil (natDigits_ne_nil i.natAbs)
    have hd : d < 10 := natDigits_lt i.natAbs d (by simp [hds])
    have e : pyStrNat i.natAbs = digitChar d :: ds.map digitChar := by simp [pyStrNat, hds]
    have hs := digitChar_not_sign d hd
    have := intBody_pyStrNat i.natAbs
    rw [e] at this ⊢
    rw [takeSign_other _ _ hs.1 hs.2]
    simp only [this]
    simp; omega

theorem digits_all_isDigitC (ds : List Nat) (h : ∀ d ∈ ds, d < 10) :
    (ds.map digitChar).all Spec.isDigitC = true := by
  rw [List.all_map, List.all_eq_true]
  exact fun d hd => digitChar_isDigitC d (h d hd)

theorem pyStrNat_all_digits (n : Nat) : (pyStrNat n).all Spec.isDigitC = true :=
  digits_all_isDigitC _ (natDigits_lt n)

theorem lexInteger_pyStrInt (i : Int) : Spec.lexInteger (pyStrInt i) = true := by
  unfold Spec.lexInteger pyStrInt
  by_cases hi : i < 0
  · simp only [hi, if_true, Spec.dropSign]
    simp [pyStrNat_all_digits, pyStrNat_ne_nil]
  · simp only [hi, if_false]
    obtain ⟨d, ds, hds⟩ := List.exists_cons_of_ne_nil (natDigits_ne_nil i.natAbs)
    have hd : d < 10 := natDigits_lt i.natAbs d (by simp [hds])
    have e : pyStrNat i.natAbs = digitChar d :: ds.map digitChar := by simp [pyStrNat, hds]
    have hs := digitChar_not_sign d hd
    have hall := pyStrNat_all_digits i.natAbs
    rw [e] at hall ⊢
    have : Spec.dropSign (digitChar d :: ds.map digitChar) = digitChar d :: ds.map digitChar := by
      unfold Spec.dropSign
      split <;> simp_all
    rw [this]
    simp [hall]

/-- characters `numeric_as_ascii` passes through unchanged; `!isSpace` is there only so that `strip` leaves the text
    alone in `decClean_plain` -/
def plainOk (c : Char) : Bool := c != '_' && decide (0 < c.toNat) && decide (c.toNat ≤ 127) && !isSpace c

def AllOk (s : Str) : Prop := ∀ c ∈ s, plainOk c = true

theorem digitChar_plainOk : ∀ d, d < 10 → plainOk (digitChar d) = true := by decide

theorem AllOk_nil : AllOk [] := by intro c hc; simp at hc
theorem AllOk_append {a b : Str} (ha : AllOk a) (hb : AllOk b) : AllOk (a ++ b) := by
  intro c hc; rcases List.mem_append.mp hc with h | h
  · exact ha c h
  · exact hb c h
theorem AllOk_cons {c : Char} {b : Str} (hc : plainOk c = true) (hb : AllOk b) : AllOk (c :: b) := by
  intro x hx; rcases List.mem_cons.mp hx with h | h
  · subst h; exact hc
  · exact hb x h
theorem AllOk_signStr (neg : Bool) : AllOk (signStr neg) := by
  cases neg
  · exact AllOk_nil
  · exact AllOk_cons (by decide) AllOk_nil
theorem AllOk_lit (s : Str) (h : s.all plainOk = true) : AllOk s := by
  intro c hc; exact List.all_eq_true.mp h c hc

theorem AllOk_pyStrNat (n : Nat) : AllOk (pyStrNat n) := AllOk_lit _ (pyStrNat_all plainOk digitChar_plainOk n)

theorem decCleanBody_plain (s : Str) (h : AllOk s) : decCleanBody s = some s := by
  induction s with
  | nil => rfl
  | cons c cs ih =>
    have hc := h c (by simp)
    simp only [plainOk, Bool.and_eq_true, bne_iff_ne, ne_eq, decide_eq_true_eq, Bool.not_eq_true'] at hc
    obtain ⟨⟨⟨h1, h2⟩, h3⟩, _⟩ := hc
    simp [decCleanBody, h1, h2, h3, ih (fun x hx => h x (by simp [hx]))]

theorem decClean_plain (s : Str) (h : AllOk s) : decClean s = some s := by
  unfold decClean
  rw [strip_of_no_space s, decCleanBody_plain s h]
  intro c hc
  have := h c hc
  simp only [plainOk, Bool.and_eq_true, Bool.not_eq_true'] at this
  exact this.2

theorem lower_digits (ds : List Nat) (h : ∀ d ∈ ds, d < 10) : lower (ds.map digitChar) = ds.map digitChar := by
  simp only [lower, List.map_map]
  apply List.map_congr_left
  intro d hd
  exact digitChar_lower d (h d hd)

theorem lower_append (a b : Str) : lower (a ++ b) = lower a ++ lower b := by simp [lower]

theorem lower_cons (c : Char) (cs : Str) : lower (c :: cs) = asciiLower c :: lower cs := rfl

theorem digitVal_point : digitVal '.' = none := by decide
theorem digitVal_e : digitVal 'e' = none := by decide

theorem spanDigits_digits_nil (ds : List Nat) (h : ∀ d ∈ ds, d < 10) :
    spanDigits (ds.map digitChar) = (ds, []) := by
  simpa using spanDigits_digits ds h [] rfl

theorem digitChar_not_special : ∀ d, d < 10 →
    digitChar d ≠ 'i' ∧ digitChar d ≠ 'n' ∧ digitChar d ≠ 's' := by decide

theorem decParseAscii_numeric (neg : Bool) (d0 : Nat) (hd : d0 < 10) (b : Str) :
    decParseAscii (signStr neg ++ digitChar d0 :: b) = decNumeric neg (lower (digitChar d0 :: b)) := by
  have hs := digitChar_not_sign d0 hd
  have hsp := digitChar_not_special d0 hd
  have hts : takeSign (signStr neg ++ digitChar d0 :: b) = (neg, digitChar d0 :: b) := by
    cases neg
    · simpa [signStr] using takeSign_other _ _ hs.1 hs.2
    · rfl
  unfold decParseAscii
  simp only [hts]
  rw [lower_cons, digitChar_lower d0 hd]
  have e1 : ¬ (digitChar d0 :: lower b = "inf".toList ∨ digitChar d0 :: lower b = "infinity".toList) := by
    intro h
    rcases h with h | h <;> (simp at h; exact hsp.1 h.1)
  simp only [e1, if_false]
  split
  · rename_i h; simp at h; exact absurd h.1 hsp.2.1
  · rename_i h; simp at h; exact absurd h.1 hsp.2.2
  · rfl

theorem decPayload_pyStrNat (neg sig : Bool) (p : Nat) :
    decPayload neg sig (if p = 0 then [] else pyStrNat p) = some (.nan neg sig p) := by
  unfold decPayload
  split
  · rename_i h; subst h; simp [spanDigits_nil, digitsVal_nil]
  · simp [pyStrNat, spanDigits_digits_nil _ (natDigits_lt p), natDigits_val]

theorem lower_payload (p : Nat) :
    lower (if p = 0 then [] else pyStrNat p) = (if p = 0 then [] else pyStrNat p) := by
  split
  · rfl
  · exact lower_digits _ (natDigits_lt p)

theorem decParseAscii_nan (neg sig : Bool) (p : Nat) :
    decParseAscii (decToStr (.nan neg sig p)) = some (.nan neg sig p) := by
  have hp : List.map asciiLower (if p = 0 then [] else pyStrNat p) = (if p = 0 then [] else pyStrNat p) := lower_payload p
  have hpay := decPayload_pyStrNat neg sig p
  have hl : asciiLower 'N' = 'n' ∧ asciiLower 'a' = 'a' ∧ asciiLower 's' = 's' := by decide
  rw [show decToStr (.nan neg sig p)
    = signStr neg ++ (if sig then "sNaN".toList else "NaN".toList) ++ (if p = 0 then [] else pyStrNat p) from rfl]
  generalize (if p = 0 then [] else pyStrNat p) = P at hp hpay
  cases neg <;> cases sig <;> simp [decParseAscii, signStr, takeSign, lower, hp, hpay, hl]

theorem decParseAscii_inf (neg : Bool) : decParseAscii (decToStr (.inf neg)) = some (.inf neg) := by
  cases neg <;> rfl

theorem decParseAscii_digits_head (neg : Bool) (xs : List Nat) (hxs : ∀ d ∈ xs, d < 10) (hne : xs ≠ []) (rest : Str) :
    decParseAscii (signStr neg ++ (xs.map digitChar ++ rest)) = decNumeric neg (xs.map digitChar ++ lower rest) := by
  obtain ⟨d0, xt, rfl⟩ := List.exists_cons_of_ne_nil hne
  rw [List.map_cons, List.cons_append, decParseAscii_numeric neg d0 (hxs d0 (by simp)), ← List.cons_append,
    ← List.map_cons, lower_append, lower_digits _ hxs]

theorem lower_point (ys : Str) : lower ('.' :: ys) = '.' :: lower ys := by
  rw [lower_cons, show asciiLower '.' = '.' by decide]

theorem decToStr_fin (neg : Bool) (c : Nat) (e : Int) : decToStr (.fin neg c e) =
    (if e ≤ 0 ∧ e + ((pyStrNat c).length : Int) > -6 then
      if e + ((pyStrNat c).length : Int) ≤ 0 then
        signStr neg ++ '0' :: '.' :: (List.replicate (-(e + ((pyStrNat c).length : Int))).toNat '0' ++ pyStrNat c)
      else if (e + ((pyStrNat c).length : Int)).toNat ≥ (pyStrNat c).length then
        signStr neg ++ pyStrNat c ++ List.replicate ((e + ((pyStrNat c).length : Int)).toNat - (pyStrNat c).length) '0'
      else signStr neg ++ (pyStrNat c).take (e + ((pyStrNat c).length : Int)).toNat
            ++ '.' :: (pyStrNat c).drop (e + ((pyStrNat c).length : Int)).toNat
    else
      signStr neg ++ (pyStrNat c).take 1 ++ (if 1 ≥ (pyStrNat c).length then [] else '.' :: (pyStrNat c).drop 1)
        ++ (if e + ((pyStrNat c).length : Int) = 1 then []
            else 'E' :: (if e + ((pyStrNat c).length : Int) - 1 < 0 then '-' else '+')
              :: pyStrNat (e + ((pyStrNat c).length : Int) - 1).natAbs)) := rfl

/-- what plain notation can carry -/
def Dec.renorm : Dec → Dec
  | .fin neg c e => if e > 0 then .fin neg (c * 10 ^ e.toNat) 0 else .fin neg c e
  | d => d

theorem Dec.renorm_of_nonpos (neg : Bool) (c : Nat) (e : Int) (h : e ≤ 0) :
    Dec.renorm (.fin neg c e) = .fin neg c e := by
  simp [Dec.renorm]; omega

theorem decFormatF_fin (neg : Bool) (c : Nat) (e : Int) : decFormatF (.fin neg c e) =
    (if e ≥ 0 then
      if c = 0 then signStr neg ++ ['0'] else signStr neg ++ (pyStrNat c ++ List.replicate e.toNat '0')
    else
      if e + ((pyStrNat c).length : Int) ≤ 0 then
        signStr neg ++ '0' :: '.' :: (List.replicate (-(e + ((pyStrNat c).length : Int))).toNat '0' ++ pyStrNat c)
      else signStr neg ++ ((pyStrNat c).take (e + ((pyStrNat c).length : Int)).toNat
            ++ '.' :: (pyStrNat c).drop (e + ((pyStrNat c).length : Int)).toNat)) := rfl

theorem decFormatF_shape (neg : Bool) (c : Nat) (e : Int) :
    ∃ ip fp : List Nat, ip ≠ [] ∧ (∀ d ∈ ip, d < 10) ∧ (∀ d ∈ fp, d < 10) ∧ fp.length = (-e).toNat
      ∧ digitsVal (ip ++ fp) = c * 10 ^ e.toNat
      ∧ decFormatF (.fin neg c e)
          = signStr neg ++ (ip.map digitChar ++ if fp = [] then [] else '.' :: fp.map digitChar) := by
  rw [decFormatF_fin]
  have hds := natDigits_lt c
  have hne := natDigits_ne_nil c
  have hval := natDigits_val c
  rw [show pyStrNat c = (natDigits c).map digitChar from rfl, List.length_map]
  generalize natDigits c = ds at *
  have h0 : ∀ k, List.replicate k '0' = (List.replicate k 0).map digitChar := fun k => by
    rw [List.map_replicate]; rfl
  have hz : ∀ k, ∀ d ∈ List.replicate k 0, d < 10 := fun k d hd => by
    rw [(List.mem_replicate.mp hd).2]; decide
  have happ : ∀ xs ys : List Nat, (∀ d ∈ xs, d < 10) → (∀ d ∈ ys, d < 10) → ∀ d ∈ xs ++ ys, d < 10 :=
    fun xs ys hx hy d hd => (List.mem_append.mp hd).elim (hx d) (hy d)
  split
  · rename_i he
    have he' : (-e).toNat = 0 := by omega
    split
    · rename_i hc
      subst hc
      exact ⟨[0], [], List.cons_ne_nil _ _, hz 1, fun _ h => absurd h List.not_mem_nil, he'.symm, by rw [Nat.zero_mul]; rfl, rfl⟩
    · refine ⟨ds ++ List.replicate e.toNat 0, [], fun h => hne (List.append_eq_nil_iff.mp h).1, happ _ _ hds (hz _),
        fun _ h => absurd h List.not_mem_nil, he'.symm, ?_, ?_⟩
      · rw [List.append_nil, digitsVal_append, hval, digitsVal_replicate_zero', List.length_replicate, Nat.add_zero]
      · rw [h0, List.map_append, if_pos rfl, List.append_nil]
  · rename_i he
    have he' : e.toNat = 0 := by omega
    rw [he', Nat.pow_zero, Nat.mul_one]
    generalize hL : e + (ds.length : Int) = left
    split
    · -- 0.000ddd
      refine ⟨[0], List.replicate (-left).toNat 0 ++ ds, List.cons_ne_nil _ _, hz 1, happ _ _ (hz _) hds, ?_, ?_, ?_⟩
      · rw [List.length_append, List.length_replicate]; omega
      · exact (digitsVal_replicate_zero ((-left).toNat + 1) ds).trans hval
      · rw [if_neg (fun h => hne (List.append_eq_nil_iff.mp h).2), h0, List.map_append]; rfl
    · -- dd.ddd
      have hdl : (ds.drop left.toNat).length = ds.length - left.toNat := List.length_drop
      have htl : (ds.take left.toNat).length = min left.toNat ds.length := List.length_take
      refine ⟨ds.take left.toNat, ds.drop left.toNat, ?_, fun d h => hds d (List.mem_of_mem_take h),
        fun d h => hds d (List.mem_of_mem_drop h), by omega, by rw [List.take_append_drop, hval], ?_⟩
      · intro h; rw [h] at htl; simp only [List.length_nil] at htl; omega
      · rw [if_neg (by intro h; rw [h] at hdl; simp only [List.length_nil] at hdl; omega), List.map_take, List.map_drop]

theorem ite_neg_natAbs (z : Int) : (if decide (z < 0) then -(z.natAbs : Int) else z.natAbs) = z := by
  by_cases h : z < 0
  · rw [if_pos (by simpa using h)]; omega
  · rw [if_neg (by simpa using h)]; omega

/-- the exponent part of `str(d)` -/
def expText (x : Int) : Str :=
  if x = 0 then [] else 'E' :: (if x < 0 then '-' else '+') :: pyStrNat x.natAbs

/-- `Decimal(text)` on sign, digits, optional point and digits, optional exponent: the shape of every text `str(d)`
    (`decToStr_sci`) and `format(d, "f")` (`decFormatF_shape`, `x = 0`) write for a finite `d` -/
theorem decParseAscii_num (neg : Bool) (ip fp : List Nat) (hip : ∀ d ∈ ip, d < 10) (hfp : ∀ d ∈ fp, d < 10)
    (hne : ip ≠ []) (x : Int) :
    decParseAscii (signStr neg ++ (ip.map digitChar ++ if fp = [] then [] else '.' :: fp.map digitChar) ++ expText x)
      = some (.fin neg (digitsVal (ip ++ fp)) (x - (fp.length : Int))) := by
  -- the exponent as `decNumeric` meets it: in lower case, its digits as a list
  obtain ⟨ex, hex, hval⟩ : ∃ ex : Str, lower (expText x) = ex ∧ ((ex = [] ∧ x = 0) ∨
      ∃ (sg : Bool) (ed : List Nat), ed ≠ [] ∧ (∀ d ∈ ed, d < 10) ∧ ex = 'e' :: (if sg then '-' else '+') :: ed.map digitChar
        ∧ x = if sg then -(digitsVal ed : Int) else digitsVal ed) := by
    unfold expText
    by_cases hx : x = 0
    · exact ⟨[], by rw [if_pos hx]; rfl, Or.inl ⟨rfl, hx⟩⟩
    · refine ⟨_, rfl, Or.inr ⟨decide (x < 0), natDigits x.natAbs, natDigits_ne_nil _, natDigits_lt _, ?_, ?_⟩⟩
      · rw [if_neg hx]
        rw [lower_cons, lower_cons, pyStrNat, lower_digits _ (natDigits_lt x.natAbs)]
        by_cases h : x < 0 <;> simp only [h, decide_true, decide_false, if_true, if_false] <;> rfl
      · rw [natDigits_val]; exact (ite_neg_natAbs x).symm
  rw [List.append_assoc, List.append_assoc, decParseAscii_digits_head neg ip hip hne, lower_append, hex]
  -- the digit scan stops in front of it
  have hstop : spanDigits ex = ([], ex) := by
    rcases hval with ⟨rfl, _⟩ | ⟨sg, ed, _, _, rfl, _⟩
    · rfl
    · exact spanDigits_nondigit _ _ digitVal_e
  unfold decNumeric
  by_cases hf : fp = []
  · subst hf
    rw [if_pos rfl, show lower ([] : Str) = [] from rfl, List.nil_append, spanDigits_digits ip hip ex hstop]
    rcases hval with ⟨rfl, rfl⟩ | ⟨sg, ed, hed, hd, rfl, rfl⟩
    · simp [hne]
    · cases sg <;> simp [takeSign, spanDigits_digits_nil ed hd, hne, hed]
  · rw [if_neg hf, lower_point, lower_digits fp hfp, List.cons_append,
      spanDigits_digits ip hip _ (spanDigits_nondigit _ _ digitVal_point)]
    simp only [spanDigits_digits fp hfp ex hstop]
    rcases hval with ⟨rfl, rfl⟩ | ⟨sg, ed, hed, hd, rfl, rfl⟩
    · simp [hne]
    · cases sg <;> simp [takeSign, spanDigits_digits_nil ed hd, hne, hed]

theorem decParseAscii_formatF_exp (neg : Bool) (c : Nat) (e x : Int) :
    decParseAscii (decFormatF (.fin neg c e) ++ expText x)
      = some (.fin neg (c * 10 ^ e.toNat) (x - ((-e).toNat : Int))) := by
  obtain ⟨ip, fp, hne, hip, hfp, hl, hv, ht⟩ := decFormatF_shape neg c e
  rw [ht, decParseAscii_num neg ip fp hip hfp hne x, hv, hl]

theorem decParseAscii_formatF (neg : Bool) (c : Nat) (e : Int) :
    decParseAscii (decFormatF (.fin neg c e)) = some (Dec.renorm (.fin neg c e)) := by
  have := decParseAscii_formatF_exp neg c e 0
  rw [show expText 0 = [] from rfl, List.append_nil] at this
  rw [this, Dec.renorm]
  split
  · rw [show (-e).toNat = 0 by omega]; rfl
  · rw [show e.toNat = 0 by omega, show (0 : Int) - (((-e).toNat : Nat) : Int) = e by omega, Nat.pow_zero, Nat.mul_one]

theorem Types.decFormatF_ne_nil (neg : Bool) (c : Nat) (e : Int) : decFormatF (.fin neg c e) ≠ [] := by
  intro h
  have := decParseAscii_formatF neg c e
  rw [h] at this
  exact absurd this (by rw [show decParseAscii [] = none from rfl]; simp)

theorem decFormatF_all (q : Char → Bool) (hq : ∀ d, d < 10 → q (digitChar d) = true) (hlit : (q '-' && q '.') = true)
    (neg : Bool) (c : Nat) (e : Int) : (decFormatF (.fin neg c e)).all q = true := by
  obtain ⟨ip, fp, _, hip, hfp, _, _, ht⟩ := decFormatF_shape neg c e
  have hd : ∀ ds : List Nat, (∀ d ∈ ds, d < 10) → (ds.map digitChar).all q = true := fun ds h => by
    rw [List.all_map, List.all_eq_true]; exact fun d hd => hq d (h d hd)
  rw [Bool.and_eq_true] at hlit
  rw [ht, List.all_append, List.all_append, hd ip hip]
  cases neg <;> by_cases h : fp = [] <;> simp [signStr, h, hd fp hfp, hlit]

theorem decFormatF_AllOk (neg : Bool) (c : Nat) (e : Int) : AllOk (decFormatF (.fin neg c e)) :=
  AllOk_lit _ (decFormatF_all plainOk digitChar_plainOk (by decide) neg c e)

/-- `Decimal(format(d, "f"))` is `d`, rescaled to exponent 0 when the exponent is positive -/
theorem decParse_decFormatF (neg : Bool) (c : Nat) (e : Int) :
    decParse (decFormatF (.fin neg c e)) = some (Dec.renorm (.fin neg c e)) := by
  unfold decParse
  rw [decClean_plain _ (decFormatF_AllOk neg c e)]
  exact decParseAscii_formatF neg c e

theorem pyStrNat_zero : pyStrNat 0 = ['0'] := by decide

theorem decToStr_plain (neg : Bool) (c : Nat) (e : Int) (h : e ≤ 0 ∧ e + ((pyStrNat c).length : Int) > -6) :
    decToStr (.fin neg c e) = decFormatF (.fin neg c e) := by
  rw [decToStr_fin, decFormatF_fin, if_pos h]
  by_cases he : e = 0
  · subst he
    have hl : 0 < (pyStrNat c).length := List.length_pos_iff.mpr (pyStrNat_ne_nil c)
    have h1 : ¬ ((0 : Int) + ((pyStrNat c).length : Int) ≤ 0) := by omega
    have h2 : ((0 : Int) + ((pyStrNat c).length : Int)).toNat ≥ (pyStrNat c).length := by omega
    have h3 : ((0 : Int) + ((pyStrNat c).length : Int)).toNat - (pyStrNat c).length = 0 := by omega
    rw [if_neg h1, if_pos h2, h3, if_pos (Int.le_refl 0)]
    by_cases hc : c = 0
    · subst hc; simp [pyStrNat_zero]
    · simp [hc]
  · have hneg : ¬ e ≥ 0 := by omega
    rw [if_neg hneg]
    split
    · rfl
    · rename_i h1
      have h2 : ¬ (e + ((pyStrNat c).length : Int)).toNat ≥ (pyStrNat c).length := by omega
      rw [if_neg h2, List.append_assoc]

/-- outside the plain branch `str(d)` is `format(d', "f")` followed by the exponent, `d'` being `d` rescaled so that one
    digit stands before the point -/
theorem decToStr_sci (neg : Bool) (c : Nat) (e : Int) (h : ¬ (e ≤ 0 ∧ e + ((pyStrNat c).length : Int) > -6)) :
    decToStr (.fin neg c e)
      = decFormatF (.fin neg c (1 - ((pyStrNat c).length : Int))) ++ expText (e + ((pyStrNat c).length : Int) - 1) := by
  have hl : 0 < (pyStrNat c).length := List.length_pos_iff.mpr (pyStrNat_ne_nil c)
  rw [decToStr_fin, if_neg h, decFormatF_fin, expText]
  congr 1
  · by_cases h1 : 1 ≥ (pyStrNat c).length
    · rw [if_pos h1, if_pos (by omega), show (1 - ((pyStrNat c).length : Int)).toNat = 0 by omega,
        List.take_of_length_le h1]
      by_cases hc : c = 0
      · subst hc; simp [pyStrNat_zero]
      · simp [hc]
    · rw [if_neg h1, if_neg (by omega), show 1 - ((pyStrNat c).length : Int) + ((pyStrNat c).length : Int) = 1 by omega,
        if_neg (by decide), List.append_assoc]
      rfl
  · by_cases h1 : e + ((pyStrNat c).length : Int) = 1
    · rw [if_pos h1, if_pos (by omega)]
    · rw [if_neg h1, if_neg (show ¬ e + ((pyStrNat c).length : Int) - 1 = 0 by omega)]

theorem AllOk_expText (x : Int) : AllOk (expText x) := by
  unfold expText
  split
  · exact AllOk_nil
  · exact AllOk_cons (by decide) (AllOk_cons (by split <;> decide) (AllOk_pyStrNat _))

theorem decToStr_AllOk (d : Dec) : AllOk (decToStr d) := by
  cases d with
  | inf neg => exact AllOk_append (AllOk_signStr neg) (AllOk_lit _ (by decide))
  | nan neg sig p =>
    unfold decToStr
    refine AllOk_append (AllOk_append (AllOk_signStr neg) ?_) ?_
    · cases sig
      · exact AllOk_lit _ (by decide)
      · exact AllOk_lit _ (by decide)
    · split
      · exact AllOk_nil
      · exact AllOk_pyStrNat p
  | fin neg c e =>
    by_cases hA : e ≤ 0 ∧ e + ((pyStrNat c).length : Int) > -6
    · rw [decToStr_plain neg c e hA]
      exact decFormatF_AllOk neg c e
    · rw [decToStr_sci neg c e hA]
      exact AllOk_append (decFormatF_AllOk neg c _) (AllOk_expText _)

theorem decClean_decToStr (d : Dec) : decClean (decToStr d) = some (decToStr d) :=
  decClean_plain _ (decToStr_AllOk d)

theorem decParseAscii_fin (neg : Bool) (c : Nat) (e : Int) :
    decParseAscii (decToStr (.fin neg c e)) = some (.fin neg c e) := by
  by_cases hA : e ≤ 0 ∧ e + ((pyStrNat c).length : Int) > -6
  · rw [decToStr_plain neg c e hA, decParseAscii_formatF, Dec.renorm_of_nonpos neg c e hA.1]
  · have hl : 0 < (pyStrNat c).length := List.length_pos_iff.mpr (pyStrNat_ne_nil c)
    rw [decToStr_sci neg c e hA, decParseAscii_formatF_exp, show (1 - ((pyStrNat c).length : Int)).toNat = 0 by omega,
      Nat.pow_zero, Nat.mul_one]
    congr 2
    omega

/-- `Decimal(str(d))` is `d`: same sign, coefficient and exponent, same NaN kind and payload -/
theorem decParse_decToStr (d : Dec) : decParse (decToStr d) = some d := by
  unfold decParse
  rw [decClean_decToStr]
  cases d with
  | fin neg c e => exact decParseAscii_fin neg c e
  | inf neg => exact decParseAscii_inf neg
  | nan neg sig p => exact decParseAscii_nan neg sig p

theorem sameQuantum_iff (d : Dec) (qe : Int) : sameQuantum d qe = true ↔ ∃ n c, d = .fin n c qe := by
  cases d with
  | fin n c e => simp [sameQuantum]
  | inf n => simp [sameQuantum]
  | nan n s p => simp [sameQuantum]

theorem quantize_self (n : Bool) (c : Nat) (qe : Int) (h : fitsPrec c = true) :
    quantize (.fin n c qe) qe = .ok (.fin n c qe) := by
  unfold quantize
  by_cases hc : c = 0
  · subst hc; simp
  · have hp : ndigits c ≤ defaultPrec := by simpa [fitsPrec, hc] using h
    have h1 : ¬ (qe + (ndigits c : Int) - qe > (defaultPrec : Int)) := by omega
    simp [hc, h1]
    omega

theorem quantize_ok (d d' : Dec) (qe : Int) (h : quantize d qe = .ok d') :
    (∃ n c, d' = .fin n c qe ∧ fitsPrec c = true ∧ d.isFinite = true) ∨
    (∃ n p p', d = .nan n false p ∧ d' = .nan n false p') := by
  unfold quantize at h
  cases d with
  | inf n => simp at h
  | nan n s p =>
    cases s
    · simp at h; exact Or.inr ⟨n, p, _, rfl, h.symm⟩
    · simp at h
  | fin n c e =>
    simp only [] at h
    split at h
    · injection h with h; exact Or.inl ⟨n, 0, h.symm, by simp [fitsPrec], rfl⟩
    · split at h
      · simp at h
      · generalize (if e ≥ qe then c * 10 ^ (e - qe).toNat else roundHalfEven c (qe - e).toNat) = c' at h
        split at h
        · simp at h
        · rename_i hp
          injection h with h
          refine Or.inl ⟨n, c', h.symm, ?_, rfl⟩
          simp [fitsPrec]; right; omega

end Ofx
