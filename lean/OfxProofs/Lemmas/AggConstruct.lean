/-
Inversion lemmas for the constructor (`construct` = `Cls(*args, **kwargs)`): a call that returned went through
`validate_args`, the `setattr` loop, `_apply_args` and the residual-keyword check.  `FieldsMatch` is what the
`setattr` loop leaves in the instance dict: one value per supported non-repeated attribute, in spec order.
-/
import OfxProofs.Lemmas.Agg

namespace Ofx.Agg
open Ofx
open Ofx.Spec (isElemKind)

theorem mem_specNoList {c : Cls} {a : Attr} : a ∈ specNoList c ↔ a ∈ c.spec ∧ a.kind.isList = false := by
  simp [specNoList]

theorem specNoList_nodup (c : Cls) (h : (c.spec.map (·.name)).Nodup) :
    ((specNoList c).map (·.name)).Nodup := by
  unfold specNoList
  exact List.Nodup.sublist (List.Sublist.map _ List.filter_sublist) h

inductive FieldsMatch (P : Attr → Node → Prop) : List Attr → List (Str × Node) → Prop
  | nil : FieldsMatch P [] []
  | unsup (a : Attr) (L : List Attr) (fs : List (Str × Node)) :
      a.kind.isUnsupported = true → FieldsMatch P L fs → FieldsMatch P (a :: L) fs
  | field (a : Attr) (v : Node) (L : List Attr) (fs : List (Str × Node)) :
      a.kind.isUnsupported = false → P a v → FieldsMatch P L fs →
      FieldsMatch P (a :: L) ((a.name, v) :: fs)

theorem FieldsMatch.imp {P Q : Attr → Node → Prop} {L : List Attr} {fs : List (Str × Node)}
    (h : FieldsMatch P L fs) (hpq : ∀ a ∈ L, ∀ v, P a v → Q a v) : FieldsMatch Q L fs := by
  induction h with
  | nil => exact .nil
  | unsup b L fs hb _ ih => exact .unsup b L fs hb (ih (fun a ha => hpq a (by simp [ha])))
  | field b v L fs hb hp _ ih =>
    exact .field b v L fs hb (hpq b (by simp) v hp) (ih (fun a ha => hpq a (by simp [ha])))

theorem FieldsMatch.withLookup {P : Attr → Node → Prop} {L : List Attr} {fs : List (Str × Node)}
    (h : FieldsMatch P L fs) (hnd : (L.map (·.name)).Nodup) :
    FieldsMatch (fun a v => P a v ∧ a.kind.isUnsupported = false ∧ Agg.lookup a.name fs = some v) L fs := by
  induction h with
  | nil => exact .nil
  | unsup b L fs hb _ ih =>
    simp only [List.map_cons, List.nodup_cons] at hnd
    exact .unsup b L fs hb (ih hnd.2)
  | field b v L fs hb hp _ ih =>
    simp only [List.map_cons, List.nodup_cons] at hnd
    refine .field b v L fs hb ⟨hp, hb, by simp [Agg.lookup]⟩ ((ih hnd.2).imp ?_)
    intro a ha w ⟨hpw, hua, hlw⟩
    have hne : b.name ≠ a.name := by
      intro heq; exact hnd.1 (by rw [heq]; exact List.mem_map_of_mem ha)
    exact ⟨hpw, hua, by simp [Agg.lookup, hne, hlw]⟩

theorem FieldsMatch.lookup {P : Attr → Node → Prop} {L : List Attr} {fs : List (Str × Node)}
    (h : FieldsMatch P L fs) (hnd : (L.map (·.name)).Nodup) :
    ∀ a ∈ L, a.kind.isUnsupported = false → ∃ v, Agg.lookup a.name fs = some v ∧ P a v := by
  induction h with
  | nil => intro a ha; simp at ha
  | unsup b L fs hb _ ih =>
    intro a ha hu
    simp only [List.map_cons, List.nodup_cons] at hnd
    simp only [List.mem_cons] at ha
    rcases ha with rfl | ha
    · simp [hb] at hu
    · exact ih hnd.2 a ha hu
  | field b v L fs hb hfo hm ih =>
    intro a ha hu
    simp only [List.map_cons, List.nodup_cons] at hnd
    simp only [List.mem_cons] at ha
    rcases ha with rfl | ha
    · exact ⟨v, by simp [Agg.lookup], hfo⟩
    · have hne : b.name ≠ a.name := by
        intro heq
        exact hnd.1 (by rw [heq]; exact List.mem_map_of_mem ha)
      obtain ⟨w, hw, hfw⟩ := ih hnd.2 a ha hu
      exact ⟨w, by simp [Agg.lookup, hne, hw], hfw⟩

theorem FieldsMatch.mem {P : Attr → Node → Prop} {L : List Attr} {fs : List (Str × Node)}
    (h : FieldsMatch P L fs) : ∀ n w, (n, w) ∈ fs → ∃ a ∈ L, a.name = n ∧ a.kind.isUnsupported = false ∧ P a w := by
  induction h with
  | nil => intro n w hm; simp at hm
  | unsup b L fs hb _ ih =>
    intro n w hm
    obtain ⟨a, ha, h1⟩ := ih n w hm
    exact ⟨a, by simp [ha], h1⟩
  | field b v L fs hb hp _ ih =>
    intro n w hm
    simp only [List.mem_cons, Prod.mk.injEq] at hm
    rcases hm with ⟨rfl, rfl⟩ | hm
    · exact ⟨b, by simp, rfl, hb, hp⟩
    · obtain ⟨a, ha, h1⟩ := ih n w hm
      exact ⟨a, by simp [ha], h1⟩

theorem fieldsMatch_keys_sublist {P : Attr → Node → Prop} {L : List Attr} {fs : List (Str × Node)}
    (h : FieldsMatch P L fs) : (fs.map (·.1)).Sublist (L.map (·.name)) := by
  induction h with
  | nil => exact List.Sublist.slnil
  | unsup b L fs _ _ ih => exact List.Sublist.cons _ ih
  | field b v L fs _ _ _ ih => exact List.Sublist.cons_cons _ ih

section
variable (S : Schema)

theorem applyArg_ok (c : Cls) (cj : Nat) (f : List (Str × Node)) (i : List Node) (cjc : Cls)
    (hcj : S.cls? cj = some cjc) (hin : (listAggNames c).contains (lower cjc.name) = true) :
    applyArg S c (.agg cj f i) = .ok (.agg cj f i) := by
  have hn : argClassName S (.agg cj f i) = cjc.name := by
    show clsName S cj = cjc.name
    unfold clsName; rw [hcj]
  show (if (listAggNames c).contains (lower (argClassName S (.agg cj f i))) then _ else _) = _
  rw [hn, hin]
  rfl

theorem applyArg_eq_ok {c : Cls} {m m' : Node} (h : applyArg S c m = .ok m') :
    m' = m ∧ (listAggNames c).contains (lower (argClassName S m)) = true := by
  cases m with
  | val v => cases h
  | agg ci f i =>
    simp only [applyArg] at h
    split at h
    · injection h with h; exact ⟨h.symm, ‹_›⟩
    · cases h

theorem mapM_applyArg_same (c : Cls) (args items : List Node) (h : args.mapM (applyArg S c) = .ok items) :
    items = args ∧ ∀ m ∈ args, applyArg S c m = .ok m := by
  refine ⟨by simpa using PyM.mapM_eq_map (k := id) (fun m m' hm => (applyArg_eq_ok S hm).1) h, fun m hm => ?_⟩
  obtain ⟨y, _, hy⟩ := PyM.mapM_mem_left h hm
  rw [hy, (applyArg_eq_ok S hy).1]

end

theorem construct_ok_iff (S : Schema) (cv : Conv) (ci : Nat) (args : List Node) (kw : List (Str × Node))
    (n : Node) :
    construct S cv ci args kw = .ok n ↔
      ∃ c fields items, S.cls? ci = some c ∧ validateArgs S c args kw = .ok () ∧
        setAttrs S cv (specNoList c) kw = .ok fields ∧ applyArgs S cv c args = .ok items ∧
        applyResidual c kw = .ok () ∧ n = .agg ci fields items := by
  constructor
  · intro h
    unfold construct at h
    split at h
    · cases h
    · rename_i c hc
      obtain ⟨_, hv, h⟩ := PyM.bind_ok h
      obtain ⟨fields, hs, h⟩ := PyM.bind_ok h
      obtain ⟨items, ha, h⟩ := PyM.bind_ok h
      obtain ⟨_, hr, h⟩ := PyM.bind_ok h
      injection h with h
      exact ⟨c, fields, items, hc, hv, hs, ha, hr, h.symm⟩
  · rintro ⟨c, fields, items, hc, hv, hs, ha, hr, rfl⟩
    simp only [construct, hc, hv, hs, ha, hr]
    rfl

theorem construct_ok_cls {S : Schema} {cv : Conv} {ci : Nat} {c : Cls} {args : List Node} {kw : List (Str × Node)}
    {n : Node} (hc : S.cls? ci = some c) (h : construct S cv ci args kw = .ok n) :
    ∃ fields items, validateArgs S c args kw = .ok () ∧ setAttrs S cv (specNoList c) kw = .ok fields ∧
      applyArgs S cv c args = .ok items ∧ applyResidual c kw = .ok () ∧ n = .agg ci fields items := by
  obtain ⟨c', fields, items, hc', h⟩ := (construct_ok_iff S cv ci args kw n).mp h
  rw [hc] at hc'; injection hc' with hc'; subst hc'
  exact ⟨fields, items, h⟩

theorem applyArgs_plain {S : Schema} {cv : Conv} {c : Cls} (args : List Node) (hel : c.elementList = false) :
    applyArgs S cv c args = args.mapM (applyArg S c) := by
  simp only [applyArgs, hel, Bool.false_eq_true, if_false]

theorem applyArgs_el {S : Schema} {cv : Conv} {c : Cls} {a : Attr} {inner : Kind} {ireq : Bool} (args : List Node)
    (hel : c.elementList = true) (hfilt : c.spec.filter (fun a => a.kind.isListElem) = [a])
    (hk : a.kind = .listElem inner ireq) :
    applyArgs S cv c args = args.mapM (fun m => (cv.convert S.enums inner ireq (Node.toVal m)).map Node.val) := by
  simp only [applyArgs, hel, if_true, hfilt, hk]

theorem applyArgs_ok {S : Schema} {cv : Conv} {c : Cls} {args items : List Node}
    (h : applyArgs S cv c args = .ok items) :
    items.length = args.length ∧
    (c.elementList = false → items = args ∧
      ∀ m ∈ items, ∃ cj f i, m = .agg cj f i ∧ (listAggNames c).contains (lower (clsName S cj)) = true) ∧
    (c.elementList = true → ∃ a inner ireq, c.spec.filter (fun a => a.kind.isListElem) = [a] ∧
      a.kind = .listElem inner ireq ∧
      ∀ m ∈ items, ∃ r ∈ args, ∃ x, cv.convert S.enums inner ireq (Node.toVal r) = .ok x ∧ m = .val x) := by
  unfold applyArgs at h
  split at h
  · rename_i hel
    split at h
    · rename_i a hfilt
      split at h
      · rename_i inner ireq hk
        refine ⟨PyM.mapM_length h, fun hf => (by rw [hel] at hf; cases hf),
          fun _ => ⟨a, inner, ireq, hfilt, hk, fun m hm => ?_⟩⟩
        obtain ⟨r, hr, hm⟩ := PyM.mapM_mem_right h hm
        obtain ⟨x, hx, rfl⟩ := PyM.map_ok hm
        exact ⟨r, hr, x, hx, rfl⟩
      · cases h
    · cases h
  · rename_i hel
    obtain ⟨rfl, happ⟩ := mapM_applyArg_same S c args items h
    refine ⟨rfl, fun _ => ⟨rfl, fun m hm => ?_⟩, fun hf => absurd hf hel⟩
    have hcon := (applyArg_eq_ok S (happ m hm)).2
    cases m with
    | val _ => cases happ _ hm
    | agg cj f i => exact ⟨cj, f, i, rfl, hcon⟩

theorem setAttrs_cons_ok {S : Schema} {cv : Conv} {kw : List (Str × Node)} {b : Attr} {L : List Attr}
    {fields : List (Str × Node)} (h : setAttrs S cv (b :: L) kw = .ok fields) :
    ∃ o more, setAttr S cv b ((lookup b.name kw).getD (.val .none)) = .ok o ∧ setAttrs S cv L kw = .ok more ∧
      fields = (match o with | none => more | some v => (b.name, v) :: more) := by
  simp only [setAttrs] at h
  obtain ⟨o, hb, h⟩ := PyM.bind_ok h
  obtain ⟨more, hm, h⟩ := PyM.bind_ok h
  refine ⟨o, more, hb, hm, ?_⟩
  cases o <;> (injection h with h; exact h.symm)

theorem setAttrs_ok_each (S : Schema) (cv : Conv) (kw : List (Str × Node)) :
    ∀ (L : List Attr) (fields : List (Str × Node)), setAttrs S cv L kw = .ok fields →
    ∀ a ∈ L, ∃ o, setAttr S cv a ((lookup a.name kw).getD (.val .none)) = .ok o
  | [], _, _, a, ha => by simp at ha
  | b :: L, fields, h, a, ha => by
    obtain ⟨o, more, hb, hm, _⟩ := setAttrs_cons_ok h
    rcases List.mem_cons.mp ha with rfl | ha
    · exact ⟨o, hb⟩
    · exact setAttrs_ok_each S cv kw L more hm a ha

theorem enforceCount_ok (kw : List (Str × Node)) (groups : List (List Str)) (pred : Nat → Bool)
    (h : enforceCount kw groups pred = .ok ()) : ∀ g ∈ groups, pred (mutexCount kw g) = true := by
  unfold enforceCount at h
  split at h
  · rename_i hall; exact fun g hg => (List.all_eq_true.mp hall) g hg
  · cases h

theorem validate_ok (S : Schema) (c : Cls) (args : List Node) (kw : List (Str × Node))
    (h : validateArgs S c args kw = .ok ()) :
    extraRule S c.extra args kw = .ok () ∧ (∀ g ∈ c.optMutex, mutexCount kw g ≤ 1) ∧
      (∀ g ∈ c.reqMutex, mutexCount kw g = 1) := by
  unfold validateArgs at h
  obtain ⟨_, hx, h⟩ := PyM.bind_ok h
  obtain ⟨_, ho, h⟩ := PyM.bind_ok h
  refine ⟨hx, ?_, ?_⟩
  · intro g hg; simpa using enforceCount_ok kw _ _ ho g hg
  · intro g hg; simpa using enforceCount_ok kw _ _ h g hg

theorem setAttr_none_unsupported (S : Schema) (cv : Conv) (a : Attr) (w : Node) (hl : a.kind.isList = false)
    (h : setAttr S cv a w = .ok none) : a.kind.isUnsupported = true :=
  (setAttr_ok_none h).resolve_left (by rw [hl]; exact Bool.false_ne_true)

theorem setAttr_some_supported (S : Schema) (cv : Conv) (a : Attr) (w v : Node)
    (h : setAttr S cv a w = .ok (some v)) : a.kind.isUnsupported = false := by
  rcases setAttr_ok_some h with ⟨t, hk, _⟩ | ⟨_, hu, _⟩
  · rw [hk]; rfl
  · exact hu

theorem setAttrs_fieldsMatch (S : Schema) (cv : Conv) (kw : List (Str × Node)) :
    ∀ (L : List Attr) (fields : List (Str × Node)), (∀ a ∈ L, a.kind.isList = false) →
    setAttrs S cv L kw = .ok fields →
    FieldsMatch (fun a v => setAttr S cv a ((lookup a.name kw).getD (.val .none)) = .ok (some v)) L fields
  | [], fields, _, h => by injection h with h; subst h; exact .nil
  | b :: L, fields, hl, h => by
    obtain ⟨o, more, hb, hm, rfl⟩ := setAttrs_cons_ok h
    have ih := setAttrs_fieldsMatch S cv kw L more (fun a ha => hl a (by simp [ha])) hm
    cases o with
    | none => exact .unsup b L more (setAttr_none_unsupported S cv b _ (hl b (by simp)) hb) ih
    | some v => exact .field b v L more (setAttr_some_supported S cv b _ v hb) hb ih

theorem setAttrs_specNoList_fieldsMatch {S : Schema} {cv : Conv} {c : Cls} {kw fields : List (Str × Node)}
    (h : setAttrs S cv (specNoList c) kw = .ok fields) :
    FieldsMatch (fun a v => setAttr S cv a ((lookup a.name kw).getD (.val .none)) = .ok (some v))
      (specNoList c) fields :=
  setAttrs_fieldsMatch S cv kw _ fields (fun _ ha => (mem_specNoList.mp ha).2) h

theorem isElemKind_of {k : Kind} (hl : k.isList = false) (hu : k.isUnsupported = false) (hs : ∀ t, k ≠ .sub t) :
    isElemKind k = true := by
  cases k <;> first | rfl | exact absurd rfl (hs _) | exact Bool.noConfusion hl | exact Bool.noConfusion hu

theorem setAttr_stored {S : Schema} {cv : Conv} {a : Attr} {raw w : Node} (h : setAttr S cv a raw = .ok (some w)) :
    (∃ t, a.kind = .sub t ∧ w = raw ∧ (raw = .val .none ∨ ∃ ck f i, raw = .agg ck f i)) ∨
    (isElemKind a.kind = true ∧ ∃ v, cv.convert S.enums a.kind a.required (Node.toVal raw) = .ok v ∧ w = .val v) := by
  rcases setAttr_ok_some h with ⟨t, hk, hc⟩ | ⟨hl, hu, hs, v, hv, rfl⟩
  · obtain ⟨rfl, h0 | ⟨ck, f, i, he, _⟩⟩ := convertSub_ok hc
    · exact Or.inl ⟨t, hk, rfl, Or.inl h0.1⟩
    · exact Or.inl ⟨t, hk, rfl, Or.inr ⟨ck, f, i, he⟩⟩
  · exact Or.inr ⟨isElemKind_of hl hu hs, v, hv, rfl⟩

end Ofx.Agg
