/-
Header-layer facts needed by the end-to-end pipeline theorem (`readFile (writeFile …)`):
round trip with trailing whitespace, `make_header` yields a valid object, UTF-8 encoding is total and splits,
header texts are ASCII.
-/
import OfxProofs.Props.C12

namespace Ofx.Header
open Ofx Ofx.Codec Ofx.Spec.HeaderLayout
attribute [-simp] String.reduceToList

theorem encode_append (tbl : List (Option Nat)) (cs : Name) (a b : Str) (x y : Bytes)
    (ha : encode tbl cs a = .ok x) (hb : encode tbl cs b = .ok y) : encode tbl cs (a ++ b) = .ok (x ++ y) := by
  induction a generalizing x with
  | nil =>
    simp [encode] at ha
    subst ha
    simpa using hb
  | cons c cs' ih =>
    unfold encode at ha
    split at ha
    · rename_i cb hc
      obtain ⟨rb, hr, ha⟩ := PyM.bind_ok ha
      cases ha
      rw [List.cons_append, encode, hc]
      simp [ih rb hr]
    · cases ha

theorem encodeCharUtf8_isSome (c : Char) : ∃ bs, encodeCharUtf8 c = some bs := by
  unfold encodeCharUtf8
  simp only
  split
  · exact ⟨_, rfl⟩
  · split
    · exact ⟨_, rfl⟩
    · split <;> exact ⟨_, rfl⟩

theorem encode_utf8_total (tbl : List (Option Nat)) (s : Str) : ∃ bs, encode tbl .utf8 s = .ok bs := by
  induction s with
  | nil => exact ⟨[], rfl⟩
  | cons c cs ih =>
    obtain ⟨rb, hr⟩ := ih
    obtain ⟨cb, hc⟩ := encodeCharUtf8_isSome c
    refine ⟨cb ++ rb, ?_⟩
    rw [encode]
    simp only [encodeChar, hc, hr, PyM.ok_bind, PyM.pure_eq]

theorem encode_utf8_ascii (tbl : List (Option Nat)) (s : Str) (hs : isAscii s) :
    encode tbl .utf8 s = .ok (asciiBytes s) := encode_ascii tbl .utf8 s hs

theorem strV1_ascii (p : V1P) (h : V1) (hv : ValidV1 p h) : isAscii (strV1 h) := by
  have lo := (layOk_of_tolerated strLayV1 strLayV1_tolerated).toW
  rw [strV1_eq, v1Text, v1Text_eq, ← List.nil_append strLayV1.gap, text_append]
  exact isAscii_append.2 ⟨isAscii_nil, isAscii_append.2 ⟨ofLay_ascii p _ _ lo hv, by unfold isAscii; decide⟩⟩

theorem strV2_ascii (p : V2P) (h : V2) (hv : ValidV2 p h) : isAscii (strV2 h) := by
  rw [strV2_eq]
  obtain ⟨c1, _⟩ := pyStrInt_nonneg _ hv.oh0.1
  obtain ⟨c2, _⟩ := pyStrInt_nonneg _ hv.ver0.1
  have hO : isAscii (v2Ofx strLayV2 h) := by
    have := v2Ofx_nf strLayV2 h []
    rw [List.append_nil] at this
    rw [this]
    exact isAscii_ofxNF _ _ _ _ _ _ _ _ _ _ _ _ _ _ _ _ _ (by unfold isAscii; decide) (by unfold isAscii; decide)
      (by unfold isAscii; decide) (by unfold isAscii; decide) (by unfold isAscii; decide) (by unfold isAscii; decide)
      (by unfold isAscii; decide)
      (isAscii_class _ digit_wordDash _ c1.2) (isAscii_class _ digit_wordDash _ c2.2)
      (isAscii_class _ word_wordDash _ hv.sec.2.2) (isAscii_class _ (fun _ h => h) _ hv.old.1.2)
      (isAscii_class _ (fun _ h => h) _ hv.new.1.2)
  unfold v2Text
  refine isAscii_append.2 ⟨isAscii_nil, isAscii_append.2 ⟨by rw [← xmlDecl_eq, xmlDecl_chars]; unfold isAscii; decide,
    isAscii_append.2 ⟨by unfold isAscii; decide, hO⟩⟩⟩

/-- v1: `parse_header` strips the message, so the whitespace `w` is gone -/
theorem C12_roundtrip_v1_ws (p1 : V1P) (p2 : V2P) (tbl : List (Option Nat)) (h : V1) (body w : Str) (bb : Bytes)
    (cs : Name) (hv : ValidV1 p1 h) (hcodec : codecV1 p1 h = .ok cs) (henc : encode tbl cs (body ++ w) = .ok bb)
    (hb0 : body.head? = some '<') (hb1 : body.getLast? = some '>') (hw : ∀ c ∈ w, isSpace c = true) :
    parseHeader p1 p2 tbl (asciiBytes (strV1 h) ++ bb) = .ok (.v1 h, body) := by
  obtain ⟨brest, hbody⟩ := List.head?_eq_some_iff.1 hb0
  rw [strV1_eq]
  have := parse_v1_gen p1 p2 tbl strLayV1 { h := h, withCompression := true } (body ++ w) bb cs hv
    (by intro h; cases h) hcodec henc (by rw [hbody]; rfl) strLayV1_tolerated
  simp only [renderV1] at this
  rw [this, strip_ws_body_ws strLayV1.gap body w (by unfold allSpace; decide) hw '<' brest hbody (by decide) '>' hb1
    (by decide)]

/-- v2: nothing is stripped, the message is `decoded_source[header_end_index:]`, so trailing whitespace stays -/
theorem C12_roundtrip_v2_ws (p1 : V1P) (p2 : V2P) (tbl : List (Option Nat)) (h : V2) (body w : Str) (bb : Bytes)
    (hv : ValidV2 p2 h) (henc : encode tbl .utf8 (body ++ w) = .ok bb) (hb0 : body.head? = some '<') :
    parseHeader p1 p2 tbl (asciiBytes (strV2 h) ++ bb) = .ok (.v2 h, body ++ w) := by
  obtain ⟨brest, hbody⟩ := List.head?_eq_some_iff.1 hb0
  rw [strV2_eq]
  exact parse_v2_gen p1 p2 tbl strLayV2 h (body ++ w) bb hv henc (by rw [hbody]; rfl) (by decide)

/-- what the model needs of the v1 validator tables for the constructor's defaults to be accepted
    (`Gen.header_wf` checks it of the generated tables) -/
structure WFV1 (p : V1P) : Prop where
  oh : "100".toList ∈ p.ofxheader
  data : "OFXSGML".toList ∈ p.data
  -- the versions `make_header` sends to `OFXHeaderV1` are 100..199: three digits
  ver : ∀ n, p.versionLen = some n → 3 ≤ n
  sec : "NONE".toList ∈ p.security
  enc : "USASCII".toList ∈ p.encoding
  cs : "NONE".toList ∈ p.charset
  comp : "NONE".toList ∈ p.compression
  codec : p.codecs.lookup "NONE".toList = some "utf_8".toList

structure WFV2 (p : V2P) : Prop where
  oh : "200".toList ∈ p.ofxheader
  sec : "NONE".toList ∈ p.security

/-- a UID argument of `make_header`; when absent, the default `"NONE"`, four characters, must fit -/
def UidOk (len : Option Nat) : Option Str → Prop
  | none => (∀ n, len = some n → 4 ≤ n)
  | some u => inClass isWordDash u ∧ ∀ n, len = some n → u.length ≤ n

def SecOk (valid : List Str) : Option Str → Prop
  | none => True
  | some s => s ∈ valid ∧ inClass isWord s

theorem orStr_none (d : Str) : orStr none d = d := rfl

theorem uid_spec (len : Option Nat) (u : Option Str) (h : UidOk len u) :
    inClass isWordDash (orStr u "NONE".toList) ∧ ∀ n, len = some n → (orStr u "NONE".toList).length ≤ n := by
  cases u with
  | none => exact ⟨⟨by decide, by decide⟩, fun n hn => by
      have := h n hn
      have e : (orStr none "NONE".toList).length = 4 := rfl
      omega⟩
  | some s => rw [orStr_some _ _ h.1.1]; exact h

theorem uidOk_none {len : Option Nat} {n : Nat} (h : len = some n) (hn : 4 ≤ n) : UidOk len none :=
  fun m hm => by rw [h] at hm; injection hm with hm; omega

theorem sec_spec (valid : List Str) (s : Option Str) (hnone : "NONE".toList ∈ valid) (h : SecOk valid s) :
    orStr s "NONE".toList ∈ valid ∧ inClass isWord (orStr s "NONE".toList) := by
  cases s with
  | none => exact ⟨hnone, by decide, by decide⟩
  | some t => rw [orStr_some _ _ h.2.1]; exact h

theorem orElse_int (i : Int) (d : Arg) (h : i ≠ 0) : (Arg.int i).orElse d = .int i := by
  cases i with
  | ofNat n => cases n with
    | zero => exact absurd rfl h
    | succ n => rfl
  | negSucc n => rfl

/-- the v1 header object `make_header(v, sec, old, new)` builds for a 1xx version -/
def madeV1 (v : Int) (sec old new : Option Str) : V1 :=
  { ofxheader := 100, data := "OFXSGML".toList, version := v, security := orStr sec "NONE".toList,
    encoding := "USASCII".toList, charset := "NONE".toList, compression := "NONE".toList,
    oldfileuid := orStr old "NONE".toList, newfileuid := orStr new "NONE".toList }

theorem pow10_ge (n : Nat) (h : 3 ≤ n) : (1000 : Int) ≤ (10 : Int) ^ n := by
  obtain ⟨k, rfl⟩ := Nat.exists_eq_add_of_le h
  induction k with
  | zero => decide
  | succ k ih =>
    have e : (10 : Int) ^ (3 + (k + 1)) = (10 : Int) ^ (3 + k) * 10 := by
      rw [← Nat.add_assoc, Int.pow_succ]
    rw [e]
    have := ih (by omega)
    omega

theorem madeV1_valid (p : V1P) (wf : WFV1 p) (v : Int) (sec old new : Option Str) (hv : 100 ≤ v ∧ v ≤ 199)
    (hs : SecOk p.security sec) (ho : UidOk p.oldLen old) (hn : UidOk p.newLen new) :
    ValidV1 p (madeV1 v sec old new) := by
  obtain ⟨s1, s2⟩ := sec_spec _ sec wf.sec hs
  refine { oh0 := ?_, oh := ?_, data := ⟨wf.data, ?_⟩, ver0 := ?_, ver := ?_, sec := ⟨s1, s2⟩, enc := ⟨wf.enc, ?_⟩,
           cs := ⟨wf.cs, ?_⟩, comp := ⟨wf.comp, ?_⟩, old := uid_spec _ old ho, new := uid_spec _ new hn }
  · show (0 : Int) ≤ 100 ∧ (100 : Int) < 1000; decide
  · show pyStrInt 100 ∈ p.ofxheader
    have e100 : pyStrInt 100 = "100".toList := by decide
    rw [e100]; exact wf.oh
  · show inClass isUpper "OFXSGML".toList; exact ⟨by decide, by decide⟩
  · show (0 : Int) ≤ v ∧ v < 1000; omega
  · intro n hn
    show v < (10 : Int) ^ n
    have := pow10_ge n (wf.ver n hn)
    omega
  · show inClass isUpDigDash "USASCII".toList; exact ⟨by decide, by decide⟩
  · show inClass isWordDash "NONE".toList; exact ⟨by decide, by decide⟩
  · show inClass isUpper "NONE".toList; exact ⟨by decide, by decide⟩

theorem makeHeader_v1 (p1 : V1P) (p2 : V2P) (wf : WFV1 p1) (v : Int) (sec old new : Option Str)
    (hv : 100 ≤ v ∧ v ≤ 199) (hs : SecOk p1.security sec) (ho : UidOk p1.oldLen old) (hn : UidOk p1.newLen new) :
    makeHeader p1 p2 (.int v) sec old new = .ok (.v1 (madeV1 v sec old new)) := by
  obtain ⟨s1, _⟩ := sec_spec _ sec wf.sec hs
  obtain ⟨o1, o2⟩ := uid_spec _ old ho
  obtain ⟨n1, n2⟩ := uid_spec _ new hn
  have hctor : ctorV1 p1 (.int v) .none none sec none none none old new = .ok (madeV1 v sec old new) := by
    rw [ctorV1_ok_iff, unescape_uid _ o1.2, unescape_uid _ n1.2, orElse_int v _ (by omega)]
    exact ⟨100, v, rfl, wf.oh, wf.data, rfl, fun n hl => by have := pow10_ge n (wf.ver n hl); omega, s1, wf.enc,
      wf.cs, wf.comp, o2, n2, rfl⟩
  rw [makeHeader_of_int p1 p2 _ v _ _ _ rfl, if_pos (by omega), hctor]
  rfl

/-- the codec is UTF-8 because CHARSET defaults to NONE -/
theorem makeHeader_v1_valid (p1 : V1P) (p2 : V2P) (wf : WFV1 p1) (v : Int) (sec old new : Option Str) (h : V1)
    (hs : SecOk p1.security sec) (ho : UidOk p1.oldLen old) (hn : UidOk p1.newLen new)
    (hk : makeHeader p1 p2 (.int v) sec old new = .ok (.v1 h)) :
    ValidV1 p1 h ∧ codecV1 p1 h = .ok .utf8 ∧ h = madeV1 v sec old new := by
  have hr : 100 ≤ v ∧ v ≤ 199 := by
    rcases C12_kind p1 p2 (.int v) v sec old new (.v1 h) rfl hk with ⟨h1, _⟩ | ⟨_, h2, e⟩
    · omega
    · cases e
  rw [makeHeader_v1 p1 p2 wf v sec old new hr hs ho hn] at hk
  have e : h = madeV1 v sec old new := by injection hk with hk; injection hk with hk; exact hk.symm
  subst e
  refine ⟨madeV1_valid p1 wf v sec old new hr hs ho hn, ?_, rfl⟩
  simp only [codecV1, madeV1, wf.codec]
  rfl

/-- the v2 header object `make_header(v, sec, old, new)` builds for a listed 2xx version -/
def madeV2 (v : Int) (sec old new : Option Str) : V2 :=
  { version := v, ofxheader := 200, security := orStr sec "NONE".toList,
    oldfileuid := orStr old "NONE".toList, newfileuid := orStr new "NONE".toList }

theorem madeV2_valid (p : V2P) (wf : WFV2 p) (v : Int) (sec old new : Option Str) (hv : 200 ≤ v ∧ v ≤ 299)
    (hm : pyStrInt v ∈ p.version) (hs : SecOk p.security sec) (ho : UidOk p.oldLen old) (hn : UidOk p.newLen new) :
    ValidV2 p (madeV2 v sec old new) := by
  obtain ⟨s1, s2⟩ := sec_spec _ sec wf.sec hs
  refine { oh0 := ?_, oh := ?_, ver0 := ?_, ver := hm, sec := ⟨s1, s2⟩, old := uid_spec _ old ho,
           new := uid_spec _ new hn }
  · show (0 : Int) ≤ 200 ∧ (200 : Int) < 1000; decide
  · show pyStrInt 200 ∈ p.ofxheader
    have e200 : pyStrInt 200 = "200".toList := by decide
    rw [e200]; exact wf.oh
  · show (0 : Int) ≤ v ∧ v < 1000; omega

theorem makeHeader_v2 (p1 : V1P) (p2 : V2P) (wf : WFV2 p2) (v : Int) (sec old new : Option Str)
    (hv : 200 ≤ v ∧ v ≤ 299) (hm : pyStrInt v ∈ p2.version) (hs : SecOk p2.security sec)
    (ho : UidOk p2.oldLen old) (hn : UidOk p2.newLen new) :
    makeHeader p1 p2 (.int v) sec old new = .ok (.v2 (madeV2 v sec old new)) := by
  obtain ⟨s1, _⟩ := sec_spec _ sec wf.sec hs
  obtain ⟨o1, o2⟩ := uid_spec _ old ho
  obtain ⟨n1, n2⟩ := uid_spec _ new hn
  have hctor : ctorV2 p2 (.int v) .none sec old new = .ok (madeV2 v sec old new) := by
    rw [ctorV2_ok_iff, unescape_uid _ o1.2, unescape_uid _ n1.2]
    exact ⟨v, 200, rfl, hm, rfl, wf.oh, s1, o2, n2, rfl⟩
  rw [makeHeader_of_int p1 p2 _ v _ _ _ rfl, if_neg (by omega), if_pos (by omega), hctor]
  rfl

theorem makeHeader_v2_valid (p1 : V1P) (p2 : V2P) (wf : WFV2 p2) (v : Int) (sec old new : Option Str) (h : V2)
    (hs : SecOk p2.security sec) (ho : UidOk p2.oldLen old) (hn : UidOk p2.newLen new)
    (hk : makeHeader p1 p2 (.int v) sec old new = .ok (.v2 h)) :
    ValidV2 p2 h ∧ h = madeV2 v sec old new := by
  have hr : 200 ≤ v ∧ v ≤ 299 := by
    rcases C12_kind p1 p2 (.int v) v sec old new (.v2 h) rfl hk with ⟨_, h1, e⟩ | ⟨h2, _⟩
    · cases e
    · omega
  have hm : pyStrInt v ∈ p2.version := by
    have hk' := hk
    rw [makeHeader_of_int p1 p2 _ v _ _ _ rfl, if_neg (by omega), if_pos (by omega)] at hk'
    obtain ⟨h', hc, _⟩ := PyM.map_ok hk'
    obtain ⟨vi, _, h1, m2, _⟩ := (ctorV2_ok_iff ..).1 hc
    cases h1
    exact m2
  rw [makeHeader_v2 p1 p2 wf v sec old new hr hm hs ho hn] at hk
  have e : h = madeV2 v sec old new := by injection hk with hk; injection hk with hk; exact hk.symm
  subst e
  exact ⟨madeV2_valid p2 wf v sec old new hr hm hs ho hn, rfl⟩

theorem wf_pinnedV1 : WFV1 pinnedV1P :=
  ⟨by decide, by decide, fun n hn => by cases hn; decide, by decide, by decide, by decide, by decide, by decide⟩

theorem wf_pinnedV2 : WFV2 pinnedV2P := ⟨by decide, by decide⟩

end Ofx.Header
