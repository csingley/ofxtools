/-
Lemmas about the Python string primitives (`OfxModel/Py/Str.lean`): `strip`, `replace`, `saxutils.unescape`,
`ET._escape_cdata`, and the one-pass entity decoder of the specification (`Spec/Denote.lean`).
-/
import OfxModel.Py.Str
import OfxModel.Spec.Denote
import OfxProofs.Lemmas.List

namespace Ofx
open Ofx.Spec

theorem lstrip_eq_dropWhile (s : Str) : lstrip s = s.dropWhile isSpace := by
  induction s with
  | nil => rfl
  | cons c cs ih => cases h : isSpace c <;> simp [lstrip, List.dropWhile, h, ih]

theorem lstrip_append_of_space {w : Str} (hw : ∀ c ∈ w, isSpace c = true) (s : Str) : lstrip (w ++ s) = lstrip s := by
  simp only [lstrip_eq_dropWhile, List.dropWhile_append_of_pos hw]

theorem lstrip_of_space {w : Str} (hw : ∀ c ∈ w, isSpace c = true) : lstrip w = [] := by
  simpa [lstrip] using lstrip_append_of_space hw []

theorem lstrip_cons_of_not_space (c : Char) (s : Str) (h : isSpace c = false) : lstrip (c :: s) = c :: s := by
  simp [lstrip, h]

theorem rstrip_append_of_space (s : Str) {w : Str} (hw : ∀ c ∈ w, isSpace c = true) : rstrip (s ++ w) = rstrip s := by
  rw [rstrip, List.reverse_append, lstrip_append_of_space (by simpa using hw), ← rstrip]

theorem head?_lstrip_not_space (s : Str) : ∀ c, (lstrip s).head? = some c → isSpace c = false := by
  intro c hc
  have := List.head?_dropWhile_not isSpace s
  rw [← lstrip_eq_dropWhile, hc] at this
  simpa using this

theorem rstrip_prefix (s : Str) : rstrip s <+: s := by
  rw [rstrip, lstrip_eq_dropWhile]
  simpa using List.reverse_prefix.mpr (List.dropWhile_suffix (l := s.reverse) isSpace)

theorem lstrip_length_le (s : Str) : (lstrip s).length ≤ s.length := by
  rw [lstrip_eq_dropWhile]
  exact (List.dropWhile_sublist isSpace).length_le

theorem rstrip_length_le (s : Str) : (rstrip s).length ≤ s.length := by
  simpa [rstrip] using lstrip_length_le s.reverse

theorem lstrip_eq_self_iff (s : Str) : lstrip s = s ↔ ∀ c, s.head? = some c → isSpace c = false := by
  rw [lstrip_eq_dropWhile]
  constructor
  · intro h c hc
    have := List.head?_dropWhile_not isSpace s
    rw [h, hc] at this
    simpa using this
  · intro h
    cases s with
    | nil => rfl
    | cons c cs => exact List.dropWhile_cons_of_neg (by simp [h c rfl])

theorem rstrip_eq_self_iff (s : Str) : rstrip s = s ↔ ∀ c, s.getLast? = some c → isSpace c = false := by
  rw [← List.head?_reverse, ← lstrip_eq_self_iff, rstrip]
  constructor
  · intro h; simpa using congrArg List.reverse h
  · intro h; rw [h, List.reverse_reverse]

theorem strip_eq_self_iff (s : Str) :
    strip s = s ↔ (∀ c, s.head? = some c → isSpace c = false) ∧ (∀ c, s.getLast? = some c → isSpace c = false) := by
  rw [← lstrip_eq_self_iff, ← rstrip_eq_self_iff, strip]
  constructor
  · intro h
    -- `lstrip s` is a suffix of `s` that is no shorter than `s`
    have hl : lstrip s = s := by
      rw [lstrip_eq_dropWhile] at h ⊢
      apply (List.dropWhile_suffix isSpace).eq_of_length_le
      have := rstrip_length_le (s.dropWhile isSpace)
      rwa [h] at this
    exact ⟨hl, by rwa [hl] at h⟩
  · rintro ⟨h1, h2⟩
    rw [h1, h2]

theorem strip_pad_of_space {w1 w2 : Str} (h1 : ∀ c ∈ w1, isSpace c = true) (h2 : ∀ c ∈ w2, isSpace c = true) {d : Str}
    (hd : strip d = d) : strip (w1 ++ (d ++ w2)) = d := by
  obtain ⟨hl, hr⟩ := (strip_eq_self_iff d).mp hd
  rw [strip, lstrip_append_of_space h1]
  cases d with
  | nil =>
    rw [List.nil_append, lstrip_of_space h2]
    rfl
  | cons c cs =>
    rw [List.cons_append, lstrip_cons_of_not_space c _ (hl c rfl), ← List.cons_append, rstrip_append_of_space _ h2,
      (rstrip_eq_self_iff _).mpr hr]

theorem strip_strip (s : Str) : strip (strip s) = strip s := by
  rw [strip_eq_self_iff]
  constructor
  · intro c hc
    obtain ⟨t, ht⟩ := rstrip_prefix (lstrip s)
    apply head?_lstrip_not_space s c
    rw [← ht, ← strip, List.head?_append, hc]
    rfl
  · intro c hc
    rw [strip, rstrip, List.getLast?_reverse] at hc
    exact head?_lstrip_not_space _ c hc

theorem strip_eq_nil_iff (s : Str) : strip s = [] ↔ ∀ c ∈ s, isSpace c = true := by
  rw [strip, rstrip, List.reverse_eq_nil_iff, lstrip_eq_dropWhile, lstrip_eq_dropWhile, List.dropWhile_eq_nil_iff]
  constructor
  · intro h c hc
    rw [← List.takeWhile_append_dropWhile (p := isSpace) (l := s)] at hc
    rcases List.mem_append.1 hc with m | m
    · exact List.mem_takeWhile m
    · exact h c (List.mem_reverse.2 m)
  · exact fun h c hc => h c ((List.dropWhile_sublist _).subset (List.mem_reverse.1 hc))

theorem strip_ne_nil_of_mem (s : Str) (c : Char) (hc : c ∈ s) (hs : isSpace c = false) : strip s ≠ [] :=
  fun e => by rw [(strip_eq_nil_iff s).1 e c hc] at hs; cases hs

theorem strip_of_no_space (s : Str) (h : ∀ c ∈ s, isSpace c = false) : strip s = s :=
  (strip_eq_self_iff s).mpr ⟨fun c hc => h c (List.mem_of_mem_head? hc), fun c hc => h c (List.mem_of_getLast? hc)⟩

theorem replaceGo_skip (old new : Str) :
    ∀ (k : Nat) (s : Str), replaceGo old new k s = replaceGo old new 0 (s.drop k) := by
  intro k
  induction k with
  | zero => intro s; simp
  | succ k ih =>
    intro s
    cases s with
    | nil => simp [replaceGo]
    | cons c cs => simp [replaceGo, ih cs]

theorem replace_cons (old new : Str) (c : Char) (cs : Str) :
    replace old new (c :: cs) =
      if old.isPrefixOf (c :: cs) then new ++ replace old new (cs.drop (old.length - 1))
      else c :: replace old new cs := by
  unfold replace
  simp only [replaceGo]
  split
  · rw [replaceGo_skip]
  · rfl

@[simp] theorem replace_nil (old new : Str) : replace old new [] = [] := by
  simp [replace, replaceGo]

theorem replace_cons_ne (a : Char) (o new : Str) (c : Char) (cs : Str) (h : c ≠ a) :
    replace (a :: o) new (c :: cs) = c :: replace (a :: o) new cs := by
  rw [replace_cons]
  have : (a :: o).isPrefixOf (c :: cs) = false := by
    simp [List.isPrefixOf]
    intro h'; exact absurd h'.symm h
  simp [this]

theorem replace_append_of_not_mem (a : Char) (o new p x : Str) (h : a ∉ p) :
    replace (a :: o) new (p ++ x) = p ++ replace (a :: o) new x := by
  induction p with
  | nil => rfl
  | cons c p ih =>
    rw [List.cons_append, replace_cons_ne a o new c _ (fun e => h (by simp [e])), ih (fun m => h (by simp [m]))]
    rfl

theorem isPrefixOf_replace (a r : Char) (o : Str) :
    ∀ (p x : Str), (∀ ch ∈ p, ch ≠ a) → (∀ ch ∈ p, ch ≠ r) →
      p.isPrefixOf (replace (a :: o) [r] x) = p.isPrefixOf x := by
  intro p
  induction p with
  | nil => intro x _ _; simp
  | cons b p ih =>
    intro x ha hr
    cases x with
    | nil => simp
    | cons c cs =>
      by_cases hc : c = a
      · subst hc
        have hb : b ≠ c := ha b (by simp)
        have hbr : b ≠ r := hr b (by simp)
        have e1 : (b == r) = false := by simp [hbr]
        have e2 : (b == c) = false := by simp [hb]
        rw [replace_cons]
        split <;> simp [List.isPrefixOf, e1, e2]
      · rw [replace_cons_ne a o [r] c cs hc]
        simp only [List.isPrefixOf]
        rw [ih cs (fun ch h => ha ch (by simp [h])) (fun ch h => hr ch (by simp [h]))]

theorem decodeGo_skip : ∀ (k : Nat) (s : Str), decodeGo k s = decodeGo 0 (s.drop k) := by
  intro k
  induction k with
  | zero => intro s; simp
  | succ k ih =>
    intro s
    cases s with
    | nil => simp [decodeGo]
    | cons c cs => simp [decodeGo, ih cs]

@[simp] theorem decodeEntities_nil : decodeEntities [] = [] := by simp [decodeEntities, decodeGo]

theorem decodeEntities_cons (c : Char) (cs : Str) :
    decodeEntities (c :: cs) =
      match entityAt (c :: cs) with
      | some (ch, n) => ch :: decodeEntities (cs.drop (n - 1))
      | none => c :: decodeEntities cs := by
  cases h : entityAt (c :: cs) with
  | none => simp [decodeEntities, decodeGo, h]
  | some p =>
    obtain ⟨ch, n⟩ := p
    simp [decodeEntities, decodeGo, h, decodeGo_skip (n - 1)]

/- The model spells the entities as string literals. They are read into character lists by the simproc
   `String.reduceToList`; it is used under `dsimp`, since `simp` re-establishes its `rfl` step inside every `if`. -/
theorem entities_eq : entities =
    [(['&', 'l', 't', ';'], '<'), (['&', 'g', 't', ';'], '>'), (['&', 'n', 'b', 's', 'p', ';'], ' '),
     (['&', 'a', 'p', 'o', 's', ';'], '\''), (['&', 'q', 'u', 'o', 't', ';'], '"'),
     (['&', 'a', 'm', 'p', ';'], '&')] := by
  dsimp only [entities, String.reduceToList]

theorem entityAt_ne_amp (c : Char) (cs : Str) (h : c ≠ '&') : entityAt (c :: cs) = none := by
  have h' : ('&' == c) = false := by simp; exact fun e => h e.symm
  simp [entityAt, entities_eq, List.find?, List.isPrefixOf, h']

/-! ### sequential replacement passes decode in one pass

`saxutils.unescape` is a chain of `replace` calls, one per entity. Such a chain acts like a single left-to-right
decoder as soon as no pass can create or destroy an occurrence that a later pass looks for: every spelling
starts with `&` and has no other `&`, and the character a pass writes is neither `&` nor part of a later spelling.
That is why `&amp;` has to come last. -/

theorem prefix_split (p r : Str) (h : p.isPrefixOf r = true) : ∃ r', r = p ++ r' := by
  have := List.isPrefixOf_iff_prefix.mp h
  exact ⟨r.drop p.length, (List.prefix_iff_eq_append.mp this).symm⟩

theorem find?_congr {α} {p q : α → Bool} {l : List α} (h : ∀ a ∈ l, p a = q a) : l.find? p = l.find? q := by
  induction l with
  | nil => rfl
  | cons a l ih => simp only [List.find?_cons, h a (by simp), ih (fun b m => h b (by simp [m]))]

def passes (ps : List (Str × Char)) (s : Str) : Str := ps.foldl (fun s e => replace e.1 [e.2] s) s

def AmpSpellings (ps : List (Str × Char)) : Prop := ∀ e ∈ ps, ∃ o, e.1 = '&' :: o ∧ '&' ∉ o

def Ordered (ps : List (Str × Char)) : Prop := ps.Pairwise (fun e e' => e.2 ≠ '&' ∧ e.2 ∉ e'.1)

theorem passes_cons (e : Str × Char) (ps : List (Str × Char)) (s : Str) :
    passes (e :: ps) s = passes ps (replace e.1 [e.2] s) := rfl

theorem passes_cons_ne (ps : List (Str × Char)) (h : AmpSpellings ps) (c : Char) (r : Str) (hc : c ≠ '&') :
    passes ps (c :: r) = c :: passes ps r := by
  induction ps generalizing r with
  | nil => rfl
  | cons e ps ih =>
    obtain ⟨o, ho, -⟩ := h e (by simp)
    rw [passes_cons, ho, replace_cons_ne _ _ _ c r hc, ih (fun e' m => h e' (by simp [m])), passes_cons, ho]

theorem passes_amp (ps : List (Str × Char)) (h : AmpSpellings ps) (hord : Ordered ps) (r : Str) :
    passes ps ('&' :: r) =
      match ps.find? (fun e => e.1.isPrefixOf ('&' :: r)) with
      | some e => e.2 :: passes ps (r.drop (e.1.length - 1))
      | none => '&' :: passes ps r := by
  induction ps generalizing r with
  | nil => rfl
  | cons e ps ih =>
    obtain ⟨hlater, hord'⟩ := List.pairwise_cons.mp hord
    have hps : AmpSpellings ps := fun e' m => h e' (by simp [m])
    obtain ⟨p, ch⟩ := e
    obtain ⟨o, rfl, -⟩ : ∃ o, p = '&' :: o ∧ _ := h (p, ch) (by simp)
    simp only [passes_cons, replace_cons, List.find?_cons]
    cases hm : ('&' :: o).isPrefixOf ('&' :: r) with
    | true =>
      simp only [if_true]
      cases ps with
      | nil => rfl
      | cons e' ps' => exact passes_cons_ne _ hps ch _ (hlater e' (by simp)).1
    | false =>
      have key : ∀ e' ∈ ps, ∃ o', e'.1 = '&' :: o' ∧ '&' ∉ o' ∧
          o'.isPrefixOf (replace ('&' :: o) [ch] r) = o'.isPrefixOf r := by
        intro e' m
        obtain ⟨o', ho', hamp⟩ := hps e' m
        refine ⟨o', ho', hamp, isPrefixOf_replace '&' ch o o' r (fun c hc e => hamp (e ▸ hc)) (fun c hc e => ?_)⟩
        exact (hlater e' m).2 (by rw [ho', ← e]; simp [hc])
      have hcongr : ∀ e' ∈ ps, e'.1.isPrefixOf ('&' :: replace ('&' :: o) [ch] r) = e'.1.isPrefixOf ('&' :: r) := by
        intro e' m
        obtain ⟨o', ho', -, hk⟩ := key e' m
        simp only [ho', List.isPrefixOf, beq_self_eq_true, Bool.true_and, hk]
      simp only [Bool.false_eq_true, if_false]
      rw [ih hps hord', find?_congr hcongr]
      cases hf : ps.find? (fun e => e.1.isPrefixOf ('&' :: r)) with
      | none => rfl
      | some e' =>
        obtain ⟨o', ho', hamp, -⟩ := key e' (List.mem_of_find?_eq_some hf)
        have hp := List.find?_some hf
        simp only [ho', List.isPrefixOf, beq_self_eq_true, Bool.true_and] at hp
        obtain ⟨r', rfl⟩ := prefix_split _ _ hp
        simp only [ho', List.length_cons, Nat.add_sub_cancel, replace_append_of_not_mem _ _ _ _ _ hamp,
          List.drop_left]

theorem unescape_def (s : Str) : unescape s =
    replace ['&', 'a', 'm', 'p', ';'] ['&'] (replace ['&', 'q', 'u', 'o', 't', ';'] ['"']
      (replace ['&', 'a', 'p', 'o', 's', ';'] ['\''] (replace ['&', 'n', 'b', 's', 'p', ';'] [' ']
        (replace ['&', 'g', 't', ';'] ['>'] (replace ['&', 'l', 't', ';'] ['<'] s))))) := by
  dsimp only [unescape, String.reduceToList]

theorem unescape_eq_passes (s : Str) : unescape s = passes entities s := by
  rw [unescape_def, entities_eq]
  rfl

theorem ampSpellings_entities : AmpSpellings entities := by
  rw [AmpSpellings, entities_eq]
  simp only [List.forall_mem_cons, List.cons.injEq, true_and, exists_eq_left', List.not_mem_nil, false_imp_iff,
    implies_true, and_true]
  decide

theorem ordered_entities : Ordered entities := by
  rw [Ordered, entities_eq]
  decide

theorem unescape_cons (c : Char) (r : Str) :
    unescape (c :: r) =
      match entityAt (c :: r) with
      | some (ch, n) => ch :: unescape (r.drop (n - 1))
      | none => c :: unescape r := by
  simp only [unescape_eq_passes]
  by_cases hc : c = '&'
  · subst hc
    rw [passes_amp _ ampSpellings_entities ordered_entities, entityAt]
    cases entities.find? _ <;> rfl
  · rw [entityAt_ne_amp c r hc, passes_cons_ne _ ampSpellings_entities c r hc]

theorem unescape_nil : unescape [] = [] := by
  rw [unescape_def]
  rfl

theorem unescape_cons_ne (c : Char) (r : Str) (h : c ≠ '&') : unescape (c :: r) = c :: unescape r := by
  rw [unescape_cons, entityAt_ne_amp c r h]

/-- the five sequential `replace` calls of `saxutils.unescape` followed by the `&amp;`
    pass coincide, on every string, with decoding the six entities in one left-to-right pass. -/
theorem unescape_onepass (s : Str) : unescape s = decodeEntities s := by
  suffices h : ∀ n (s : Str), s.length ≤ n → unescape s = decodeEntities s from h s.length s (Nat.le_refl _)
  intro n
  induction n with
  | zero =>
    intro s hs
    have : s = [] := List.length_eq_zero_iff.mp (Nat.le_zero.mp hs)
    subst this; simp [unescape_nil]
  | succ n ih =>
    intro s hs
    cases s with
    | nil => simp [unescape_nil]
    | cons c r =>
      rw [unescape_cons, decodeEntities_cons]
      cases entityAt (c :: r) with
      | none => simp only []; rw [ih r (by simpa using hs)]
      | some p =>
        obtain ⟨ch, k⟩ := p
        simp only []
        rw [ih (r.drop (k - 1)) (by simp at hs ⊢; omega)]

theorem replace_single (a : Char) (new : Str) (s : Str) :
    replace [a] new s = s.flatMap (fun c => if c = a then new else [c]) := by
  induction s with
  | nil => simp
  | cons c cs ih =>
    rw [replace_cons]
    by_cases h : c = a
    · subst h; simp [List.isPrefixOf, ih]
    · have : (a == c) = false := by simp; exact fun e => h e.symm
      simp [List.isPrefixOf, this, ih, h]

/-- what `_escape_cdata` does to one character -/
def Serialize.escChar (c : Char) : Str :=
  if c = '&' then ['&', 'a', 'm', 'p', ';']
  else if c = '<' then ['&', 'l', 't', ';']
  else if c = '>' then ['&', 'g', 't', ';']
  else [c]

open Serialize (escChar)

theorem markup_cases (c : Char) : c = '&' ∨ c = '<' ∨ c = '>' ∨ (c ≠ '&' ∧ c ≠ '<' ∧ c ≠ '>') := by
  grind

theorem escChar_plain {c : Char} (h1 : c ≠ '&') (h2 : c ≠ '<') (h3 : c ≠ '>') : escChar c = [c] := by
  rw [escChar, if_neg h1, if_neg h2, if_neg h3]

theorem escChar_ne_nil (c : Char) : escChar c ≠ [] := by
  rw [escChar]
  repeat' split
  all_goals exact List.cons_ne_nil _ _

theorem escapeCdata_eq (s : Str) : escapeCdata s = s.flatMap escChar := by
  simp only [escapeCdata, String.reduceToList, replace_single, List.flatMap_assoc]
  congr 1; funext c
  rcases markup_cases c with rfl | rfl | rfl | ⟨h1, h2, h3⟩ <;> simp [escChar, *]

theorem escapeCdata_nil : escapeCdata [] = [] := by simp only [escapeCdata_eq, List.flatMap_nil]

theorem escapeCdata_cons (c : Char) (s : Str) : escapeCdata (c :: s) = escChar c ++ escapeCdata s := by
  simp only [escapeCdata_eq, List.flatMap_cons]

theorem escapeCdata_id {d : Str} (h : ∀ c ∈ d, c ≠ '&' ∧ c ≠ '<' ∧ c ≠ '>') : escapeCdata d = d := by
  rw [escapeCdata_eq]
  induction d with
  | nil => rfl
  | cons c cs ih =>
    have hc := h c (by simp)
    rw [List.flatMap_cons, escChar_plain hc.1 hc.2.1 hc.2.2, ih (fun x hx => h x (by simp [hx]))]
    rfl

theorem decodeEntities_escChar (c : Char) (x : Str) : decodeEntities (escChar c ++ x) = c :: decodeEntities x := by
  rw [escChar]
  rcases markup_cases c with rfl | rfl | rfl | ⟨h1, h2, h3⟩
  case inr.inr.inr =>
    rw [if_neg h1, if_neg h2, if_neg h3, List.singleton_append, decodeEntities_cons, entityAt_ne_amp c _ h1]
  all_goals
    simp only [Char.reduceEq, if_true, if_false, List.cons_append]
    rw [decodeEntities_cons]
    simp [entityAt, entities_eq, List.isPrefixOf]

theorem decodeEntities_escapeCdata (s : Str) : decodeEntities (escapeCdata s) = s := by
  induction s with
  | nil => simp [escapeCdata_nil]
  | cons c s ih => rw [escapeCdata_cons, decodeEntities_escChar, ih]

theorem unescape_escapeCdata (s : Str) : unescape (escapeCdata s) = s := by
  rw [unescape_onepass, decodeEntities_escapeCdata]

theorem unescape_no_amp (s : Str) (h : '&' ∉ s) : unescape s = s := by
  induction s with
  | nil => exact unescape_nil
  | cons c r ih =>
    have hc : c ≠ '&' := fun e => h (by simp [e])
    rw [unescape_cons_ne c r hc, ih (fun m => h (by simp [m]))]

theorem unescape_eq_nil (s : Str) : unescape s = [] ↔ s = [] := by
  constructor
  · intro h
    cases s with
    | nil => rfl
    | cons c r =>
      rw [unescape_cons] at h
      cases hh : entityAt (c :: r) with
      | none => rw [hh] at h; simp at h
      | some p => rw [hh] at h; simp at h
  · intro h; subst h; exact unescape_nil

theorem join_cons (sep a : Str) (l : List Str) : join sep (a :: l) = a ++ l.flatMap (sep ++ ·) := by
  induction l generalizing a with
  | nil => simp [join]
  | cons b t ih => simp [join, ih b]

end Ofx
