/-
Lemmas for C16 (copy / deepcopy / pickle): dict updates, the generic-`G` core ("if the probes answer
AttributeError, every route rebuilds the instance"; `Quiet`/`QuietAll` are that hypothesis, which the statements in
Props/C16Copy.lean use), the pickle of an instance as a function (`pkOf`).
-/
import OfxProofs.Lemmas.Getattr
import OfxModel.Ofx.CopyProto

namespace Ofx.CopyProto
open Ofx Ofx.Agg Ofx.Getattr

def keys (d : Dict) : List Str := d.map (·.1)

theorem keys_append (a b : Dict) : keys (a ++ b) = keys a ++ keys b := by simp [keys]

theorem setField_fresh (k : Str) (v : Node) : ∀ d : Dict, k ∉ keys d → setField k v d = d ++ [(k, v)]
  | [], _ => rfl
  | (k', v') :: r, h => by
    have hk : ¬ k' = k := by
      intro e; apply h; simp [keys, e]
    have hr : k ∉ keys r := by
      intro e; apply h; simp only [keys, List.map_cons, List.mem_cons]; exact Or.inr e
    simp [setField, hk, setField_fresh k v r hr]

theorem dictUpdate_append : ∀ (st d : Dict), (keys (d ++ st)).Nodup → dictUpdate d st = d ++ st
  | [], d, _ => by simp [dictUpdate]
  | (k, v) :: r, d, h => by
    have hk : k ∉ keys d := by
      rw [keys_append] at h
      have := (List.nodup_append.mp h).2.2
      intro hm
      exact this k hm k (by simp [keys]) rfl
    have h' : (keys ((d ++ [(k, v)]) ++ r)).Nodup := by simpa using h
    simp only [dictUpdate, setField_fresh k v d hk]
    rw [dictUpdate_append r (d ++ [(k, v)]) h']
    simp

theorem dictUpdate_empty (st : Dict) (h : nodupKeys st = true) : dictUpdate [] st = st := by
  have : (keys ([] ++ st)).Nodup := by simpa [nodupKeys, keys] using h
  simpa using dictUpdate_append st [] this

theorem appendEach_eq : ∀ (l acc : List Node), appendEach acc l = acc ++ l
  | [], acc => by simp [appendEach]
  | x :: r, acc => by simp [appendEach, appendEach_eq r (acc ++ [x])]

/-- `G` answers AttributeError to every probe the protocols make on the instance `(ci, fields, items)`: the two on the
    instance itself and `__setstate__` on a freshly created instance of its class (empty dict, any members) -/
def Quiet (G : GA) (ci : Nat) (fields : Dict) (items : List Node) : Prop :=
  G (.agg ci fields items) nDeepcopy = .error .attr ∧ G (.agg ci fields items) nSlots = .error .attr ∧
    ∀ its, G (.agg ci [] its) nSetstate = .error .attr

mutual
  def QuietAll (G : GA) : Node → Prop
    | .val _ => True
    | .agg ci fields items => Quiet G ci fields items ∧ QuietFields G fields ∧ QuietItems G items
  def QuietFields (G : GA) : Dict → Prop
    | [] => True
    | (_, v) :: r => QuietAll G v ∧ QuietFields G r
  def QuietItems (G : GA) : List Node → Prop
    | [] => True
    | v :: r => QuietAll G v ∧ QuietItems G r
end

theorem QuietAll_agg (G : GA) (ci : Nat) (fields : Dict) (items : List Node) :
    QuietAll G (.agg ci fields items) ↔
      Quiet G ci fields items ∧ (∀ k v, (k, v) ∈ fields → QuietAll G v) ∧ ∀ v, v ∈ items → QuietAll G v := by
  rw [← allFields (pf := QuietFields G) trivial (fun _ _ _ => Iff.rfl),
    ← allItems (pl := QuietItems G) trivial (fun _ _ => Iff.rfl)]
  exact Iff.rfl

theorem dictsWF_agg (ci : Nat) (fields : Dict) (items : List Node) :
    dictsWF (.agg ci fields items) = true ↔
      nodupKeys fields = true ∧ (∀ k v, (k, v) ∈ fields → dictsWF v = true) ∧ ∀ v, v ∈ items → dictsWF v = true := by
  rw [← allFieldsB (pf := dictsWFFields) rfl (fun _ _ _ => rfl), ← allItemsB (pl := dictsWFItems) rfl (fun _ _ => rfl)]
  simp only [dictsWF, Bool.and_eq_true, and_assoc]

theorem reduceAgg_newobj (G : GA) (proto ci : Nat) (fields : Dict) (items : List Node) (hp : 2 ≤ proto) :
    reduceAgg G proto ci fields items = .ok ⟨.newobj, ci, [], getstate fields, some items⟩ := by
  have : ¬ proto < 2 := by omega
  simp [reduceAgg, this]

theorem reduceAgg_reconstructor (G : GA) (proto ci : Nat) (fields : Dict) (items : List Node) (hp : proto < 2)
    (hs : G (.agg ci fields items) nSlots = .error .attr) :
    reduceAgg G proto ci fields items = .ok ⟨.reconstructor, ci, items, getstate fields, none⟩ := by
  simp [reduceAgg, hp, slotsProbe, hs]

theorem build_ok (G : GA) (ci : Nat) (its : List Node) (st : Dict)
    (hs : G (.agg ci [] its) nSetstate = .error .attr) (hn : nodupKeys st = true) :
    build G ci [] its st = .ok st := by
  simp [build, setstateProbe, hs, dictUpdate_empty st hn]

/-- `_reconstruct` on the reduce value of protocol 4, handed the (copies of the) state and members -/
theorem reconstruct_newobj (G : GA) (ci : Nat) (fields : Dict) (items : List Node)
    (hs : G (.agg ci [] []) nSetstate = .error .attr) (hn : nodupKeys fields = true) :
    reconstruct G ⟨.newobj, ci, [], getstate fields, some items⟩ (.ok fields) (.ok items) =
      .ok (.agg ci fields items) := by
  cases fields with
  | nil => simp [reconstruct, create, getstate, appendEach_eq]
  | cons kv r =>
    simp [reconstruct, create, getstate, appendEach_eq, build_ok G ci [] (kv :: r) hs hn]

theorem deepcopyDict_ok (G : GA) : ∀ (r y : Dict), (∀ k v, (k, v) ∈ r → deepcopyNode G v = .ok v) →
    deepcopyDict G r y = .ok (dictUpdate y r)
  | [], _, _ => rfl
  | (k, v) :: r, y, hv => by
    simp [deepcopyDict, dictUpdate, hv k v List.mem_cons_self,
      deepcopyDict_ok G r _ (fun k' v' h => hv k' v' (List.mem_cons_of_mem _ h))]

theorem deepcopyItems_ok (G : GA) : ∀ (l : List Node), (∀ v, v ∈ l → deepcopyNode G v = .ok v) →
    deepcopyItems G l = .ok l
  | [], _ => by simp [deepcopyItems]
  | x :: r, hv => by
    have ih := deepcopyItems_ok G r (fun v h => hv v (List.mem_cons_of_mem _ h))
    simp [deepcopyItems, hv x List.mem_cons_self, ih]

theorem deepcopy_of_quiet (G : GA) : ∀ n, QuietAll G n → dictsWF n = true → deepcopyNode G n = .ok n := by
  intro n
  induction n using Node.induct with
  | val v => intro _ _; simp [deepcopyNode]
  | agg ci fields items ihf ihi =>
    intro hq hw
    obtain ⟨⟨hd, _, hs⟩, hqf, hqi⟩ := (QuietAll_agg ..).mp hq
    obtain ⟨hn, hwf, hwi⟩ := (dictsWF_agg ..).mp hw
    have hfields : deepcopyDict G fields [] = .ok fields := by
      rw [deepcopyDict_ok G fields [] (fun k v h => ihf k v h (hqf k v h) (hwf k v h)), dictUpdate_empty fields hn]
    have hitems : deepcopyItems G items = .ok items :=
      deepcopyItems_ok G items (fun v h => ihi v h (hqi v h) (hwi v h))
    simp only [deepcopyNode, deepcopyAt, deepcopyProbe, hd, hfields, hitems,
      reduceAgg_newobj G 4 ci fields items (by omega), PyM.ok_bind]
    exact reconstruct_newobj G ci fields items (hs []) hn

mutual
  /-- the pickle of an instance (what `dumps` produces when no probe fails) -/
  def pkOf (proto : Nat) : Node → Pk
    | .val v => .val v
    | .agg ci fields items =>
      .obj (if proto < 2 then .reconstructor else .newobj) ci (!fields.isEmpty) (pkDict proto fields)
        (pkItems proto items)
  def pkDict (proto : Nat) : Dict → List (Str × Pk)
    | [] => []
    | (k, v) :: r => (k, pkOf proto v) :: pkDict proto r
  def pkItems (proto : Nat) : List Node → List Pk
    | [] => []
    | v :: r => pkOf proto v :: pkItems proto r
end

theorem dumpsDict_ok (G : GA) (p : Nat) : ∀ (r : Dict), (∀ k v, (k, v) ∈ r → dumps G p v = .ok (pkOf p v)) →
    dumpsDict G p r = .ok (pkDict p r)
  | [], _ => by simp [dumpsDict, pkDict]
  | (k, v) :: r, hv => by
    have ih := dumpsDict_ok G p r (fun k' v' h => hv k' v' (List.mem_cons_of_mem _ h))
    simp [dumpsDict, pkDict, hv k v List.mem_cons_self, ih]

theorem dumpsItems_ok (G : GA) (p : Nat) : ∀ (l : List Node), (∀ v, v ∈ l → dumps G p v = .ok (pkOf p v)) →
    dumpsItems G p l = .ok (pkItems p l)
  | [], _ => by simp [dumpsItems, pkItems]
  | x :: r, hv => by
    have ih := dumpsItems_ok G p r (fun v h => hv v (List.mem_cons_of_mem _ h))
    simp [dumpsItems, pkItems, hv x List.mem_cons_self, ih]

theorem dumps_of_quiet (G : GA) (p : Nat) : ∀ n, QuietAll G n → dumps G p n = .ok (pkOf p n) := by
  intro n
  induction n using Node.induct with
  | val v => intro _; simp [dumps, pkOf]
  | agg ci fields items ihf ihi =>
    intro hq
    obtain ⟨⟨_, hsl, _⟩, hqf, hqi⟩ := (QuietAll_agg ..).mp hq
    have hfields := dumpsDict_ok G p fields (fun k v h => ihf k v h (hqf k v h))
    have hitems := dumpsItems_ok G p items (fun v h => ihi v h (hqi v h))
    by_cases hp : p < 2
    · simp only [dumps, dumpsAt, reduceAgg_reconstructor G p ci fields items hp hsl, hfields, hitems, PyM.ok_bind,
        pkOf, hp, if_true]
      cases fields <;> simp [getstate, pkDict]
    · simp only [dumps, dumpsAt, reduceAgg_newobj G p ci fields items (by omega), hfields, hitems, PyM.ok_bind,
        pkOf, hp, if_false]
      cases fields <;> simp [getstate, pkDict]

theorem loadsDict_ok (G : GA) (p : Nat) : ∀ (r y : Dict), (∀ k v, (k, v) ∈ r → loads G (pkOf p v) = .ok v) →
    loadsDict G (pkDict p r) y = .ok (dictUpdate y r)
  | [], _, _ => rfl
  | (k, v) :: r, y, hv => by
    simp [loadsDict, pkDict, dictUpdate, hv k v List.mem_cons_self,
      loadsDict_ok G p r _ (fun k' v' h => hv k' v' (List.mem_cons_of_mem _ h))]

theorem loadsItems_ok (G : GA) (p : Nat) : ∀ (l : List Node), (∀ v, v ∈ l → loads G (pkOf p v) = .ok v) →
    loadsItems G (pkItems p l) = .ok l
  | [], _ => by simp [loadsItems, pkItems]
  | x :: r, hv => by
    have ih := loadsItems_ok G p r (fun v h => hv v (List.mem_cons_of_mem _ h))
    simp [loadsItems, pkItems, hv x List.mem_cons_self, ih]

theorem loads_of_quiet (G : GA) (p : Nat) : ∀ n, QuietAll G n → dictsWF n = true → loads G (pkOf p n) = .ok n := by
  intro n
  induction n using Node.induct with
  | val v => intro _ _; simp [loads, pkOf]
  | agg ci fields items ihf ihi =>
    intro hq hw
    obtain ⟨⟨_, _, hs⟩, hqf, hqi⟩ := (QuietAll_agg ..).mp hq
    obtain ⟨hn, hwf, hwi⟩ := (dictsWF_agg ..).mp hw
    have hfields : loadsDict G (pkDict p fields) [] = .ok fields := by
      rw [loadsDict_ok G p fields [] (fun k v h => ihf k v h (hqf k v h) (hwf k v h)), dictUpdate_empty fields hn]
    have hitems : loadsItems G (pkItems p items) = .ok items :=
      loadsItems_ok G p items (fun v h => ihi v h (hqi v h) (hwi v h))
    simp only [pkOf, loads, loadsAt, hfields, hitems, PyM.ok_bind]
    cases fields with
    | nil => by_cases hp : p < 2 <;> simp [hp, extendItems]
    | cons kv r =>
      by_cases hp : p < 2 <;>
        simp [hp, extendItems, build_ok G ci items (kv :: r) (hs items) hn]

end Ofx.CopyProto
