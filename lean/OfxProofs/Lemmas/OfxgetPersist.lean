/-
Lemmas for C18: writing `ofxget.cfg` and reading it back; what every turn of the write loop preserves; the global
CLIENTUID across writes.
-/
import OfxProofs.Lemmas.OfxgetCanon
import OfxProofs.Lemmas.OfxgetValues

namespace Ofx.Ofxget
open Ofx Ofx.Spec.Ofxget

theorem kvsLookup_canon (s : Sect) (h : CanonSect s) (k : Name) : kvsLookup s k = (s.lookup k).map strip := by
  induction s with
  | nil => rfl
  | cons kv rest ih =>
    obtain ⟨a, b⟩ := kv
    have hn' : (a :: rest.map (·.1)).Nodup := h.1
    have hrest : CanonSect rest :=
      ⟨(List.nodup_cons.mp hn').2, fun kv hkv => h.2 kv (by simp [hkv])⟩
    have ha : lower a = a := h.2 (a, b) (by simp)
    have hnot : a ∉ rest.map (·.1) := (List.nodup_cons.mp hn').1
    simp only [kvsLookup, ih hrest, ha, List.lookup_cons]
    by_cases hk : k = a
    · subst hk
      have : rest.lookup k = none := List.lookup_eq_none_iff_not_mem_keys.mpr hnot
      simp [this]
    · have hb : (k == a) = false := beq_false_of_ne hk
      have hk' : ¬ a = k := fun e => hk e.symm
      simp [hb, hk']

theorem fileLookup_sections (secs : List (Str × Sect)) (hn : (secs.map (·.1)).Nodup) (s : Str) (k : Name) :
    fileLookup secs s k = (secs.lookup s).bind (fun x => kvsLookup x k) := by
  induction secs with
  | nil => rfl
  | cons sec rest ih =>
    obtain ⟨a, b⟩ := sec
    have hn' : (a :: rest.map (·.1)).Nodup := hn
    have hrest : (rest.map (·.1)).Nodup := (List.nodup_cons.mp hn').2
    have hnot : a ∉ rest.map (·.1) := (List.nodup_cons.mp hn').1
    simp only [fileLookup, ih hrest, List.lookup_cons]
    by_cases hs : s = a
    · subst hs
      have : rest.lookup s = none := List.lookup_eq_none_iff_not_mem_keys.mpr hnot
      simp [this]
    · have hb : (s == a) = false := beq_false_of_ne hs
      have hs' : ¬ a = s := fun e => hs e.symm
      simp [hb, hs']

/-- what a reader finds in the file `--write` produced: the stored text, stripped -/
theorem fileLookup_toFile (c : Ini) (h : Canon c) (s : Str) (k : Name) :
    fileLookup c.toFile s k = (c.look s k).map strip := by
  unfold Ini.toFile
  simp only [fileLookup]
  rw [fileLookup_sections _ h.names]
  by_cases hs : s = defaultSect
  · subst hs
    simp only [h.lookup_default, Option.bind_none, Option.none_or, if_true, Ini.look, kvsLookup_canon _ h.dflt]
  · have hs' : ¬ defaultSect = s := fun e => hs e.symm
    simp only [hs', if_false, Option.or_none, Ini.look, hs, Ini.sect]
    cases hl : c.sections.lookup s with
    | none => rfl
    | some x =>
      simp only [Option.bind_some, Option.getD_some]
      exact kvsLookup_canon x (h.sects _ (List.mem_of_lookup hl)) k

theorem fileHasSection_toFile (c : Ini) (s : Str) (hs : s ≠ defaultSect) :
    fileHasSection c.toFile s = c.hasSection s := by
  have hsf : (defaultSect == s) = false := by simpa using fun e : defaultSect = s => hs e.symm
  simp only [fileHasSection, Ini.toFile, List.any_cons, hsf, Bool.false_or, Ini.hasSection]
  induction c.sections with
  | nil => rfl
  | cons sec rest ih =>
    obtain ⟨a, b⟩ := sec
    simp only [List.any_cons, List.lookup_cons]
    by_cases h : a = s
    · subst h; simp
    · have h1 : (a == s) = false := beq_false_of_ne h
      have h2 : (s == a) = false := by simpa using fun e : s = a => h e.symm
      simp [h1, h2, ih]

theorem set_hasSection (c : Ini) (s : Str) (k : Name) (v : Str) (s' : Str) (h : c.hasSection s' = true) :
    (c.set s k v).hasSection s' = true := by
  unfold Ini.set
  split
  · exact h
  · simp only [Ini.hasSection, lookup_mapSet]
    split
    · rfl
    · exact h

theorem removeOption_hasSection (c : Ini) (s : Str) (k : Name) (s' : Str) (h : c.hasSection s' = true) :
    (c.removeOption s k).hasSection s' = true := by
  unfold Ini.removeOption
  split
  · exact h
  · simp only [Ini.hasSection, lookup_mapSet]
    split
    · rfl
    · exact h

theorem ensureSection_hasSection (c : Ini) (s : Str) (hs : s ≠ defaultSect) : (ensureSection c s).hasSection s = true := by
  unfold ensureSection
  split
  · rename_i h; exact h
  · have hsf : (s == defaultSect) = false := beq_false_of_ne hs
    simp only [hsf, Bool.false_eq_true, if_false, Ini.hasSection, List.lookup_append]
    cases c.sections.lookup s <;> simp

theorem set_defaults (c : Ini) (s : Str) (k : Name) (v : Str) (hs : s ≠ defaultSect) : (c.set s k v).defaults = c.defaults := by
  have hsf : (s == defaultSect) = false := beq_false_of_ne hs
  simp [Ini.set, hsf]

theorem removeOption_defaults (c : Ini) (s : Str) (k : Name) (hs : s ≠ defaultSect) :
    (c.removeOption s k).defaults = c.defaults := by
  have hsf : (s == defaultSect) = false := beq_false_of_ne hs
  simp [Ini.removeOption, hsf]

end Ofx.Ofxget

namespace Ofx.Ofxget
open Ofx Ofx.Spec.Ofxget

/-- the global CLIENTUID a reader finds in `ofxget.cfg` -/
def globalUid (disk : FileC) : Option Str := fileLookup disk defaultSect "clientuid".toList

theorem ensureSection_defaults (c : Ini) (s : Str) (hs : s ≠ defaultSect) : (ensureSection c s).defaults = c.defaults := by
  have hsf : (s == defaultSect) = false := beq_false_of_ne hs
  unfold ensureSection
  split
  · rfl
  · simp [hsf]

theorem mkServerCfg_defaults (T : Tables) (args : Chain) (mem lib : Ini) (hmem : Canon mem) (disk : FileC) (uuid : Str)
    (cfg' : Ini) (s : Str) (hs : s ≠ defaultSect) (hnick : serverNick args = .ok s)
    (h : mkServerCfg T args mem lib disk uuid = .ok cfg') :
    cfg'.defaults = (reloadCfg mem disk uuid).defaults ∧ Canon cfg' ∧ cfg'.hasSection s = true :=
  mkServerCfg_ind (fun c => c.defaults = (reloadCfg mem disk uuid).defaults ∧ Canon c ∧ c.hasSection s = true) hnick h
    ⟨ensureSection_defaults _ _ hs, canon_ensureSection _ (canon_reloadCfg mem hmem disk uuid) s hs,
      ensureSection_hasSection _ _ hs⟩
    fun cfg hc ot _ _ txt _ _ =>
      ⟨(set_defaults _ _ _ _ hs).trans hc.1, canon_set _ hc.2.1 _ _ _, set_hasSection _ _ _ _ _ hc.2.2⟩

theorem reloadCfg_uid_kept (mem : Ini) (disk : FileC) (uuid u : Str) (hu : globalUid disk = some u) :
    (reloadCfg mem disk uuid).defaults.lookup "clientuid".toList = some u := by
  rw [← look_default, reloadCfg_look, show fileLookup disk defaultSect "clientuid".toList = some u from hu]
  rfl

theorem reloadCfg_has_uid (mem : Ini) (disk : FileC) (uuid : Str) :
    ((reloadCfg mem disk uuid).defaults.lookup "clientuid".toList).isSome = true := by
  rw [← look_default, reloadCfg_look, if_pos (⟨rfl, rfl⟩ : defaultSect = defaultSect ∧ _)]
  generalize (fileLookup disk defaultSect "clientuid".toList).or _ = x
  cases x <;> rfl

/-- the file after one ofxget process (`merge_config`, then `write_config` if `args["write"]`) -/
def diskAfter (T : Tables) (lookup : Str → Option OhRec) (fidb : FileC) (disk : FileC) (run : Map × Str) : FileC :=
  match runOnce T lookup run.1 fidb disk run.2 with
  | .ok ⟨_, some (.ok ini)⟩ => ini.toFile
  | _ => disk

theorem writeConfig_some (T : Tables) (args : Chain) (mem lib : Ini) (disk : FileC) (uuid : Str) (c : Ini)
    (h : writeConfig T args mem lib disk uuid = .ok (some c)) : mkServerCfg T args mem lib disk uuid = .ok c := by
  unfold writeConfig at h
  obtain ⟨dry, _, h⟩ := PyM.bind_ok h
  split at h
  · cases h
  · obtain ⟨c', hm, h⟩ := PyM.bind_ok h
    cases h
    exact hm

theorem runOnce_written (T : Tables) (lookup : Str → Option OhRec) (ns : Map) (fidb disk : FileC) (uuid : Str)
    (args : Chain) (ini : Ini) (h : runOnce T lookup ns fidb disk uuid = .ok ⟨args, some (.ok ini)⟩) :
    mergeConfig T lookup ns (loadUser fidb disk) = .ok args ∧
    mkServerCfg T args (loadUser fidb disk) (loadLib fidb) disk uuid = .ok ini := by
  unfold runOnce at h
  obtain ⟨a, hm, h⟩ := PyM.bind_ok h
  obtain ⟨w, _, h⟩ := PyM.bind_ok h
  split at h
  · split at h <;> cases h
    rename_i hwc
    exact ⟨hm, writeConfig_some T _ _ _ disk uuid ini hwc⟩
  · cases h

theorem diskAfter_keeps_uid (T : Tables) (lookup : Str → Option OhRec) (fidb disk : FileC) (run : Map × Str) (u : Str)
    (hu : globalUid disk = some u) (hstrip : strip u = u)
    (hnick : ∀ args, mergeConfig T lookup run.1 (loadUser fidb disk) = .ok args → ∀ s, serverNick args = .ok s → s ≠ defaultSect) :
    globalUid (diskAfter T lookup fidb disk run) = some u := by
  unfold diskAfter
  split
  · rename_i args ini hrun
    obtain ⟨hm, hmk⟩ := runOnce_written T lookup run.1 fidb disk run.2 args ini hrun
    obtain ⟨s, _, hsn, _, _⟩ := mkServerCfg_ok hmk
    obtain ⟨hdef, hcanon, _⟩ := mkServerCfg_defaults T args _ _ (canon_loadUser fidb disk) disk run.2 ini s
      (hnick args hm s hsn) hsn hmk
    unfold globalUid
    rw [fileLookup_toFile ini hcanon, look_default, hdef, reloadCfg_uid_kept _ disk run.2 u hu]
    simp [hstrip]
  · exact hu

end Ofx.Ofxget

namespace Ofx.Ofxget
open Ofx Ofx.Spec.Ofxget

theorem get_default (c : Ini) (hc : Canon c) (k : Name) : c.get defaultSect k = c.defaults.lookup k := by
  simp [Ini.get, Ini.raw, Ini.sect, hc.lookup_default]

end Ofx.Ofxget
