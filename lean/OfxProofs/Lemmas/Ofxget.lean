/-
The ofxget layer (C18, C19), `merge_config`: first the lemmas about `mapSet` / `mapErase`, which every later file of the
layer uses; then what is assumed of the tables (`Tables.WF`, proved of the generated ones in `Gen/Ofxget.lean`),
`ChainMap` look-up as "first setter", and `merge_config` decomposed — the chain it returns answers every look-up like
[command line (`extractns`, or `sloppy` on the "URL as server" path), configuration files, OFX Home (`ohSource`), DEFAULTS]
(`mergeConfig_effective`).
-/
import OfxModel.Ofx.Ofxget
import OfxModel.Spec.Ofxget
import OfxProofs.Lemmas.PyM
import OfxProofs.Lemmas.Assoc

namespace Ofx.Ofxget
open Ofx Ofx.Spec.Ofxget

/-! Assignment and deletion in an association list, `mapSet` / `mapErase`: `Chain.set` below and `Ini.set`, `Ini.loadFile`,
    `Ini.removeOption` on the sections of a configuration are written with them -/

theorem lookup_mapSet {β : Type} (k k' : Name) (v : β) (m : List (Name × β)) :
    (mapSet k v m).lookup k' = if k' = k then some v else m.lookup k' := by
  induction m with
  | nil => simp only [mapSet, List.lookup_cons_ite, List.lookup_nil]
  | cons kv rest ih =>
    obtain ⟨a, b⟩ := kv
    by_cases hak : a = k
    · subst hak
      simp only [mapSet, BEq.rfl, if_true, List.lookup_cons_ite]
      split <;> rfl
    · simp only [mapSet, beq_iff_eq, hak, if_false, List.lookup_cons_ite, ih]
      split <;> simp_all

theorem lookup_mapSet_self {β : Type} (k : Name) (v : β) (m : List (Name × β)) : (mapSet k v m).lookup k = some v := by
  rw [lookup_mapSet]; simp

theorem mapSet_mapSet {β : Type} (k : Name) (v v' : β) (m : List (Name × β)) :
    mapSet k v (mapSet k v' m) = mapSet k v m := by
  induction m with
  | nil => simp [mapSet]
  | cons a rest ih => by_cases h : a.1 = k <;> simp [mapSet, h, ih]

theorem mapSet_of_lookup {β : Type} (k : Name) (v : β) (m : List (Name × β)) (h : m.lookup k = some v) :
    mapSet k v m = m := by
  induction m with
  | nil => cases h
  | cons a rest ih =>
    obtain ⟨a1, a2⟩ := a
    simp only [List.lookup_cons] at h
    simp only [mapSet]
    by_cases hk : k = a1
    · subst hk
      simp only [BEq.rfl, Option.some.injEq] at h
      simp [h]
    · have h1 : (k == a1) = false := by simpa using hk
      have h2 : (a1 == k) = false := by simpa using fun e : a1 = k => hk e.symm
      simp only [h1] at h
      simp [h2, ih h]

theorem map_mapSet {β γ : Type} (f : β → γ) (k : Name) (v : β) (m : List (Name × β)) :
    (mapSet k v m).map (fun kv => (kv.1, f kv.2)) = mapSet k (f v) (m.map (fun kv => (kv.1, f kv.2))) := by
  induction m with
  | nil => simp [mapSet]
  | cons a rest ih =>
    obtain ⟨a1, a2⟩ := a
    simp only [mapSet, List.map_cons]
    split <;> simp [ih]

theorem lookup_isSome_mapSet_present {β : Type} (n n' : Name) (x : β) (m : List (Name × β))
    (h : (m.lookup n).isSome = true) : ((mapSet n x m).lookup n').isSome = (m.lookup n').isSome := by
  rw [lookup_mapSet]
  by_cases e : n' = n
  · subst e; simp [h]
  · simp [e]

theorem mapSet_absent {β : Type} (k : Name) (v : β) (m : List (Name × β)) (h : k ∉ m.map (·.1)) :
    mapSet k v m = m ++ [(k, v)] := by
  induction m with
  | nil => rfl
  | cons a rest ih =>
    obtain ⟨a1, a2⟩ := a
    have h' : k ≠ a1 ∧ k ∉ rest.map (·.1) := by simpa using h
    have hb : (a1 == k) = false := by simpa using fun e : a1 = k => h'.1 e.symm
    simp [mapSet, hb, ih h'.2]

theorem mapSet_append_single {β : Type} (k : Name) (v x : β) (m : List (Name × β)) (h : k ∉ m.map (·.1)) :
    mapSet k v (m ++ [(k, x)]) = m ++ [(k, v)] := by
  rw [← mapSet_absent k x m h, mapSet_mapSet, mapSet_absent k v m h]

theorem foldl_mapSet_nodup (kvs pre : Sect) (hnd : (kvs.map (·.1)).Nodup)
    (hdis : ∀ kv ∈ kvs, kv.1 ∉ pre.map (·.1)) :
    kvs.foldl (fun s kv => mapSet kv.1 kv.2 s) pre = pre ++ kvs := by
  induction kvs generalizing pre with
  | nil => simp
  | cons kv rest ih =>
    have hnd' : kv.1 ∉ rest.map (·.1) ∧ (rest.map (·.1)).Nodup := by simpa using hnd
    simp only [List.foldl_cons]
    rw [mapSet_absent _ _ _ (hdis kv (by simp)), ih _ hnd'.2]
    · simp
    · intro x hx hm
      simp only [List.map_append, List.map_cons, List.map_nil, List.mem_append, List.mem_singleton] at hm
      rcases hm with hm | hm
      · exact hdis x (by simp [hx]) hm
      · exact hnd'.1 (by rw [← hm]; exact List.mem_map_of_mem hx)

theorem mem_mapSet {β : Type} (k : Name) (v : β) (m : List (Name × β)) (kv : Name × β) (h : kv ∈ mapSet k v m) :
    kv = (k, v) ∨ kv ∈ m := by
  induction m with
  | nil => simp only [mapSet, List.mem_singleton] at h; exact Or.inl h
  | cons a rest ih =>
    obtain ⟨a1, a2⟩ := a
    simp only [mapSet] at h
    split at h
    · rcases List.mem_cons.mp h with h | h
      · exact Or.inl h
      · exact Or.inr (by simp [h])
    · rcases List.mem_cons.mp h with h | h
      · exact Or.inr (by simp [h])
      · rcases ih h with h | h
        · exact Or.inl h
        · exact Or.inr (by simp [h])

theorem keys_mapSet {β : Type} (k : Name) (v : β) (m : List (Name × β)) :
    (mapSet k v m).map (·.1) = if k ∈ m.map (·.1) then m.map (·.1) else m.map (·.1) ++ [k] := by
  induction m with
  | nil => simp [mapSet]
  | cons a rest ih =>
    obtain ⟨a1, a2⟩ := a
    simp only [mapSet]
    by_cases h : (a1 == k) = true
    · have h' : a1 = k := by simpa using h
      subst h'
      simp
    · have h' : ¬ a1 = k := by simpa using h
      have hf : (a1 == k) = false := beq_false_of_ne h'
      have h'' : ¬ k = a1 := fun e => h' e.symm
      simp only [hf, Bool.false_eq_true, if_false, List.map_cons, ih, List.mem_cons, h'', false_or]
      split <;> simp

theorem nodup_keys_mapSet {β : Type} (k : Name) (v : β) (m : List (Name × β)) (h : (m.map (·.1)).Nodup) :
    ((mapSet k v m).map (·.1)).Nodup := by
  rw [keys_mapSet]
  split
  · exact h
  · rename_i hk
    rw [List.nodup_append]
    refine ⟨h, by simp, ?_⟩
    intro a ha b hb
    simp only [List.mem_singleton] at hb
    subst hb
    exact fun e => hk (e ▸ ha)

theorem mem_mapErase {β : Type} (k : Name) (m : List (Name × β)) (kv : Name × β) (h : kv ∈ mapErase k m) : kv ∈ m := by
  induction m with
  | nil => cases h
  | cons a rest ih =>
    obtain ⟨a1, a2⟩ := a
    simp only [mapErase] at h
    split at h
    · simp [h]
    · rcases List.mem_cons.mp h with h | h
      · simp [h]
      · simp [ih h]

theorem nodup_keys_mapErase {β : Type} (k : Name) (m : List (Name × β)) (h : (m.map (·.1)).Nodup) :
    ((mapErase k m).map (·.1)).Nodup := by
  induction m with
  | nil => simp [mapErase]
  | cons a rest ih =>
    obtain ⟨a1, a2⟩ := a
    simp only [List.map_cons, List.nodup_cons] at h
    simp only [mapErase]
    split
    · exact h.2
    · simp only [List.map_cons, List.nodup_cons]
      refine ⟨?_, ih h.2⟩
      intro hm
      obtain ⟨kv, hkv, hk⟩ := List.mem_map.mp hm
      exact h.1 (List.mem_map.mpr ⟨kv, mem_mapErase k rest kv hkv, hk⟩)

theorem lookup_mapErase_ne {β : Type} (k k' : Name) (m : List (Name × β)) (h : k' ≠ k) :
    (mapErase k m).lookup k' = m.lookup k' := by
  induction m with
  | nil => rfl
  | cons kv rest ih =>
    obtain ⟨a, b⟩ := kv
    simp only [mapErase]
    by_cases hak : (a == k) = true
    · have hak' : a = k := by simpa using hak
      subst hak'
      have : (k' == a) = false := beq_false_of_ne h
      simp [List.lookup_cons, this]
    · have hakf : (a == k) = false := eq_false_of_ne_true hak
      simp only [hakf, Bool.false_eq_true, if_false, List.lookup_cons, ih]

/-! What is assumed of the tables -/

def typeOfVal : CfgVal → Option CfgTy
  | .str _ => some .str
  | .int _ => some .int
  | .bool _ => some .bool
  | .list _ => some .list
  | .null => none

theorem pyEq_eq_of_typed (a b : CfgVal) (t : CfgTy) (ha : typeOfVal a = some t) (hb : typeOfVal b = some t)
    (h : pyEq a b = true) : a = b := by
  cases a <;> cases b <;> simp only [typeOfVal, Option.some.injEq, reduceCtorEq] at ha hb <;>
    first
    | (rw [← ha] at hb; cases hb; done)
    | (simp_all [pyEq])

theorem typedOfStr_type (T : Tables) (ty : CfgTy) (t : Str) (tv : CfgVal) (h : typedOfStr T ty t = .ok tv) :
    typeOfVal tv = some ty := by
  cases ty with
  | str => simp only [typedOfStr, Except.ok.injEq] at h; rw [← h]; rfl
  | int =>
    simp only [typedOfStr] at h
    split at h
    · simp only [Except.ok.injEq] at h; rw [← h]; rfl
    · cases h
  | bool =>
    simp only [typedOfStr] at h
    split at h
    · simp only [Except.ok.injEq] at h; rw [← h]; rfl
    · cases h
  | list => simp only [typedOfStr, Except.ok.injEq] at h; rw [← h]; rfl

/-- what the hand model assumes of `DEFAULTS` / `CONFIGURABLE` / the argparse defaults -/
def Tables.WF (T : Tables) : Bool :=
  !(T.configurable.map (·.1)).contains "password".toList
  -- CONFIGURABLE keys are what `optionxform` makes of them
  && T.configurable.all (fun kt => lower kt.1 == kt.1)
  && T.configurable.all (fun kt => (T.defaults.lookup kt.1).bind typeOfVal == some kt.2)
  -- no OFX Home lookup unless somebody names an id
  && T.defaults.lookup "ofxhome".toList == some (.str [])
  -- an option not typed on the command line is `None` in the namespace (so lower-ranking places can set it)
  && T.argDefaults.all (fun cmd => cmd.2.all fun kv =>
        kv.1 == "verbose".toList || kv.1 == "request".toList || kv.2 == .null)
  && T.defaultSection == defaultSect

/-- the two spellings `arg2config` writes for booleans are in `BOOLEAN_STATES` with their meaning -/
def Tables.BoolOk (T : Tables) : Bool :=
  pyBoolOfStr T "true".toList == some true && pyBoolOfStr T "false".toList == some false

/-- the options an OFX Home record can set -/
def ohKeys : List Name := ["url".toList, "org".toList, "fid".toList, "brokerid".toList]

/-- OFX Home only fills options whose built-in default is empty -/
def Tables.OhDefaultsEmpty (T : Tables) : Bool :=
  ohKeys.all fun k => match T.defaults.lookup k with | some d => isNullArg d | none => true

theorem Tables.wf_noPassword {T : Tables} (h : T.WF = true) : "password".toList ∉ T.configurable.map (·.1) := by
  simp only [Tables.WF, Bool.and_eq_true] at h
  simpa using h.1.1.1.1.1

theorem Tables.wf_lower {T : Tables} (h : T.WF = true) (ot : Name × CfgTy) (hot : ot ∈ T.configurable) :
    lower ot.1 = ot.1 := by
  simp only [Tables.WF, Bool.and_eq_true] at h
  simpa using List.all_eq_true.mp h.1.1.1.1.2 ot hot

theorem Tables.wf_default {T : Tables} (h : T.WF = true) (k : Name) (ty : CfgTy) (hkt : (k, ty) ∈ T.configurable) :
    ∃ d, T.defaults.lookup k = some d ∧ typeOfVal d = some ty := by
  simp only [Tables.WF, Bool.and_eq_true] at h
  have := List.all_eq_true.mp h.1.1.1.2 (k, ty) hkt
  cases hl : T.defaults.lookup k with
  | some d => exact ⟨d, rfl, by simpa [hl] using this⟩
  | none => simp [hl] at this

theorem Tables.wf_ofxhome {T : Tables} (h : T.WF = true) : T.defaults.lookup "ofxhome".toList = some (.str []) := by
  simp only [Tables.WF, Bool.and_eq_true] at h
  exact eq_of_beq h.1.1.2

/-! `ChainMap`: look-up finds the first map that sets the key, `maps.insert`, item assignment -/

theorem firstSetter_eq_get? (maps : List Map) (k : Name) : firstSetter maps k = Chain.get? maps k := by
  induction maps with
  | nil => rfl
  | cons m ms ih =>
    simp only [firstSetter, Chain.get?, List.findSome?]
    cases h : List.lookup k m with
    | none => simpa [Chain.get?] using ih
    | some v => rfl

theorem get?_cons (a : Map) (b : Chain) (k : Name) :
    Chain.get? (a :: b) k = match a.lookup k with
      | some v => some v
      | none => Chain.get? b k := by
  simp only [Chain.get?, List.findSome?_cons]
  cases List.lookup k a <;> rfl

theorem firstSetter_some_iff (ranked : List Map) (k : Name) (v : CfgVal) :
    firstSetter ranked k = some v ↔ IsFirstSetter ranked k v := by
  rw [firstSetter_eq_get?, Chain.get?, List.findSome?_eq_some_iff]
  exact ⟨fun ⟨pre, m, post, h, hm, hpre⟩ => ⟨pre, m, post, h, hpre, hm⟩,
    fun ⟨pre, m, post, h, hpre, hm⟩ => ⟨pre, m, post, h, hm, hpre⟩⟩

theorem firstSetter_none_iff (ranked : List Map) (k : Name) :
    firstSetter ranked k = none ↔ NoSetter ranked k := by
  rw [firstSetter_eq_get?, Chain.get?, List.findSome?_eq_none_iff]
  rfl

/-- `maps.insert(-1, x)` on the three maps of `merge_config` puts `x` just before the defaults -/
theorem pyInsert_before_last (a b c x : α) : pyInsert [a, b, c] (-1) x = [a, b, x, c] := by
  simp [pyInsert]

theorem pyInsert_one (a : α) (rest : List α) (x : α) : pyInsert (a :: rest) 1 x = a :: x :: rest := by
  have h : ¬ ((rest.length : Int) + 1 < 1) := by omega
  simp [pyInsert, h]

theorem get?_set (m : Map) (ms : List Map) (k k' : Name) (v : CfgVal) :
    Chain.get? (Chain.set (m :: ms) k v) k' = if k' = k then some v else Chain.get? (m :: ms) k' := by
  simp only [Chain.set, Chain.get?, List.findSome?, lookup_mapSet]
  by_cases h : k' = k <;> simp [h]

/-! `merge_config` taken apart -/

/-- the OFX Home source: the record found under the id in effect before OFX Home is consulted -/
def ohSource (lookup : Str → Option OhRec) (three : Chain) : Map :=
  match three.get? "ofxhome".toList with
  | some (.str s) => if s.isEmpty then [] else (match lookup s with | some r => r.toMap | none => [])
  | _ => []

theorem get?_skip_empty (b : Map) (ds : Chain) (k : Name) : Chain.get? (b :: [] :: ds) k = Chain.get? (b :: ds) k := by
  rw [get?_cons, get?_cons, get?_cons]
  rfl

theorem getItem_ok (c : Chain) (k : Name) (v : CfgVal) (h : c.getItem k = .ok v) : c.get? k = some v := by
  unfold Chain.getItem at h
  split at h
  · rename_i v' hv
    rw [hv, ← Except.ok.inj h]
  · cases h

theorem mergeFromOfxhome_shape (lookup : Str → Option OhRec) (a b d : Map) (c : Chain)
    (h : mergeFromOfxhome lookup [a, b, d] = .ok c) :
    (c = [a, b, d] ∧ ohSource lookup [a, b, d] = []) ∨ c = [a, b, ohSource lookup [a, b, d], d] := by
  unfold mergeFromOfxhome at h
  obtain ⟨id, hid, h⟩ := PyM.bind_ok h
  unfold ohSource
  rw [getItem_ok _ _ _ hid]
  have hsame : ∀ {m : Map}, (pure [a, b, d] : PyM Chain) = .ok c → m = [] →
      (c = [a, b, d] ∧ m = []) ∨ c = [a, b, m, d] :=
    fun h hm => Or.inl ⟨(Except.ok.inj h).symm, hm⟩
  cases id with
  | str s =>
    by_cases hs : s.isEmpty = true
    · have : truthy (.str s) = false := by simp [truthy, hs]
      rw [this] at h
      exact hsame h (if_pos hs)
    · have : truthy (.str s) = true := by simp [truthy, hs]
      simp only [this, if_true] at h
      simp only [hs, Bool.false_eq_true, if_false]
      cases hl : lookup s with
      | none => rw [hl] at h; exact hsame h rfl
      | some r =>
        rw [hl] at h
        exact Or.inr (by rw [← Except.ok.inj h, pyInsert_before_last])
  | _ => exact hsame (by split at h <;> exact h) rfl

theorem ohSource_empty_of_not_wanted (T : Tables) (hwf : T.WF = true) (lookup : Str → Option OhRec)
    (args userCfg : Map) (h : wantsOfxhome args userCfg [args, userCfg, T.defaults] = .ok false) :
    ohSource lookup [args, userCfg, T.defaults] = [] := by
  have hd := Tables.wf_ofxhome hwf
  unfold wantsOfxhome at h
  unfold ohSource
  generalize "ofxhome".toList = key at h hd ⊢
  cases ha : List.lookup key args with
  | some v => rw [ha] at h; simp at h
  | none =>
    cases hu : List.lookup key userCfg with
    | some v => rw [ha, hu] at h; simp at h
    | none => simp [Chain.get?, List.findSome?, ha, hu, hd]

/-- what the "sloppy CLI" tail does to the command-line map: a URL given as the server positional -/
def sloppy (args : Map) (server : Str) : Map :=
  mapSet "server".toList .null (mapSet "url".toList (.str server) args)

theorem finishMerge_get? (T : Tables) (args : Map) (rest : List Map) (c : Chain)
    (h : finishMerge T args (args :: rest) = .ok c) :
    c = args :: rest ∨ ∃ server, args.lookup "server".toList = some (.str server) ∧ c = sloppy args server :: rest := by
  unfold finishMerge at h
  simp only at h
  split at h
  · left; simpa using h.symm
  · split at h
    · obtain ⟨cmd, -, h⟩ := PyM.bind_ok h
      split at h
      · split at h <;> cases h
      · cases h
    · rename_i server hsrv
      split at h
      · right
        refine ⟨server, hsrv, ?_⟩
        simp [Chain.set, sloppy] at h
        exact h.symm
      · cases h
    · cases h

theorem userCfgOf_server (T : Tables) (cfg : Ini) (args userCfg : Map) (s : Str)
    (hsrv : args.lookup "server".toList = some (.str s)) (h : userCfgOf T cfg args = .ok userCfg) :
    readConfig T cfg s = .ok userCfg := by
  unfold userCfgOf at h
  rw [hsrv] at h
  exact h

/-- `merge_config` taken apart: the command line first, then maps that answer like [configuration files, OFX Home
    record, DEFAULTS], handed to the "Missing URL" tail -/
theorem mergeConfig_ok (T : Tables) (hwf : T.WF = true) (lookup : Str → Option OhRec) (ns : Map) (cfg : Ini)
    (c : Chain) (h : mergeConfig T lookup ns cfg = .ok c) :
    ∃ userCfg rest, userCfgOf T cfg (extractns ns) = .ok userCfg ∧
      (∀ k, Chain.get? rest k =
        Chain.get? [userCfg, ohSource lookup [extractns ns, userCfg, T.defaults], T.defaults] k) ∧
      finishMerge T (extractns ns) (extractns ns :: rest) = .ok c := by
  unfold mergeConfig at h
  obtain ⟨userCfg, hu, h⟩ := PyM.bind_ok h
  obtain ⟨go, hgo, h⟩ := PyM.bind_ok h
  have hskip : ohSource lookup [extractns ns, userCfg, T.defaults] = [] → ∀ k, Chain.get? [userCfg, T.defaults] k =
      Chain.get? [userCfg, ohSource lookup [extractns ns, userCfg, T.defaults], T.defaults] k := by
    intro hoh k
    rw [hoh, get?_skip_empty]
  cases go with
  | false => exact ⟨userCfg, _, hu, hskip (ohSource_empty_of_not_wanted T hwf lookup _ _ hgo), h⟩
  | true =>
    obtain ⟨merged, hm, h⟩ := PyM.bind_ok h
    rcases mergeFromOfxhome_shape lookup _ _ _ merged hm with ⟨hc, hoh⟩ | hc
    · subst hc
      exact ⟨userCfg, _, hu, hskip hoh, h⟩
    · subst hc
      exact ⟨userCfg, _, hu, fun k => rfl, h⟩

theorem effective_cons (cli : Map) (r1 r2 : Chain) (k : Name) (h : Chain.get? r1 k = Chain.get? r2 k) :
    effective (cli :: r1) k = firstSetter (cli :: r2) k := by
  rw [firstSetter_eq_get?, effective, get?_cons, get?_cons, h]

theorem mergeConfig_effective (T : Tables) (hwf : T.WF = true) (lookup : Str → Option OhRec) (ns : Map) (cfg : Ini)
    (c : Chain) (h : mergeConfig T lookup ns cfg = .ok c) :
    ∃ cli userCfg, userCfgOf T cfg (extractns ns) = .ok userCfg ∧
      (cli = extractns ns ∨ ∃ server, (extractns ns).lookup "server".toList = some (.str server) ∧
          cli = sloppy (extractns ns) server) ∧
      ∀ k, effective c k =
        firstSetter [cli, userCfg, ohSource lookup [extractns ns, userCfg, T.defaults], T.defaults] k := by
  obtain ⟨userCfg, rest, hu, hg, hf⟩ := mergeConfig_ok T hwf lookup ns cfg c h
  rcases finishMerge_get? T _ _ c hf with hc | ⟨server, hs, hc⟩
  · exact ⟨_, userCfg, hu, Or.inl rfl, fun k => by rw [hc]; exact effective_cons _ _ _ k (hg k)⟩
  · exact ⟨_, userCfg, hu, Or.inr ⟨server, hs, rfl⟩, fun k => by rw [hc]; exact effective_cons _ _ _ k (hg k)⟩

theorem finishMerge_dry (T : Tables) (args : Map) (rest : List Map) (d : CfgVal)
    (hd : args.lookup "dryrun".toList = some d) (ht : truthy d = true) :
    finishMerge T args (args :: rest) = .ok (args :: rest) := by
  unfold finishMerge
  have : Chain.get? (args :: rest) "dryrun".toList = some d := by rw [get?_cons, hd]
  simp only [this, Option.getD_some, ht, Bool.or_true, Bool.true_or, if_true, PyM.pure_eq]

/-- `merge_config` for a command line that sets `--dryrun`: no "URL as server" detour -/
theorem mergeConfig_effective_dry (T : Tables) (hwf : T.WF = true) (lookup : Str → Option OhRec) (ns : Map) (cfg : Ini)
    (c : Chain) (d : CfgVal) (hd : (extractns ns).lookup "dryrun".toList = some d) (ht : truthy d = true)
    (h : mergeConfig T lookup ns cfg = .ok c) :
    ∃ userCfg, userCfgOf T cfg (extractns ns) = .ok userCfg ∧
      ∀ k, effective c k =
        firstSetter [extractns ns, userCfg, ohSource lookup [extractns ns, userCfg, T.defaults], T.defaults] k := by
  obtain ⟨userCfg, rest, hu, hg, hf⟩ := mergeConfig_ok T hwf lookup ns cfg c h
  rw [finishMerge_dry T _ _ d hd ht] at hf
  exact ⟨userCfg, hu, fun k => by rw [← Except.ok.inj hf]; exact effective_cons _ _ _ k (hg k)⟩

end Ofx.Ofxget
