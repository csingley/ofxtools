/-
Lemmas for the header refusal theorems in concrete form (C12Ext) and for the layout boundaries (C05Ext): where the
marker `OFXHEADER:` can occur inside a text made of `NAME:value<whitespace>` lines, and inversion of the v1 and v2
matchers, where a match forces the sequence of field names and the character class of every value.
-/
import OfxProofs.Lemmas.HeaderV2

namespace Ofx.Header
open Ofx
attribute [-simp] String.reduceToList

theorem marker_line {nm n w : Str} (hn : ':' ∉ n) (hw : ':' ∉ w) (h : nm ++ [':'] <:+: n ++ ':' :: w) :
    nm <:+ n := by
  obtain ⟨x, y, hxy⟩ := h
  have h1 : (x ++ nm) ++ ':' :: y = n ++ ':' :: w := by simpa using hxy
  rcases List.append_eq_append_iff.1 h1 with ⟨a', ha, hb⟩ | ⟨c', ha, hb⟩
  · cases a' with
    | nil => exact ⟨x, by simpa using ha.symm⟩
    | cons d a'' =>
      simp only [List.cons_append, List.cons.injEq] at hb
      exact absurd (by rw [ha, ← hb.1]; simp) hn
  · cases c' with
    | nil => exact ⟨x, by simpa using ha⟩
    | cons d c'' =>
      simp only [List.cons_append, List.cons.injEq] at hb
      exact absurd (by rw [hb.2]; simp) hw

/-- the value may be empty and may contain whitespace -/
structure Fld.Good (f : Fld) : Prop where
  name : isName f.name
  name9 : f.name ∈ names9
  val_colon : ':' ∉ f.val
  sep_ne : f.sep ≠ []
  sep : allSpace f.sep

structure Fld.Weak (f : Fld) : Prop where
  name : ':' ∉ f.name
  val_colon : ':' ∉ f.val
  sep_ne : f.sep ≠ []
  sep : allSpace f.sep

theorem Fld.Good.weak {f : Fld} (g : f.Good) : f.Weak := ⟨g.name.2.1, g.val_colon, g.sep_ne, g.sep⟩

theorem NF_head (fs : List Fld) (B : Str) (hfs : ∀ f ∈ fs, f.Good) (hB : ∀ c ∈ B.head?, isSpace c = false) :
    ∀ c ∈ (NF fs B).head?, isSpace c = false := by
  cases fs with
  | nil => exact hB
  | cons f fs =>
    have g := hfs f (by simp)
    intro c hc
    obtain ⟨d, ds, hd⟩ := List.exists_cons_of_ne_nil g.name.1
    simp only [NF, hd, List.cons_append, List.head?_cons, Option.mem_def, Option.some.injEq] at hc
    subst hc
    exact g.name.2.2 d (by rw [hd]; simp)

theorem marker_infix_NF (nm : Str) (hns : ∀ c ∈ nm, isSpace c = false) (fs : List Fld) (R : Str)
    (hfs : ∀ f ∈ fs, f.Weak) (h : nm ++ [':'] <:+: NF fs R) :
    (∃ f ∈ fs, nm <:+ f.name) ∨ nm ++ [':'] <:+: R := by
  have hsp : ∀ c, isSpace c = true → c ∉ nm ++ [':'] := by
    intro c hc hm
    rcases List.mem_append.1 hm with hm | hm
    · rw [hns c hm] at hc; cases hc
    · simp at hm; subst hm; revert hc; decide
  induction fs with
  | nil => exact Or.inr h
  | cons f fs ih =>
    have g := hfs f (by simp)
    obtain ⟨c, sep', hsep⟩ := List.exists_cons_of_ne_nil g.sep_ne
    have e : NF (f :: fs) R = (f.name ++ ':' :: f.val) ++ c :: (sep' ++ NF fs R) := by
      simp [NF, hsep]
    rw [e] at h
    rcases List.infix_sep (hsp c (g.sep c (by rw [hsep]; simp))) h with h1 | h2
    · exact Or.inl ⟨f, by simp, marker_line g.name g.val_colon h1⟩
    · have h3 := List.infix_skip (by simp) (fun d hd => hsp d (g.sep d (by rw [hsep]; simp [hd]))) h2
      rcases ih (fun x hx => hfs x (by simp [hx])) h3 with ⟨x, hx, hs⟩ | hr
      · exact Or.inl ⟨x, by simp [hx], hs⟩
      · exact Or.inr hr

def ofxMarker : Str := "OFXHEADER".toList ++ [':']

theorem ofxMarker_ns : ∀ c ∈ "OFXHEADER".toList, isSpace c = false := by decide

theorem ofxMarker_skip_space {g s : Str} (hg : allSpace g) (h : ofxMarker <:+: g ++ s) : ofxMarker <:+: s := by
  have key : ∀ d ∈ ofxMarker, isSpace d = false := by decide
  exact List.infix_skip (by decide) (fun c hc hm => absurd (hg c hc) (by rw [key c hm]; decide)) h

theorem reMatch_v1_none (s : Str) (h : ¬ ofxMarker <:+: s) : reMatch v1Regex s = none := by
  rw [reMatch_v1, ws0_def, matchSegs_field]
  apply step_lit_none
  cases hp : ("OFXHEADER".toList ++ [':']).isPrefixOf (s.dropWhile isSpace) with
  | false => rfl
  | true => exact absurd (List.isPrefix_infix_of_suffix (List.isPrefixOf_iff_prefix.1 hp) (List.dropWhile_suffix _)) h

theorem reSearch_v1_none (s : Str) (h : ¬ ofxMarker <:+: s) : reSearch v1Regex s = none :=
  (reSearch_eq_none_iff _ _).2 fun t ht => reMatch_v1_none t fun hi => h (hi.trans ht.isInfix)

theorem reSearch_v1_eq_match (s : Str) (h : ¬ ofxMarker <:+: s.drop 1) : reSearch v1Regex s = reMatch v1Regex s := by
  cases s with
  | nil => rfl
  | cons c cs =>
    cases hm : reMatch v1Regex (c :: cs) with
    | some r => exact reSearch_of_match _ _ _ hm
    | none => rw [reSearch_cons_none _ _ _ hm]; exact reSearch_v1_none cs (by simpa using h)

def WordFail (K : St → Str → Option Res) : Prop :=
  ∀ (st : St) (v c rest), v ≠ [] → ':' ∉ v → (∀ d ∈ v.head?, isSpace d = false) → isSpace c = true →
    K st (v ++ c :: rest) = none

theorem lit_word_fail (nm v rest : Str) (c : Char) (hnm : ∀ d ∈ nm, isSpace d = false) (hv : ':' ∉ v)
    (hc : isSpace c = true) : (nm ++ [':']).isPrefixOf (v ++ c :: rest) = false := by
  cases h : (nm ++ [':']).isPrefixOf (v ++ c :: rest) with
  | false => rfl
  | true =>
    obtain ⟨t, ht⟩ := List.isPrefixOf_iff_prefix.1 h
    have h1 : nm ++ ':' :: t = v ++ c :: rest := by simpa using ht
    rcases List.append_eq_append_iff.1 h1 with ⟨a', ha, hb⟩ | ⟨c', ha, hb⟩
    · cases a' with
      | nil =>
        simp only [List.nil_append, List.cons.injEq] at hb
        rw [← hb.1] at hc; revert hc; decide
      | cons d a'' =>
        simp only [List.cons_append, List.cons.injEq] at hb
        exact absurd (by rw [ha, ← hb.1]; simp) hv
    · cases c' with
      | nil =>
        simp only [List.nil_append, List.cons.injEq] at hb
        rw [hb.1] at hc; revert hc; decide
      | cons d c'' =>
        simp only [List.cons_append, List.cons.injEq] at hb
        have : isSpace c = false := hnm c (by rw [ha, ← hb.1]; simp)
        rw [this] at hc; cases hc

theorem wordFail_lit (nm : Str) (k : St → Str → Option Res) (hnm : ∀ d ∈ nm, isSpace d = false) :
    WordFail (stepItem (.lit (nm ++ [':'])) k) := by
  intro st v c rest _ hv _ hc
  exact step_lit_none _ _ _ _ (lit_word_fail nm v rest c hnm hv hc)

theorem wordFail_field (nm : Str) (p : Char → Bool) (next : List Seg) (hnm : nm ∈ names9) :
    WordFail (matchSegs (fieldSegs nm p next)) := by
  simp only [fieldSegs, matchSegs_item]
  exact wordFail_lit nm _ (names9_isName nm hnm).2.2

theorem wordFail_opt : WordFail (matchSegs (.opt compItems :: tail8)) := by
  intro st v c rest h1 h2 h3 h4
  rw [matchSegs_opt, matchItems_comp,
    wordFail_lit _ _ (names9_isName _ (by simp [names9])).2.2 st v c rest h1 h2 h3 h4]
  exact wordFail_field _ _ _ (by simp [names9]) _ v c rest h1 h2 h3 h4

/-- what `\s*(class+)\s*` accepts -/
def InStrip (p : Char → Bool) (v : Str) : Prop :=
  ∃ a core b, v = a ++ (core ++ b) ∧ allSpace a ∧ allSpace b ∧ inClass p core

theorem dropWhile_append_ne (b s : Str) (h : b.dropWhile isSpace ≠ []) :
    (b ++ s).dropWhile isSpace = b.dropWhile isSpace ++ s := by
  rw [List.dropWhile_append, if_neg (by simpa using h)]

theorem take_takeWhile_all (p : Char → Bool) (s : Str) (n : Nat) (h : n ≤ (s.takeWhile p).length) :
    ∀ c ∈ s.take n, p c = true := by
  intro c hc
  rw [← List.takeWhile_append_dropWhile (p := p) (l := s), List.take_append_of_le_length h] at hc
  exact List.mem_takeWhile (List.mem_of_mem_take hc)

theorem allSpace_append {a b : Str} (ha : allSpace a) (hb : allSpace b) : allSpace (a ++ b) := by
  intro c hc
  rcases List.mem_append.1 hc with h | h
  · exact ha c h
  · exact hb c h

theorem head_append_ne (v s : Str) (hv : v ≠ []) : (v ++ s).head? = v.head? := by
  cases v with
  | nil => exact absurd rfl hv
  | cons c cs => rfl

theorem lit_NF_inv (nm : Str) (k : St → Str → Option Res) (st : St) (fs : List Fld) (B : Str) (r : Res)
    (hnm : ':' ∉ nm) (hlt : '<' ∉ nm) (hfs : ∀ f ∈ fs, f.Good) (hB : ∀ c ∈ B.head?, c = '<')
    (h : stepItem (.lit (nm ++ [':'])) k st (NF fs B) = some r) :
    ∃ f fs', fs = f :: fs' ∧ f.name = nm ∧ k st (f.val ++ (f.sep ++ NF fs' B)) = some r := by
  obtain ⟨t, ht, hk⟩ := lit_inv _ _ _ _ _ h
  cases fs with
  | nil =>
    simp only [NF] at ht
    exfalso
    cases nm with
    | nil =>
      rw [ht] at hB
      exact absurd (hB ':' (by simp)) (by decide)
    | cons d ds =>
      rw [ht] at hB
      have := hB d (by simp)
      exact hlt (by rw [this]; simp)
  | cons f fs' =>
    have g := hfs f (by simp)
    simp only [NF] at ht
    have h1 : f.name ++ ':' :: (f.val ++ (f.sep ++ NF fs' B)) = nm ++ ':' :: t := by simpa using ht
    have hn := (List.append_cons_inj_of_not_mem g.name.2.1 hnm h1).1
    rw [hn] at h1
    have h2 := List.append_cancel_left h1
    simp only [List.cons.injEq, true_and] at h2
    exact ⟨f, fs', rfl, hn, by rw [h2]; exact hk⟩

theorem take_drop_word (v : Str) (n : Nat) (hn : n < v.length) (hv : ':' ∉ v) (hs : ∀ d ∈ v, isSpace d = false) :
    v.drop n ≠ [] ∧ ':' ∉ v.drop n ∧ ∀ d ∈ v.drop n, isSpace d = false := by
  refine ⟨?_, fun h => hv (List.mem_of_mem_drop h), fun d hd => hs d (List.mem_of_mem_drop hd)⟩
  intro h
  have := congrArg List.length h
  simp at this
  omega

theorem cap_B_fail (p : Char → Bool) (k : St → Str → Option Res) (st : St) (B : Str) (hB : ∀ c ∈ B.head?, c = '<')
    (hplt : p '<' = false) : stepItem (.cap p) k st B = none := by
  cases hc : stepItem (.cap p) k st B with
  | none => rfl
  | some r =>
    exfalso
    obtain ⟨n, hn0, hn1, _⟩ := cap_inv p k st B r hc
    cases B with
    | nil => simp at hn1; omega
    | cons b bs =>
      have := hB b (by simp)
      subst this
      simp [List.takeWhile, hplt] at hn1
      omega

theorem cap_name_fail (p : Char → Bool) (K : St → Str → Option Res) (st : St) (f2 : Fld) (X : Str)
    (g2 : f2.Good) (hpc : p ':' = false) (hN : NameFail K) :
    stepItem (.cap p) (stepItem .ws0 K) st (f2.name ++ ':' :: X) = none := by
  cases hc : stepItem (.cap p) (stepItem .ws0 K) st (f2.name ++ ':' :: X) with
  | none => rfl
  | some r =>
    exfalso
    obtain ⟨n, hn0, hn1, hkn⟩ := cap_inv p _ st _ r hc
    have hle : n ≤ f2.name.length := Nat.le_trans hn1 (takeWhile_stop_le p f2.name X ':' hpc)
    rw [List.drop_append_of_le_length hle] at hkn
    rw [ws0_def, List.dropWhile_of_head (drop_name_head f2.name X n g2.name.2.2), hN _ f2.name n X g2.name9 hn0 hle]
      at hkn
    cases hkn

theorem field_inv (nm : Str) (p : Char → Bool) (K' : St → Str → Option Res) (st : St) (fs : List Fld) (B : Str)
    (r : Res) (hnm : nm ∈ names9) (hfs : ∀ f ∈ fs, f.Good) (hB : ∀ c ∈ B.head?, c = '<')
    (hp : ∀ c, p c = true → isSpace c = false)
    (h : stepItem (.lit (nm ++ [':'])) (stepItem .ws0 (stepItem (.cap p) K')) st (NF fs B) = some r) :
    ∃ f fs', fs = f :: fs' ∧ f.name = nm ∧
      ((allSpace f.val ∧ stepItem (.cap p) K' st (NF fs' B) = some r) ∨
       ∃ n, 0 < n ∧ n ≤ ((f.val.dropWhile isSpace).takeWhile p).length ∧
         K' { st with caps := some ((f.val.dropWhile isSpace).take n) :: st.caps }
           ((f.val.dropWhile isSpace).drop n ++ (f.sep ++ NF fs' B)) = some r) := by
  obtain ⟨f, fs', hfs', hn, hk⟩ := lit_NF_inv nm _ st fs B r (names9_nocolon nm hnm) (names9_nolt nm hnm) hfs hB h
  subst hfs'
  have g := hfs f (by simp)
  refine ⟨f, fs', rfl, hn, ?_⟩
  rw [ws0_def] at hk
  by_cases hv1 : f.val.dropWhile isSpace = []
  · have hval := List.dropWhile_eq_nil_iff.1 hv1
    have hB' : ∀ c ∈ B.head?, isSpace c = false := by
      intro c hc; rw [hB c hc]; decide
    have e : f.val ++ (f.sep ++ NF fs' B) = (f.val ++ f.sep) ++ NF fs' B := by simp
    rw [e, List.dropWhile_run (allSpace_append hval g.sep) (NF_head fs' B (fun x hx => hfs x (by simp [hx])) hB')] at hk
    exact Or.inl ⟨hval, hk⟩
  · rw [dropWhile_append_ne _ _ hv1] at hk
    obtain ⟨n, hn0, hn1, hkn⟩ := cap_inv p _ st _ r hk
    -- the run of class characters ends with the value: the separator starts with a whitespace character
    obtain ⟨c, sep', hsep⟩ := List.exists_cons_of_ne_nil g.sep_ne
    have hcs : isSpace c = true := g.sep c (by rw [hsep]; simp)
    have hpcf : p c = false := by
      cases hpc' : p c with
      | false => rfl
      | true => rw [hp c hpc'] at hcs; cases hcs
    rw [List.takeWhile_append_stop _ (by rw [hsep]; intro d hd; simp at hd; subst hd; exact hpcf)] at hn1
    have hle : n ≤ (f.val.dropWhile isSpace).length := Nat.le_trans hn1 (List.takeWhile_sublist p).length_le
    rw [List.drop_append_of_le_length hle, List.take_append_of_le_length hle] at hkn
    exact Or.inr ⟨n, hn0, hn1, hkn⟩

theorem block_inv (nm : Str) (p : Char → Bool) (K : St → Str → Option Res) (st : St) (fs : List Fld) (B : Str)
    (r : Res) (hnm : nm ∈ names9) (hfs : ∀ f ∈ fs, f.Good) (hB : ∀ c ∈ B.head?, c = '<')
    (hp : ∀ c, p c = true → isSpace c = false) (hpc : p ':' = false) (hplt : p '<' = false)
    (hK : WordFail K) (hN : NameFail K)
    (h : stepItem (.lit (nm ++ [':'])) (stepItem .ws0 (stepItem (.cap p) (stepItem .ws0 K))) st (NF fs B) = some r) :
    ∃ f fs', fs = f :: fs' ∧ (f.name = nm ∧ InStrip p f.val) ∧ ∃ st', K st' (NF fs' B) = some r := by
  obtain ⟨f, fs', rfl, hn, hcase⟩ := field_inv nm p _ st fs B r hnm hfs hB hp h
  have g := hfs f (by simp)
  have hfs2 : ∀ x ∈ fs', x.Good := fun x hx => hfs x (by simp [hx])
  refine ⟨f, fs', rfl, ?_⟩
  rcases hcase with ⟨_, hk⟩ | ⟨n, hn0, hn1, hkn⟩
  · -- the value is all whitespace: the capture would have to start on the next line (or on the body)
    exfalso
    cases fs' with
    | nil => rw [NF, cap_B_fail p _ st B hB hplt] at hk; cases hk
    | cons f2 fs2 => rw [NF, cap_name_fail p K st f2 _ (hfs2 f2 (by simp)) hpc hN] at hk; cases hk
  · -- what the capture leaves of the value is whitespace: `K` cannot resume inside a word
    have hB' : ∀ c ∈ B.head?, isSpace c = false := by
      intro c hc; rw [hB c hc]; decide
    have hcore : inClass p ((f.val.dropWhile isSpace).take n) := by
      refine ⟨?_, take_takeWhile_all p _ n hn1⟩
      intro h0
      have := congrArg List.length h0
      simp at this
      rcases this with h1 | h1
      · omega
      · rw [h1] at hn1; simp at hn1; omega
    have hb : allSpace ((f.val.dropWhile isSpace).drop n) := by
      by_cases hb : ((f.val.dropWhile isSpace).drop n).dropWhile isSpace = []
      · exact List.dropWhile_eq_nil_iff.1 hb
      · exfalso
        obtain ⟨c, sep', hsep⟩ := List.exists_cons_of_ne_nil g.sep_ne
        rw [ws0_def, dropWhile_append_ne _ _ hb, hsep, List.cons_append,
          hK _ _ c _ hb (fun hm => g.val_colon ((List.dropWhile_sublist _).subset
              (List.mem_of_mem_drop ((List.dropWhile_sublist _).subset hm))))
            (head_dropWhile_space _) (g.sep c (by rw [hsep]; simp))] at hkn
        cases hkn
    refine ⟨⟨hn, f.val.takeWhile isSpace, (f.val.dropWhile isSpace).take n, (f.val.dropWhile isSpace).drop n, ?_,
      fun _ => List.mem_takeWhile, hb, hcore⟩,
      { st with caps := some ((f.val.dropWhile isSpace).take n) :: st.caps }, ?_⟩
    · rw [List.take_append_drop]; exact List.takeWhile_append_dropWhile.symm
    · have e : (f.val.dropWhile isSpace).drop n ++ (f.sep ++ NF fs' B) =
          ((f.val.dropWhile isSpace).drop n ++ f.sep) ++ NF fs' B := by simp
      rwa [ws0_def, e, List.dropWhile_run (allSpace_append hb g.sep) (NF_head fs' B hfs2 hB')] at hkn

/-- the pattern ends inside the value, or, when the value is all whitespace, inside the name of the line that
    follows -/
theorem last_inv (nm : Str) (p : Char → Bool) (st : St) (fs : List Fld) (B : Str)
    (r : Res) (hnm : nm ∈ names9) (hfs : ∀ f ∈ fs, f.Good) (hB : ∀ c ∈ B.head?, c = '<')
    (hp : ∀ c, p c = true → isSpace c = false) (hplt : p '<' = false)
    (h : stepItem (.lit (nm ++ [':'])) (stepItem .ws0 (stepItem (.cap p) finish)) st (NF fs B) = some r) :
    ∃ f fs', fs = f :: fs' ∧ f.name = nm ∧
      ((f.val.dropWhile isSpace).takeWhile p ≠ [] ∨ (allSpace f.val ∧ fs' ≠ [])) := by
  obtain ⟨f, fs', rfl, hn, hcase⟩ := field_inv nm p _ st fs B r hnm hfs hB hp h
  refine ⟨f, fs', rfl, hn, ?_⟩
  rcases hcase with ⟨hval, hk⟩ | ⟨n, hn0, hn1, _⟩
  · refine Or.inr ⟨hval, ?_⟩
    rintro rfl
    rw [NF, cap_B_fail p _ st B hB hplt] at hk
    cases hk
  · refine Or.inl fun h0 => ?_
    rw [h0] at hn1
    simp at hn1
    omega

theorem wordFail_last : WordFail (matchSegs lastSegs) := by
  rw [matchSegs_last]; exact wordFail_lit _ _ (names9_isName _ (by simp [names9])).2.2

theorem tail8_inv (st : St) (fs : List Fld) (B : Str) (r : Res) (hfs : ∀ f ∈ fs, f.Good)
    (hB : ∀ c ∈ B.head?, c = '<') (h : matchSegs tail8 st (NF fs B) = some r) :
    ∃ f8 f9 rest, fs = f8 :: f9 :: rest ∧ (f8.name = "OLDFILEUID".toList ∧ InStrip isWordDash f8.val) ∧
      f9.name = "NEWFILEUID".toList ∧
      ((f9.val.dropWhile isSpace).takeWhile isWordDash ≠ [] ∨ (allSpace f9.val ∧ rest ≠ [])) := by
  rw [tail8, matchSegs_field] at h
  obtain ⟨f8, fs8, e8, a8, _, h8⟩ := block_inv _ _ _ _ _ _ _ (by simp [names9]) hfs hB
    wordDash_not_space (by decide) (by decide) wordFail_last nameFail_last h
  subst e8
  rw [matchSegs_last] at h8
  obtain ⟨f9, fs9, e9, n9, c9⟩ := last_inv _ _ _ _ _ _ (by simp [names9])
    (fun x hx => hfs x (by simp [hx])) hB wordDash_not_space (by decide) h8
  subst e9
  exact ⟨f8, f9, fs9, rfl, a8, n9, c9⟩

theorem v1_match_inv (fs : List Fld) (B : Str) (r : Res) (hfs : ∀ f ∈ fs, f.Good) (hB : ∀ c ∈ B.head?, c = '<')
    (h : reMatch v1Regex (NF fs B) = some r) :
    ∃ f1 f2 f3 f4 f5 f6 rest, fs = f1 :: f2 :: f3 :: f4 :: f5 :: f6 :: rest ∧
      (f1.name = "OFXHEADER".toList ∧ InStrip isDigit f1.val) ∧ (f2.name = "DATA".toList ∧ InStrip isUpper f2.val) ∧
      (f3.name = "VERSION".toList ∧ InStrip isDigit f3.val) ∧ (f4.name = "SECURITY".toList ∧ InStrip isWord f4.val) ∧
      (f5.name = "ENCODING".toList ∧ InStrip isUpDigDash f5.val) ∧
      (f6.name = "CHARSET".toList ∧ InStrip isWordDash f6.val) ∧
      ((∃ f7 f8 f9 rest', rest = f7 :: f8 :: f9 :: rest' ∧
          (f7.name = "COMPRESSION".toList ∧ InStrip isUpper f7.val) ∧
          (f8.name = "OLDFILEUID".toList ∧ InStrip isWordDash f8.val) ∧
          f9.name = "NEWFILEUID".toList ∧
          ((f9.val.dropWhile isSpace).takeWhile isWordDash ≠ [] ∨ (allSpace f9.val ∧ rest' ≠ []))) ∨
       (∃ f8 f9 rest', rest = f8 :: f9 :: rest' ∧
          (f8.name = "OLDFILEUID".toList ∧ InStrip isWordDash f8.val) ∧
          f9.name = "NEWFILEUID".toList ∧
          ((f9.val.dropWhile isSpace).takeWhile isWordDash ≠ [] ∨ (allSpace f9.val ∧ rest' ≠ [])))) := by
  have hB' : ∀ c ∈ B.head?, isSpace c = false := by
    intro c hc; rw [hB c hc]; decide
  rw [reMatch_v1, ws0_def, List.dropWhile_of_head (NF_head fs B hfs hB'), matchSegs_field] at h
  obtain ⟨f1, fs1, e1, a1, _, h1⟩ := block_inv _ _ _ _ _ _ _ (by simp [names9]) hfs hB
    digit_not_space (by decide) (by decide) (wordFail_field _ _ _ (by simp [names9])) (nameFail_field _ _ _ (by simp [names9])) h
  subst e1
  have hfs1 : ∀ x ∈ fs1, x.Good := fun x hx => hfs x (by simp [hx])
  rw [matchSegs_field] at h1
  obtain ⟨f2, fs2, e2, a2, _, h2⟩ := block_inv _ _ _ _ _ _ _ (by simp [names9]) hfs1 hB
    upper_not_space (by decide) (by decide) (wordFail_field _ _ _ (by simp [names9])) (nameFail_field _ _ _ (by simp [names9])) h1
  subst e2
  have hfs2 : ∀ x ∈ fs2, x.Good := fun x hx => hfs1 x (by simp [hx])
  rw [matchSegs_field] at h2
  obtain ⟨f3, fs3, e3, a3, _, h3⟩ := block_inv _ _ _ _ _ _ _ (by simp [names9]) hfs2 hB
    digit_not_space (by decide) (by decide) (wordFail_field _ _ _ (by simp [names9])) (nameFail_field _ _ _ (by simp [names9])) h2
  subst e3
  have hfs3 : ∀ x ∈ fs3, x.Good := fun x hx => hfs2 x (by simp [hx])
  rw [matchSegs_field] at h3
  obtain ⟨f4, fs4, e4, a4, _, h4⟩ := block_inv _ _ _ _ _ _ _ (by simp [names9]) hfs3 hB
    word_not_space (by decide) (by decide) (wordFail_field _ _ _ (by simp [names9])) (nameFail_field _ _ _ (by simp [names9])) h3
  subst e4
  have hfs4 : ∀ x ∈ fs4, x.Good := fun x hx => hfs3 x (by simp [hx])
  rw [matchSegs_field] at h4
  obtain ⟨f5, fs5, e5, a5, _, h5⟩ := block_inv _ _ _ _ _ _ _ (by simp [names9]) hfs4 hB
    upDigDash_not_space (by decide) (by decide) (wordFail_field _ _ _ (by simp [names9])) (nameFail_field _ _ _ (by simp [names9])) h4
  subst e5
  have hfs5 : ∀ x ∈ fs5, x.Good := fun x hx => hfs4 x (by simp [hx])
  rw [matchSegs_field] at h5
  obtain ⟨f6, fs6, e6, a6, _, h6⟩ := block_inv _ _ _ _ _ _ _ (by simp [names9]) hfs5 hB
    wordDash_not_space (by decide) (by decide) wordFail_opt nameFail_opt h5
  subst e6
  have hfs6 : ∀ x ∈ fs6, x.Good := fun x hx => hfs5 x (by simp [hx])
  refine ⟨f1, f2, f3, f4, f5, f6, fs6, rfl, a1, a2, a3, a4, a5, a6, ?_⟩
  rw [matchSegs_opt] at h6
  split at h6
  · rename_i r' hr
    rw [matchItems_comp] at hr
    obtain ⟨f7, fs7, e7, a7, _, h7⟩ := block_inv _ _ _ _ _ _ _ (by simp [names9]) hfs6 hB
      upper_not_space (by decide) (by decide) (by rw [tail8]; exact wordFail_field _ _ _ (by simp [names9]))
      (by rw [tail8]; exact nameFail_field _ _ _ (by simp [names9])) hr
    subst e7
    obtain ⟨f8, f9, rest, e, a8, a9⟩ := tail8_inv _ _ _ _ (fun x hx => hfs6 x (by simp [hx])) hB h7
    subst e
    exact Or.inl ⟨f7, f8, f9, rest, rfl, a7, a8, a9⟩
  · obtain ⟨f8, f9, rest, e, a8, a9⟩ := tail8_inv _ _ _ _ hfs6 hB h6
    exact Or.inr ⟨f8, f9, rest, e, a8, a9⟩

def names8 : List Str :=
  ["OFXHEADER".toList, "DATA".toList, "VERSION".toList, "SECURITY".toList, "ENCODING".toList, "CHARSET".toList,
   "OLDFILEUID".toList, "NEWFILEUID".toList]

abbrev NV := Str × Str

def linesOf (nvs : List NV) : List Fld := nvs.map fun nv => ⟨nv.1, nv.2, crlf⟩

def renderLines (nvs : List NV) : Str := NF (linesOf nvs) crlf

theorem crlf_space : allSpace crlf := by unfold allSpace crlf; decide

theorem crlf_ascii : Codec.isAscii crlf := by unfold Codec.isAscii crlf; decide

/-- the value may be empty and may contain whitespace other than line feed -/
structure GoodNV (nv : NV) : Prop where
  name : nv.1 ∈ names9
  val_colon : ':' ∉ nv.2
  val_nolf : '\n' ∉ nv.2
  /-- the model's `\d`, `\w` are the ASCII classes; the theorems speak about ASCII header text -/
  val_ascii : ∀ c ∈ nv.2, c.toNat < 128

def LastOk (v : Str) (rest : List NV) : Prop :=
  (v.dropWhile isSpace).takeWhile isWordDash ≠ [] ∨ (allSpace v ∧ rest ≠ [])

/-- the shapes the v1 pattern accepts: the conclusion of `v1_match_inv`, on names and values -/
def V1Shape (nvs : List NV) : Prop :=
  ∃ v1 v2 v3 v4 v5 v6 rest, nvs = ("OFXHEADER".toList, v1) :: ("DATA".toList, v2) :: ("VERSION".toList, v3) ::
      ("SECURITY".toList, v4) :: ("ENCODING".toList, v5) :: ("CHARSET".toList, v6) :: rest ∧
    InStrip isDigit v1 ∧ InStrip isUpper v2 ∧ InStrip isDigit v3 ∧ InStrip isWord v4 ∧ InStrip isUpDigDash v5 ∧
    InStrip isWordDash v6 ∧
    ((∃ v7 v8 v9 rest', rest = ("COMPRESSION".toList, v7) :: ("OLDFILEUID".toList, v8) :: ("NEWFILEUID".toList, v9) :: rest' ∧
        InStrip isUpper v7 ∧ InStrip isWordDash v8 ∧ LastOk v9 rest') ∨
     (∃ v8 v9 rest', rest = ("OLDFILEUID".toList, v8) :: ("NEWFILEUID".toList, v9) :: rest' ∧
        InStrip isWordDash v8 ∧ LastOk v9 rest'))

def absorbLast (g : Str) : List Fld → List Fld
  | [] => []
  | [f] => [⟨f.name, f.val, f.sep ++ g⟩]
  | f :: f2 :: fs => f :: absorbLast g (f2 :: fs)

theorem NF_absorb (g B : Str) (fs : List Fld) (h : fs ≠ []) : NF fs (g ++ B) = NF (absorbLast g fs) B := by
  induction fs with
  | nil => exact absurd rfl h
  | cons f fs ih =>
    cases fs with
    | nil => simp [NF, absorbLast]
    | cons f2 fs => simp only [NF, absorbLast]; rw [← ih (by simp)]; rfl

theorem absorbLast_nv (g : Str) (fs : List Fld) :
    (absorbLast g fs).map (fun f => (f.name, f.val)) = fs.map (fun f => (f.name, f.val)) := by
  induction fs with
  | nil => rfl
  | cons f fs ih =>
    cases fs with
    | nil => rfl
    | cons f2 fs => simp only [absorbLast, List.map_cons] at ih ⊢; rw [ih]

theorem absorbLast_good (g : Str) (hg : allSpace g) (fs : List Fld) (h : ∀ f ∈ fs, f.Good) :
    ∀ f ∈ absorbLast g fs, f.Good := by
  induction fs with
  | nil => intro f hf; cases hf
  | cons f fs ih =>
    cases fs with
    | nil =>
      intro x hx
      simp only [absorbLast, List.mem_singleton] at hx
      subst hx
      have g0 := h f (by simp)
      exact ⟨g0.name, g0.name9, g0.val_colon, by simp [g0.sep_ne], by
        intro c hc
        rcases List.mem_append.1 hc with hc | hc
        · exact g0.sep c hc
        · exact hg c hc⟩
    | cons f2 fs =>
      intro x hx
      simp only [absorbLast, List.mem_cons] at hx
      rcases hx with hx | hx
      · subst hx; exact h _ (by simp)
      · exact ih (fun y hy => h y (by simp [hy])) x (by simpa [absorbLast] using hx)

theorem GoodNV.line {nv : NV} (g : GoodNV nv) : (⟨nv.1, nv.2, crlf⟩ : Fld).Good :=
  ⟨names9_isName _ g.name, g.name, g.val_colon, List.cons_ne_nil _ _, crlf_space⟩

theorem linesOf_good (nvs : List NV) (h : ∀ nv ∈ nvs, GoodNV nv) : ∀ f ∈ linesOf nvs, f.Good := by
  intro f hf
  obtain ⟨nv, hnv, rfl⟩ := List.mem_map.1 hf
  exact (h nv hnv).line

theorem linesOf_nv (nvs : List NV) : (linesOf nvs).map (fun f => (f.name, f.val)) = nvs := by
  induction nvs with
  | nil => rfl
  | cons nv nvs ih => simp only [linesOf, List.map_cons] at ih ⊢; rw [ih]

theorem v1_shape_of_match (fs : List Fld) (B : Str) (r : Res) (hfs : ∀ f ∈ fs, f.Good) (hB : ∀ c ∈ B.head?, c = '<')
    (h : reMatch v1Regex (NF fs B) = some r) : V1Shape (fs.map fun f => (f.name, f.val)) := by
  obtain ⟨f1, f2, f3, f4, f5, f6, rest, rfl, a1, a2, a3, a4, a5, a6, hr⟩ := v1_match_inv fs B r hfs hB h
  have last : ∀ {v : Str} {l : List Fld}, ((v.dropWhile isSpace).takeWhile isWordDash ≠ [] ∨ (allSpace v ∧ l ≠ [])) →
      LastOk v (l.map fun f => (f.name, f.val)) := fun h => h.imp id (And.imp id (by simpa using ·))
  refine ⟨f1.val, f2.val, f3.val, f4.val, f5.val, f6.val, rest.map fun f => (f.name, f.val),
    by simp only [List.map_cons, a1.1, a2.1, a3.1, a4.1, a5.1, a6.1], a1.2, a2.2, a3.2, a4.2, a5.2, a6.2, ?_⟩
  rcases hr with ⟨f7, f8, f9, rest', rfl, a7, a8, n9, c9⟩ | ⟨f8, f9, rest', rfl, a8, n9, c9⟩
  · exact Or.inl ⟨f7.val, f8.val, f9.val, _, by simp only [List.map_cons, a7.1, a8.1, n9], a7.2, a8.2, last c9⟩
  · exact Or.inr ⟨f8.val, f9.val, _, by simp only [List.map_cons, a8.1, n9], a8.2, last c9⟩

theorem reMatch_v1_ws (w s : Str) (hw : allSpace w) : reMatch v1Regex (w ++ s) = reMatch v1Regex s := by
  rw [reMatch_v1, reMatch_v1, ws0_absorb _ _ w s hw]

theorem reMatch_v1_none_head (s : Str) (hh : ∀ c ∈ s.head?, isSpace c = false)
    (hp : ofxMarker.isPrefixOf s = false) : reMatch v1Regex s = none := by
  rw [reMatch_v1, ws0_def, List.dropWhile_of_head hh, matchSegs_field]
  exact step_lit_none _ _ _ _ hp

theorem suffix_allSpace {a' a : Str} (h : a' <:+ a) (ha : allSpace a) : allSpace a' := by
  obtain ⟨x, hx⟩ := h
  intro c hc
  exact ha c (by rw [← hx]; simp [hc])

/-- if the match fails at the start of a line and the search fails after it, the search fails at every start inside the
    line: in the separator (`h1`) and the value (`h2`) leading whitespace is absorbed and a word followed by whitespace is
    not `OFXHEADER:`; in the name (`h3`) a proper suffix of the name followed by `:` is not the marker, by `hname` -/
theorem reSearch_v1_line (f : Fld) (s : Str) (g : f.Good) (hname : ¬ "OFXHEADER".toList <:+ f.name.drop 1)
    (hm : reMatch v1Regex (f.name ++ ':' :: (f.val ++ (f.sep ++ s))) = none)
    (hs : reSearch v1Regex s = none) :
    reSearch v1Regex (f.name ++ ':' :: (f.val ++ (f.sep ++ s))) = none := by
  have h1 : reSearch v1Regex (f.sep ++ s) = none := by
    refine (reSearch_append_of_none _ _ _ fun a' _ hsuf => ?_).trans hs
    rw [reMatch_v1_ws a' s (suffix_allSpace hsuf g.sep)]
    exact reSearch_none_match _ _ hs
  obtain ⟨c, sep', hsep⟩ := List.exists_cons_of_ne_nil g.sep_ne
  have hcs : isSpace c = true := g.sep c (by rw [hsep]; simp)
  have h2' : ∀ a' : Str, a' <:+ f.val → reMatch v1Regex (a' ++ (f.sep ++ s)) = none := by
    intro a'
    induction a' with
    | nil =>
      intro _
      rw [List.nil_append, reMatch_v1_ws f.sep s g.sep]
      exact reSearch_none_match _ _ hs
    | cons d ds ih =>
      intro hsuf
      have hsuf' : ds <:+ f.val := List.IsSuffix.trans (List.suffix_cons d ds) hsuf
      by_cases hd : isSpace d = true
      · have e : (d :: ds) ++ (f.sep ++ s) = [d] ++ (ds ++ (f.sep ++ s)) := by simp
        rw [e, reMatch_v1_ws [d] _ (by intro x hx; simp at hx; subst hx; exact hd)]
        exact ih hsuf'
      · apply reMatch_v1_none_head
        · intro e he
          simp at he; subst he
          simpa using hd
        · rw [hsep]
          exact lit_word_fail _ (d :: ds) _ c ofxMarker_ns (fun h => g.val_colon (List.suffix_mem hsuf h)) hcs
  have h2 : reSearch v1Regex (f.val ++ (f.sep ++ s)) = none :=
    (reSearch_append_of_none _ _ _ fun a' _ hsuf => h2' a' hsuf).trans h1
  have h3 : ∀ a', a' ≠ [] → a' <:+ f.name.drop 1 ++ [':'] →
      reMatch v1Regex (a' ++ (f.val ++ (f.sep ++ s))) = none := by
    intro a' ha hsuf
    obtain ⟨x, hx⟩ := hsuf
    have hlast : ∃ n', a' = n' ++ [':'] ∧ n' <:+ f.name.drop 1 := by
      rcases List.eq_nil_or_concat a' with h0 | ⟨n', l, hl⟩
      · exact absurd h0 ha
      · rw [hl, List.concat_eq_append, ← List.append_assoc] at hx
        have := List.append_inj' hx rfl
        simp only [List.cons.injEq, and_true] at this
        refine ⟨n', by rw [hl, List.concat_eq_append, this.2], ⟨x, this.1⟩⟩
    obtain ⟨n', hn', hsuf'⟩ := hlast
    subst hn'
    have hmem : ∀ e ∈ n', e ∈ f.name := fun e he => List.mem_of_mem_drop (List.suffix_mem hsuf' he)
    apply reMatch_v1_none_head
    · intro e he
      cases n' with
      | nil => simp at he; subst he; decide
      | cons d ds => simp at he; subst he; exact g.name.2.2 d (hmem d (by simp))
    · have : (n' ++ [':']) ++ (f.val ++ (f.sep ++ s)) = n' ++ ':' :: (f.val ++ (f.sep ++ s)) := by simp
      rw [this]
      apply lit_colon_fail _ _ _ (by decide) (fun h => g.name.2.1 (hmem _ h))
      intro e
      exact hname (e ▸ hsuf')
  obtain ⟨d, ds, hd⟩ := List.exists_cons_of_ne_nil g.name.1
  have e : f.name ++ ':' :: (f.val ++ (f.sep ++ s)) = d :: ((ds ++ [':']) ++ (f.val ++ (f.sep ++ s))) := by
    rw [hd]; simp
  rw [e, reSearch_cons_none _ _ _ (e ▸ hm)]
  exact (reSearch_append_of_none _ _ _ fun a' ha hsuf => h3 a' ha (by rw [hd]; simpa using hsuf)).trans h2

abbrev AV := Str × Str

def AF : List AV → Str → Str
  | [], R => R
  | [a], R => a.1 ++ '=' :: '"' :: (a.2 ++ '"' :: R)
  | a :: b :: l, R => a.1 ++ '=' :: '"' :: (a.2 ++ '"' :: ' ' :: AF (b :: l) R)

def AFtail : List AV → Str → Str
  | [], R => R
  | b :: l, R => ' ' :: AF (b :: l) R

theorem AF_cons (a : AV) (rest : List AV) (R : Str) :
    AF (a :: rest) R = a.1 ++ '=' :: '"' :: (a.2 ++ '"' :: AFtail rest R) := by
  cases rest <;> rfl

structure GoodAV (a : AV) : Prop where
  name_ne : a.1 ≠ []
  name_eq : '=' ∉ a.1
  name_head : ∀ c ∈ a.1.head?, isSpace c = false ∧ c ≠ '?'
  name_lt : '<' ∉ a.1
  val_q : '"' ∉ a.2
  val_lt : '<' ∉ a.2
  val_ascii : ∀ c ∈ a.2, c.toNat < 128

theorem AF_head (avs : List AV) (R : Str) (h : ∀ a ∈ avs, GoodAV a) (hR : ∀ c ∈ R.head?, c = '?') :
    ∀ c ∈ (AF avs R).head?, isSpace c = false := by
  cases avs with
  | nil => intro c hc; rw [hR c hc]; decide
  | cons a rest =>
    have g := h a (by simp)
    obtain ⟨d, ds, hd⟩ := List.exists_cons_of_ne_nil g.name_ne
    intro c hc
    rw [AF_cons, hd] at hc
    simp at hc; subst hc
    exact (g.name_head d (by rw [hd]; simp)).1

theorem lit_AF_inv (nm : Str) (k : St → Str → Option Res) (st : St) (avs : List AV) (R : Str) (r : Res)
    (hnm : '=' ∉ nm) (hq : '?' ∉ nm) (h : ∀ a ∈ avs, GoodAV a) (hR : ∀ c ∈ R.head?, c = '?')
    (hk : stepItem (.lit (nm ++ ['='])) k st (AF avs R) = some r) :
    ∃ a rest, avs = a :: rest ∧ a.1 = nm ∧ k st ('"' :: (a.2 ++ '"' :: AFtail rest R)) = some r := by
  obtain ⟨t, ht, hkt⟩ := lit_inv _ _ _ _ _ hk
  cases avs with
  | nil =>
    exfalso
    simp only [AF] at ht
    cases nm with
    | nil => rw [ht] at hR; exact absurd (hR '=' (by simp)) (by decide)
    | cons d ds =>
      rw [ht] at hR
      have := hR d (by simp)
      exact hq (by rw [this]; simp)
  | cons a rest =>
    have g := h a (by simp)
    rw [AF_cons] at ht
    have h1 : a.1 ++ '=' :: ('"' :: (a.2 ++ '"' :: AFtail rest R)) = nm ++ '=' :: t := by simpa using ht
    have hn := (List.append_cons_inj_of_not_mem g.name_eq hnm h1).1
    rw [hn] at h1
    have h2 := List.append_cancel_left h1
    simp only [List.cons.injEq, true_and] at h2
    exact ⟨a, rest, rfl, hn, by rw [h2]; exact hkt⟩

theorem names9_noeq : ∀ n ∈ names9, '=' ∉ n ∧ '?' ∉ n := by rw [names9_chars]; decide

theorem qfield_inv (nm : Str) (p : Char → Bool) (K : St → Str → Option Res) (st : St) (avs : List AV) (R : Str)
    (r : Res) (hnm : nm ∈ names9) (h : ∀ a ∈ avs, GoodAV a) (hR : ∀ c ∈ R.head?, c = '?')
    (hp : p '"' = false) (hk : qfield nm p K st (AF avs R) = some r) :
    ∃ a rest, avs = a :: rest ∧ a.1 = nm ∧ inClass p a.2 ∧
      K { caps := some a.2 :: st.caps, quote := some '"' } (AFtail rest R) = some r := by
  obtain ⟨a, rest, e, hn, hk1⟩ := lit_AF_inv nm _ st avs R r (names9_noeq nm hnm).1 (names9_noeq nm hnm).2 h hR hk
  subst e
  have g := h a (by simp)
  refine ⟨a, rest, rfl, hn, ?_⟩
  rw [step_openq '"' _ _ _ (Or.inl rfl)] at hk1
  obtain ⟨n, hn0, hn1, hkn⟩ := cap_inv p _ _ _ r hk1
  have hle : n ≤ a.2.length := Nat.le_trans hn1 (takeWhile_stop_le p a.2 _ '"' hp)
  obtain ⟨c, cs, hs, hqc, hK⟩ := closeq_inv _ _ _ _ hkn
  simp only at hqc
  have hcq : c = '"' := by cases hqc; rfl
  subst hcq
  by_cases hlt : n < a.2.length
  · exfalso
    have e : (a.2 ++ '"' :: AFtail rest R).drop n = a.2.drop n ++ '"' :: AFtail rest R := by
      rw [List.drop_append_of_le_length (by omega)]
    rw [e] at hs
    have hne : a.2.drop n ≠ [] := by
      intro h0
      have := congrArg List.length h0
      simp at this; omega
    obtain ⟨d, ds, hd⟩ := List.exists_cons_of_ne_nil hne
    rw [hd] at hs
    simp only [List.cons_append, List.cons.injEq] at hs
    exact g.val_q (List.mem_of_mem_drop (by rw [hd, hs.1]; simp))
  · have hnv : n = a.2.length := by omega
    have htw : (a.2 ++ '"' :: AFtail rest R).takeWhile p = a.2.takeWhile p :=
      List.takeWhile_append_stop a.2 (by intro d hd; simp at hd; subst hd; exact hp)
    rw [htw] at hn1
    have hall := List.takeWhile_all_of_length p a.2 (by have := (List.takeWhile_sublist (l := a.2) p).length_le; omega)
    have hne : a.2 ≠ [] := by
      intro h0; rw [h0] at hnv; simp at hnv; omega
    refine ⟨⟨hne, hall⟩, ?_⟩
    have e1 : (a.2 ++ '"' :: AFtail rest R).drop n = '"' :: AFtail rest R := by rw [hnv]; simp
    have e2 : (a.2 ++ '"' :: AFtail rest R).take n = a.2 := by rw [hnv]; simp
    rw [e1] at hs
    simp only [List.cons.injEq, true_and] at hs
    rw [e2, ← hs] at hK
    exact hK

theorem ws1_AFtail (K : St → Str → Option Res) (st : St) (rest : List AV) (R : Str) (r : Res)
    (h : ∀ a ∈ rest, GoodAV a) (hR : ∀ c ∈ R.head?, c = '?')
    (hk : stepItem .ws1 K st (AFtail rest R) = some r) :
    ∃ b l, rest = b :: l ∧ K st (AF (b :: l) R) = some r := by
  obtain ⟨c, cs, hs, hc, hk⟩ := ws1_inv K st _ r hk
  cases rest with
  | nil =>
    rw [AFtail] at hs
    rw [hR c (by rw [hs]; rfl)] at hc
    exact absurd hc (by decide)
  | cons b l =>
    cases hs
    rw [ws0_def, List.dropWhile_of_head (AF_head _ R h hR)] at hk
    exact ⟨b, l, rfl, hk⟩

theorem close_AFtail (K : St → Str → Option Res) (st : St) (rest : List AV) (R : Str) (r : Res)
    (h : ∀ a ∈ rest, GoodAV a)
    (hk : stepItem .ws0 (stepItem (.lit "?>".toList) K) st (AFtail rest R) = some r) : rest = [] := by
  cases rest with
  | nil => rfl
  | cons b l =>
    exfalso
    have g := h b (by simp)
    obtain ⟨d, ds, hd⟩ := List.exists_cons_of_ne_nil g.name_ne
    have hh := g.name_head d (by rw [hd]; simp)
    have e : AFtail (b :: l) R = [' '] ++ d :: (ds ++ '=' :: '"' :: (b.2 ++ '"' :: AFtail l R)) := by
      rw [AFtail, AF_cons, hd]; rfl
    rw [e, step_ws0 _ _ _ _ (by decide) (by simpa using hh.1),
      lit_head_fail _ _ _ _ '?' ['>'] lit_close (by simpa using hh.2)] at hk
    cases hk

def ofxDecl (avs : List AV) (R : Str) : Str := "<?OFX".toList ++ ' ' :: AF avs R

theorem v2_match_inv (avs : List AV) (R : Str) (r : Res) (h : ∀ a ∈ avs, GoodAV a) (hR : ∀ c ∈ R.head?, c = '?')
    (hm : reMatch v2Regex (ofxDecl avs R) = some r) :
    ∃ v1 v2 v3 v4 v5, avs = [("OFXHEADER".toList, v1), ("VERSION".toList, v2), ("SECURITY".toList, v3),
        ("OLDFILEUID".toList, v4), ("NEWFILEUID".toList, v5)] ∧
      inClass isDigit v1 ∧ inClass isDigit v2 ∧ inClass isWord v3 ∧ inClass isWordDash v4 ∧ inClass isWordDash v5 := by
  rw [reMatch_v2, ofxDecl, step_lit, ws1_cons _ _ _ _ (by decide), ws0_def, List.dropWhile_of_head (AF_head _ R h hR)]
    at hm
  obtain ⟨a1, r1, e1, n1, c1, h1⟩ := qfield_inv _ _ _ _ _ _ _ (by simp [names9]) h hR (by decide) hm
  subst e1
  have g1 : ∀ a ∈ r1, GoodAV a := fun a ha => h a (by simp [ha])
  obtain ⟨a2, r2, e2, h2⟩ := ws1_AFtail _ _ _ _ _ g1 hR h1
  subst e2
  obtain ⟨a2', r2', e2', n2, c2, h2'⟩ := qfield_inv _ _ _ _ _ _ _ (by simp [names9]) g1 hR (by decide) h2
  cases e2'
  have g2 : ∀ a ∈ r2, GoodAV a := fun a ha => g1 a (by simp [ha])
  obtain ⟨a3, r3, e3, h3⟩ := ws1_AFtail _ _ _ _ _ g2 hR h2'
  subst e3
  obtain ⟨a3', r3', e3', n3, c3, h3'⟩ := qfield_inv _ _ _ _ _ _ _ (by simp [names9]) g2 hR (by decide) h3
  cases e3'
  have g3 : ∀ a ∈ r3, GoodAV a := fun a ha => g2 a (by simp [ha])
  obtain ⟨a4, r4, e4, h4⟩ := ws1_AFtail _ _ _ _ _ g3 hR h3'
  subst e4
  obtain ⟨a4', r4', e4', n4, c4, h4'⟩ := qfield_inv _ _ _ _ _ _ _ (by simp [names9]) g3 hR (by decide) h4
  cases e4'
  have g4 : ∀ a ∈ r4, GoodAV a := fun a ha => g3 a (by simp [ha])
  obtain ⟨a5, r5, e5, h5⟩ := ws1_AFtail _ _ _ _ _ g4 hR h4'
  subst e5
  obtain ⟨a5', r5', e5', n5, c5, h5'⟩ := qfield_inv _ _ _ _ _ _ _ (by simp [names9]) g4 hR (by decide) h5
  cases e5'
  have g5 : ∀ a ∈ r5, GoodAV a := fun a ha => g4 a (by simp [ha])
  have e6 := close_AFtail _ _ _ _ _ g5 h5'
  subst e6
  refine ⟨a1.2, a2.2, a3.2, a4.2, a5.2, ?_, c1, c2, c3, c4, c5⟩
  rw [← n1, ← n2, ← n3, ← n4, ← n5]

def ofxOpen : Str := "<?OFX".toList

theorem reMatch_v2_none (s : Str) (h : ¬ ofxOpen <:+: s) : reMatch v2Regex s = none := by
  apply v2_nomatch
  cases hp : "<?OFX".toList.isPrefixOf s with
  | false => rfl
  | true => exact absurd (List.isPrefix_infix_of_suffix (List.isPrefixOf_iff_prefix.1 hp) (List.suffix_refl _)) h

theorem reSearch_v2_none (s : Str) (h : ¬ ofxOpen <:+: s) : reSearch v2Regex s = none :=
  (reSearch_eq_none_iff _ _).2 fun t ht => reMatch_v2_none t fun hi => h (hi.trans ht.isInfix)

theorem AF_append (avs : List AV) (R S : Str) : AF avs R ++ S = AF avs (R ++ S) := by
  induction avs with
  | nil => rfl
  | cons a rest ih =>
    cases rest with
    | nil => simp [AF]
    | cons b l => simp only [AF] at ih ⊢; simp [ih]

theorem AF_noLt (avs : List AV) (R : Str) (h : ∀ a ∈ avs, GoodAV a) (hR : '<' ∉ R) : '<' ∉ AF avs R := by
  induction avs with
  | nil => exact hR
  | cons a rest ih =>
    have g := h a (by simp)
    have ih' := ih (fun x hx => h x (by simp [hx]))
    cases rest with
    | nil =>
      simp only [AF, List.mem_append, List.mem_cons, not_or]
      exact ⟨g.name_lt, by decide, by decide, g.val_lt, by decide, hR⟩
    | cons b l =>
      simp only [AF, List.mem_append, List.mem_cons, not_or]
      exact ⟨g.name_lt, by decide, by decide, g.val_lt, by decide, by decide, ih'⟩

end Ofx.Header
