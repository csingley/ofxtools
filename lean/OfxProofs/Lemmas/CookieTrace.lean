/-
A history of posts by any number of client instances: one invariant (`Inv`) and what it says of every `Cookie:` header.
-/
import OfxProofs.Lemmas.CookieJar

namespace Ofx.CookieJar

/-- the cookies a response makes (`none`: there was no response) -/
def Ev.made (e : Ev) : List Made :=
  match e.reply.set with
  | some scs => scs.map (mkCookie e.req e.reply.tResp)
  | none => []

/-- `x` is live for client `i` after the requests `pre`: stored by the response to one of its requests, and at every
    later request of `i` neither expired (`clear_expired_cookies`) nor touched by the response -/
def Live (i : Nat) (pre : List Ev) (x : Cookie) : Prop :=
  ∃ a e0 mid, pre = a ++ e0 :: mid ∧ e0.who = i ∧ Stores e0.req e0.made x ∧
    ∀ e1 ∈ mid, e1.who = i → x.isExpired e1.now = false ∧ ¬ Touches e1.req e1.made x.key

theorem live_snoc {i : Nat} {pre : List Ev} {e : Ev} {x : Cookie} :
    Live i (pre ++ [e]) x ↔ (e.who = i ∧ Stores e.req e.made x) ∨
      (Live i pre x ∧ (e.who = i → x.isExpired e.now = false ∧ ¬ Touches e.req e.made x.key)) := by
  constructor
  · rintro ⟨a, e0, mid, hpre, hw0, hst, hmid⟩
    rcases List.snoc_split hpre with ⟨rfl, rfl, rfl⟩ | ⟨mid', rfl, rfl⟩
    · exact .inl ⟨hw0, hst⟩
    · exact .inr ⟨⟨a, e0, mid', rfl, hw0, hst, fun e1 he1 => hmid e1 (List.mem_append_left _ he1)⟩,
        hmid e (List.mem_append_right _ List.mem_cons_self)⟩
  · rintro (⟨hw, hst⟩ | ⟨⟨a, e0, mid, rfl, hw0, hst, hmid⟩, hlast⟩)
    · exact ⟨pre, e, [], rfl, hw, hst, nofun⟩
    · refine ⟨a, e0, mid ++ [e], by simp, hw0, hst, ?_⟩
      intro e1 he1 hw1
      rcases List.mem_append.mp he1 with he1 | he1
      · exact hmid e1 he1 hw1
      · rw [List.mem_singleton.mp he1] at hw1 ⊢
        exact hlast hw1

/-- what instance `i` holds after the requests `pre`, if it keeps cookies, is exactly what is live for it, each cookie
    under its own domain and path -/
def Inv (persist : Nat → Bool) (s : Sys) (pre : List Ev) : Prop :=
  ∀ i, (s i).persist = persist i ∧
    (persist i = true → ∀ d p x, At (s i).jar d p x ↔ d = x.domain ∧ p = x.path ∧ Live i pre x)

variable (net : Net)

theorem step_header (s : Sys) (n who : Nat) (req : Req) :
    (step net s n who req).2.header =
      if (s who).persist then cookieHeader (s who).jar req (net.tReq n) else [] := by
  simp only [step, Client.send]
  split <;> rfl

theorem step_other (s : Sys) (n who : Nat) (req : Req) {i : Nat} (h : i ≠ who) :
    (step net s n who req).1 i = s i := by
  simp [step, Sys.set, h]

theorem step_fst_self (s : Sys) (n who : Nat) (req : Req) : (step net s n who req).1 who =
    if (s who).persist then
      ⟨true, extractMade (clearExpired (s who).jar (net.tReq n)) req (step net s n who req).2.made⟩
    else s who := by
  simp only [step, Sys.set, if_true, Client.send, Client.recv, Ev.made, extract]
  obtain ⟨persist, jar⟩ := s who
  cases persist
  · simp only [Bool.false_eq_true, if_false]
    split <;> rfl
  · simp only [if_true]
    generalize net.reply n req _ = rep
    obtain ⟨t, _ | scs⟩ := rep <;> rfl

theorem inv_step {persist : Nat → Bool} {s : Sys} {pre : List Ev} (h : Inv persist s pre) (n who : Nat) (req : Req) :
    Inv persist (step net s n who req).1 (pre ++ [(step net s n who req).2]) := by
  intro i
  obtain ⟨hp, hl⟩ := h i
  have hwho : (step net s n who req).2.who = who := rfl
  by_cases hi : i = who
  · subst hi
    rw [step_fst_self]
    cases hpi : persist i with
    | false => rw [hpi] at hp; rw [hp]; exact ⟨hp, nofun⟩
    | true =>
      rw [hpi] at hp
      refine ⟨by rw [hp]; rfl, fun _ d p x => ?_⟩
      rw [hp, if_pos rfl, at_extractMade, at_clearExpired, hl hpi, live_snoc]
      -- under its own domain and path the key of the position is the key of the cookie
      constructor
      · rintro (⟨rfl, rfl, hst⟩ | ⟨⟨⟨rfl, rfl, hlive⟩, he⟩, ht⟩)
        · exact ⟨rfl, rfl, .inl ⟨rfl, hst⟩⟩
        · exact ⟨rfl, rfl, .inr ⟨hlive, fun _ => ⟨he, ht⟩⟩⟩
      · rintro ⟨rfl, rfl, ⟨_, hst⟩ | ⟨hlive, hk⟩⟩
        · exact .inl ⟨rfl, rfl, hst⟩
        · exact .inr ⟨⟨⟨rfl, rfl, hlive⟩, (hk rfl).1⟩, (hk rfl).2⟩
  · rw [step_other net s n who req hi]
    refine ⟨hp, fun hpi d p x => ?_⟩
    rw [hl hpi, live_snoc, hwho]
    simp [Ne.symm hi]

theorem inv_init (s0 : Sys) (hjar : ∀ i, (s0 i).jar = []) : Inv (fun i => (s0 i).persist) s0 [] := by
  refine fun i => ⟨rfl, fun _ d p x => ?_⟩
  rw [hjar]
  constructor
  · rintro ⟨_, h, _⟩; cases h
  · rintro ⟨_, _, a, e0, mid, h, _⟩; cases a <;> cases h

/-- what makes the hypothesis of `C14c_maxage0_removes` hold of every jar a history of posts reaches -/
theorem Inv.cons {persist : Nat → Bool} {s : Sys} {pre : List Ev} (h : Inv persist s pre) {i : Nat}
    (hp : persist i = true) : Cons (s i).jar := fun d p x hat =>
  let ⟨hd, hpath, _⟩ := ((h i).2 hp d p x).mp hat
  ⟨hd.symm, hpath.symm⟩

theorem run_header_iff {persist : Nat → Bool} (hist : List (Nat × Req)) (s : Sys) (n : Nat) (pre : List Ev)
    (h : Inv persist s pre) (mid : List Ev) (e : Ev) (post : List Ev)
    (hrun : run net s n hist = mid ++ e :: post) (nv : Str × Str) :
    nv ∈ e.header ↔
      persist e.who = true ∧ ∃ x, Live e.who (pre ++ mid) x ∧ sendable e.req e.now x = true ∧ (x.name, x.value) = nv := by
  induction hist generalizing s n pre mid with
  | nil => cases mid <;> cases hrun
  | cons wr rest ih =>
    obtain ⟨who, req⟩ := wr
    simp only [run] at hrun
    cases mid with
    | nil =>
      simp only [List.nil_append, List.cons.injEq] at hrun
      obtain ⟨rfl, _⟩ := hrun
      obtain ⟨hp, hl⟩ := h who
      rw [step_header, List.append_nil, hp]
      show nv ∈ (if persist who = true then _ else _) ↔ persist who = true ∧ ∃ x, Live who pre x ∧ sendable req (net.tReq n) x = true ∧ _
      cases hpw : persist who with
      | false => simp
      | true =>
        simp only [if_true, mem_cookieHeader, hl hpw, true_and, sendable]
        constructor
        · rintro ⟨_, _, x, ⟨rfl, rfl, hlive⟩, hs, hnv⟩
          exact ⟨x, hlive, hs, hnv⟩
        · rintro ⟨x, hlive, hs, hnv⟩
          exact ⟨_, _, x, ⟨rfl, rfl, hlive⟩, hs, hnv⟩
    | cons m mid' =>
      simp only [List.cons_append, List.cons.injEq] at hrun
      obtain ⟨rfl, hrun⟩ := hrun
      have := ih _ (n + 1) _ (inv_step net h n who req) mid' hrun
      simpa using this

theorem run_posts (net : Net) (hist : List (Nat × Req)) (s : Sys) (n : Nat) :
    (run net s n hist).map (fun e => (e.who, e.req)) = hist := by
  induction hist generalizing s n with
  | nil => rfl
  | cons wr rest ih =>
    obtain ⟨who, req⟩ := wr
    simp only [run, List.map_cons, ih]
    rfl

theorem made_name_mem {e : Ev} {m : Made} (hm : m ∈ e.made) :
    ∃ scs, e.reply.set = some scs ∧ ∃ sc ∈ scs, m.key.name = sc.name := by
  unfold Ev.made at hm
  cases hset : e.reply.set with
  | none => rw [hset] at hm; cases hm
  | some scs =>
    rw [hset] at hm
    obtain ⟨sc, hsc, rfl⟩ := List.mem_map.mp hm
    exact ⟨scs, rfl, sc, hsc, mkCookie_key_name ..⟩

end Ofx.CookieJar
