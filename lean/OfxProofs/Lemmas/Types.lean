/-
The lexical shape of what the converters write, used by the leaf part of C11; the length rules and what `convert`
makes of a non-empty text, as equations; and the type part of C03 (the decimal member is in `Lemmas/C03DeepDec`).
-/
import OfxModel.Ofx.Types
import OfxModel.Spec.Lex
import OfxProofs.Lemmas.Dec
import OfxProofs.Lemmas.Str
import OfxModel.Spec.Denote
import OfxProofs.Defs.ReadBack
import OfxProofs.Defs.ValidB
import OfxProofs.Lemmas.PyM

namespace Ofx
open Ofx.Spec

/-- the decimals `str()` writes without exponent -/
def plainDec : Dec → Bool
  | .fin _ c e => decide (e ≤ 0 ∧ e + ((pyStrNat c).length : Int) > -6)
  | _ => false

theorem takeWhile_digits_stop (xs r : Str) (c : Char) (hx : xs.all isDigitC = true) (hc : isDigitC c = false) :
    (xs ++ c :: r).takeWhile isDigitC = xs ∧ (xs ++ c :: r).dropWhile isDigitC = c :: r :=
  have hs : ∀ d ∈ (c :: r).head?, isDigitC d = false := by rintro _ ⟨⟩; exact hc
  ⟨List.takeWhile_run (List.all_eq_true.1 hx) hs, List.dropWhile_run (List.all_eq_true.1 hx) hs⟩

theorem takeWhile_digits_all (xs : Str) (hx : xs.all isDigitC = true) :
    xs.takeWhile isDigitC = xs ∧ xs.dropWhile isDigitC = [] :=
  ⟨by simpa using List.takeWhile_run (rest := []) (List.all_eq_true.1 hx) nofun,
    List.dropWhile_eq_nil_iff.2 (List.all_eq_true.1 hx)⟩

theorem lexDecimalBody_point (ip fp : Str) (hi : ip.all isDigitC = true) (hf : fp.all isDigitC = true)
    (hne : ip ≠ []) : lexDecimalBody (ip ++ '.' :: fp) = true := by
  unfold lexDecimalBody
  have := takeWhile_digits_stop ip fp '.' hi (by decide)
  simp [this.1, this.2, hf, hne]

theorem lexDecimalBody_int (ip : Str) (hi : ip.all isDigitC = true) (hne : ip ≠ []) :
    lexDecimalBody ip = true := by
  unfold lexDecimalBody
  have := takeWhile_digits_all ip hi
  simp [this.1, this.2, hne]

theorem dropSign_signStr (neg : Bool) (c : Char) (b : Str) (h1 : c ≠ '-') (h2 : c ≠ '+') :
    dropSign (signStr neg ++ c :: b) = c :: b := by
  cases neg
  · simp only [signStr, Bool.false_eq_true, if_false, List.nil_append]
    unfold dropSign
    split <;> simp_all
  · rfl

theorem lexDecimal_formatF (neg : Bool) (c : Nat) (e : Int) : lexDecimal (decFormatF (.fin neg c e)) = true := by
  obtain ⟨ip, fp, hne, hip, hfp, _, _, ht⟩ := decFormatF_shape neg c e
  obtain ⟨d0, it, rfl⟩ := List.exists_cons_of_ne_nil hne
  have hs := digitChar_not_sign d0 (hip d0 (by simp))
  rw [ht, lexDecimal, List.map_cons, List.cons_append, dropSign_signStr neg _ _ hs.1 hs.2, ← List.cons_append,
    ← List.map_cons]
  split
  · rw [List.append_nil]
    exact lexDecimalBody_int _ (digits_all_isDigitC _ hip) (by simp)
  · exact lexDecimalBody_point _ _ (digits_all_isDigitC _ hip) (digits_all_isDigitC _ hfp) (by simp)

/-- `str(d)` without exponent matches the decimal pattern (the converters write `format(d, "f")`:
    `lexDecimal_formatF`) -/
theorem lexDecimal_plain (d : Dec) (h : plainDec d = true) : lexDecimal (decToStr d) = true := by
  cases d with
  | inf n => simp [plainDec] at h
  | nan n s p => simp [plainDec] at h
  | fin neg c e =>
    rw [decToStr_plain neg c e (by simpa [plainDec] using h)]
    exact lexDecimal_formatF neg c e

theorem strEnforceLength_eq (l : Option Nat) (st : Bool) (s : Str) :
    Ofx.Types.strEnforceLength l st s = if Types.fits l st s then .ok s else .error .spec := by
  unfold Ofx.Types.strEnforceLength Types.fits
  cases l with
  | none => simp
  | some n =>
    cases st <;> simp
    by_cases h : s.length ≤ n
    · simp [h] <;> omega
    · simp [h] <;> omega

namespace Types

theorem intEnforceLength_ok (l : Option Nat) (i : Int) :
    intEnforceLength l i = if intFits l i then .ok () else .error .spec := by
  unfold intEnforceLength intFits
  cases l with
  | none => simp
  | some n =>
    by_cases h : i.natAbs < 10 ^ n
    · simp [h] <;> omega
    · simp [h] <;> omega

theorem convert_string_text (enums : List (List Str)) (l : Option Nat) (st r : Bool) {s : Str} (hs : s ≠ []) :
    convert enums (.string l st) r (.str s) =
      if fits l st (unescape s) then .ok (.str (unescape s)) else .error .spec := by
  simp only [convert, stringConvert, hs, if_false, strEnforceLength_eq]
  split <;> rfl

theorem convert_oneOf_text (enums : List (List Str)) {e : Nat} {valid : List Str} (r : Bool) {s : Str}
    (he : enums[e]? = some valid) (hs : s ≠ []) :
    convert enums (.oneOf e) r (.str s) = if s ∈ valid then .ok (.str s) else .error .spec := by
  simp only [convert, he, oneOfConvert, hs, if_false, oneOfDefault]

theorem convert_integer_text (enums : List (List Str)) (l : Option Nat) (r : Bool) {s : Str} {i : Int} (hs : s ≠ [])
    (hp : pyIntParse s = some i) :
    convert enums (.integer l) r (.str s) = if intFits l i then .ok (.int i) else .error .spec := by
  have hl : s.length ≠ 0 := by simpa using hs
  simp only [convert, integerConvert, hl, if_false, hp, intEnforceLength_ok]
  split <;> rfl

end Types

open Ofx.Types in
section
/-- the value the type rules assign, as the converters report it -/
def denoteResult (o : Option Val) : PyM Val :=
  match o with
  | some v => .ok v
  | none => .error .spec

/-- C03, type part, character data: for every non-empty text, `String/NagString.convert` returns exactly the
    value the OFX rules assign (entities decoded in one left-to-right pass, strict limit on the decoded text) -/
theorem convert_denotes_string (ext : DenoteExt) (enums : List (List Str)) (l : Option Nat) (st r : Bool) (s : Str)
    (hs : s ≠ []) :
    convert enums (.string l st) r (.str s) = denoteResult (denote ext enums (.string l st) s) := by
  rw [convert_string_text enums l st r hs, unescape_onepass]
  obtain ⟨c, cs, rfl⟩ := List.exists_cons_of_ne_nil hs
  have hd : denote ext enums (.string l st) (c :: cs) =
      if fits l st (decodeEntities (c :: cs)) then some (.str (decodeEntities (c :: cs))) else none := by
    rcases l with _ | n <;> cases st <;> simp [denote, fits]
  rw [hd]
  split <;> rfl

theorem convert_denotes_bool (ext : DenoteExt) (enums : List (List Str)) (r : Bool) (s : Str) (hs : s ≠ []) :
    convert enums .bool r (.str s) = denoteResult (denote ext enums .bool s) := by
  obtain ⟨c, cs, rfl⟩ := List.exists_cons_of_ne_nil hs
  simp only [convert, boolConvert, denote]
  by_cases h1 : c :: cs = ['Y']
  · simp [h1, denoteResult]
  · by_cases h2 : c :: cs = ['N']
    · simp [h2, denoteResult]
    · simp [h1, h2, denoteResult]

theorem convert_denotes_oneof (ext : DenoteExt) (enums : List (List Str)) (e : Nat) (valid : List Str)
    (he : enums[e]? = some valid) (r : Bool) (s : Str) (hs : s ≠ []) :
    convert enums (.oneOf e) r (.str s) = denoteResult (denote ext enums (.oneOf e) s) := by
  rw [convert_oneOf_text enums r he hs]
  obtain ⟨c, cs, rfl⟩ := List.exists_cons_of_ne_nil hs
  simp only [denote, he, List.contains_iff_mem]
  split <;> rfl

end

theorem isDigitC_bounds (c : Char) (h : isDigitC c = true) : 48 ≤ c.toNat ∧ c.toNat ≤ 57 := by
  simp only [isDigitC, decide_eq_true_eq] at h
  have h1 : (48 : Nat) ≤ c.toNat := h.1
  have h2 : c.toNat ≤ 57 := h.2
  exact ⟨h1, h2⟩

theorem digitVal_of_isDigitC (c : Char) (h : isDigitC c = true) : digitVal c = some (digitOf c) := by
  simp only [isDigitC, decide_eq_true_eq] at h
  simp [digitVal, h, digitOf]

theorem isDigitC_digitChar (c : Char) (h : isDigitC c = true) : ∃ d, d < 10 ∧ c = digitChar d := by
  have hb := isDigitC_bounds c h
  refine ⟨c.toNat - 48, by omega, ?_⟩
  rw [digitChar, show 48 + (c.toNat - 48) = c.toNat by omega, Char.ofNat_toNat]

theorem intSpace_of_isDigitC (c : Char) (h : isDigitC c = true) : intSpace c = false := by
  obtain ⟨d, hd, rfl⟩ := isDigitC_digitChar c h
  exact digitChar_intSpace d hd

theorem intBody_positional (b : Str) (hb : b.all isDigitC = true) (pd : Bool) (acc : Nat) (hne : b ≠ [] ∨ pd = true) :
    intBody pd acc b = some (acc * 10 ^ b.length + positional b) := by
  induction b generalizing pd acc with
  | nil =>
    rcases hne with h | h
    · exact absurd rfl h
    · subst h; simp [intBody, positional]
  | cons c cs ih =>
    simp only [List.all_cons, Bool.and_eq_true] at hb
    simp only [intBody, digitVal_of_isDigitC c hb.1]
    rw [ih hb.2 true _ (Or.inr rfl)]
    simp only [positional, List.length_cons, Nat.pow_succ]
    congr 1
    grind

theorem takeSign_eq (s : Str) : takeSign s = (isNegative s, dropSign s) := by
  unfold takeSign isNegative dropSign
  split <;> simp_all

def IsSign (sg : Str) : Prop := sg = [] ∨ sg = ['+'] ∨ sg = ['-']

theorem sign_split (s : Str) : ∃ sg, IsSign sg ∧ s = sg ++ dropSign s ∧ isNegative s = (sg == ['-']) := by
  unfold dropSign isNegative
  split
  · exact ⟨['+'], Or.inr (Or.inl rfl), rfl, rfl⟩
  · exact ⟨['-'], Or.inr (Or.inr rfl), rfl, rfl⟩
  · refine ⟨[], Or.inl rfl, rfl, ?_⟩
    split <;> simp_all

/-- C03, type part, integers: on the lexical space `[+-]?[0-9]+`, `int(text)` is the positional value -/
theorem pyIntParse_of_lex (s : Str) (h : lexInteger s = true) : pyIntParse s = denoteInteger s := by
  have hb : (dropSign s).all isDigitC = true ∧ dropSign s ≠ [] := by
    simp only [lexInteger, Bool.and_eq_true, Bool.not_eq_true', List.isEmpty_eq_false_iff] at h
    exact ⟨h.2, h.1⟩
  obtain ⟨sg, hsg, hs, _⟩ := sign_split s
  have hsp : stripBy intSpace s = s := stripBy_id _ _ (fun c hc => by
    rw [hs] at hc
    rcases List.mem_append.mp hc with hc | hc
    · rcases hsg with rfl | rfl | rfl <;> simp at hc <;> subst hc <;> decide
    · exact intSpace_of_isDigitC c (List.all_eq_true.mp hb.1 c hc))
  unfold denoteInteger pyIntParse
  simp only [h, hsp, takeSign_eq, intBody_positional _ hb.1 false 0 (Or.inl hb.2), if_true, Nat.zero_mul, Nat.zero_add]

/-- C03, type part, integers (any declared length): on the lexical space `[+-]?[0-9]+` the converter returns
    the positional value when it has at most `length` digits and refuses otherwise -/
theorem convert_denotes_integer (ext : DenoteExt) (enums : List (List Str)) (l : Option Nat) (r : Bool) (s : Str)
    (h : lexInteger s = true) :
    Ofx.Types.convert enums (.integer l) r (.str s) = denoteResult (denote ext enums (.integer l) s) := by
  have hne : s ≠ [] := by
    intro e; subst e; simp [lexInteger, dropSign] at h
  obtain ⟨c, cs, rfl⟩ := List.exists_cons_of_ne_nil hne
  have hd : ∃ i, denoteInteger (c :: cs) = some i := by
    unfold denoteInteger; rw [h]; exact ⟨_, rfl⟩
  obtain ⟨i, hi⟩ := hd
  rw [Types.convert_integer_text enums l r hne (by rw [pyIntParse_of_lex _ h, hi])]
  cases l with
  | none => simp only [denote, hi]; rfl
  | some n =>
    simp only [denote, hi, Types.intFits, decide_eq_true_eq]
    split <;> rfl

end Ofx
