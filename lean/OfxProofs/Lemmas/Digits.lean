/-
The decimal digits of `str(n)` (`OfxModel/Py/Int.lean`) and their value, written as the fold the readers of the model run
(`Ofx.digitsVal` and `Spec.Instant.hoursVal` unfold to it).  Only `Py/Int` is imported, so that the date-time files,
whose namespaces have a `digitsVal` and a `spanDigits` of their own, can use this file.
-/
import OfxModel.Py.Int

namespace Ofx

theorem digitVal_digitChar : ∀ d, d < 10 → digitVal (digitChar d) = some d := by decide

theorem foldl_digits (ds : List Nat) (a : Nat) :
    ds.foldl (fun a d => 10 * a + d) a = a * 10 ^ ds.length + ds.foldl (fun a d => 10 * a + d) 0 := by
  induction ds generalizing a with
  | nil => simp
  | cons d ds ih =>
    simp only [List.foldl, List.length_cons]
    rw [ih (10 * a + d), ih (10 * 0 + d)]
    simp [Nat.pow_succ]
    grind

theorem foldl_digits_zeros (n : Nat) (ys : List Nat) :
    (List.replicate n 0 ++ ys).foldl (fun a d => 10 * a + d) 0 = ys.foldl (fun a d => 10 * a + d) 0 := by
  induction n with
  | zero => rfl
  | succ n ih => rw [List.replicate_succ, List.cons_append, List.foldl_cons]; exact ih

theorem natDigitsAux_lt (fuel n : Nat) (acc : List Nat) (h : ∀ d ∈ acc, d < 10) :
    ∀ d ∈ natDigitsAux fuel n acc, d < 10 := by
  induction fuel generalizing n acc with
  | zero => simpa [natDigitsAux] using h
  | succ f ih =>
    simp only [natDigitsAux]
    split
    · intro d hd
      simp at hd
      rcases hd with rfl | hd
      · assumption
      · exact h d hd
    · apply ih
      intro d hd
      simp at hd
      rcases hd with rfl | hd
      · omega
      · exact h d hd

theorem natDigits_lt (n : Nat) : ∀ d ∈ natDigits n, d < 10 :=
  natDigitsAux_lt _ _ [] (by simp)

theorem natDigitsAux_foldl (fuel n : Nat) (acc : List Nat) (h : n < fuel) :
    (natDigitsAux fuel n acc).foldl (fun a d => 10 * a + d) 0 =
      n * 10 ^ acc.length + acc.foldl (fun a d => 10 * a + d) 0 := by
  induction fuel generalizing n acc with
  | zero => omega
  | succ f ih =>
    simp only [natDigitsAux]
    split
    · rw [List.foldl_cons, foldl_digits]; simp
    · rw [ih (n / 10) (n % 10 :: acc) (by omega), List.foldl_cons, foldl_digits acc]
      simp only [List.length_cons, Nat.pow_succ]
      have := Nat.div_add_mod n 10
      grind

theorem natDigits_foldl (n : Nat) : (natDigits n).foldl (fun a d => 10 * a + d) 0 = n := by
  simpa [natDigits] using natDigitsAux_foldl (n + 1) n [] (by omega)

theorem natDigitsAux_ne_nil (fuel n : Nat) (acc : List Nat) (h : n < fuel) : natDigitsAux fuel n acc ≠ [] := by
  induction fuel generalizing n acc with
  | zero => omega
  | succ f ih =>
    simp only [natDigitsAux]
    split
    · simp
    · exact ih _ _ (by omega)

theorem natDigits_ne_nil (n : Nat) : natDigits n ≠ [] := natDigitsAux_ne_nil _ _ _ (by omega)

end Ofx
