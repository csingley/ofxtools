/-
`sorted(l, key=…)` followed by `itertools.groupby(…, key=…)`.  The model has the pair twice: `Compose.sortBy`/`groupBy`
(OfxModel/Ofx/Compose.lean), treated here, and `Ofxget.sortBy`/`groupByKey` (OfxModel/Ofx/Ofxget.lean), which the
beginning of Lemmas/OfxgetStmt.lean brings under the same lemmas (`sortBy_stable`, `groupByKey_eq`).  A sort enters only
through `StableSort` (in key order, and each key's elements are those of the input in input order); `groupBy` cuts any
list into runs, a list in key order into one run per key.
-/
import OfxModel.Ofx.Compose

namespace Ofx.Compose
open Ofx

structure IsOrder (le : κ → κ → Bool) : Prop where
  refl : ∀ a, le a a = true
  total : ∀ a b, le a b = true ∨ le b a = true
  trans : ∀ a b c, le a b = true → le b c = true → le a c = true
  antisymm : ∀ a b, le a b = true → le b a = true → a = b

theorem IsOrder.comap {ι κ : Type} {le : κ → κ → Bool} (h : IsOrder le) (f : ι → κ) (hf : ∀ a b, f a = f b → a = b) :
    IsOrder (fun a b => le (f a) (f b)) where
  refl _ := h.refl _
  total _ _ := h.total _ _
  trans _ _ _ := h.trans _ _ _
  antisymm a b h1 h2 := hf a b (h.antisymm _ _ h1 h2)

theorem strLe_iff : ∀ a b : Str, strLe a b = true ↔ a ≤ b
  | [], b => by simp [strLe, List.nil_le]
  | _ :: _, [] => by simp [strLe, List.le_nil]
  | a :: as, b :: bs => by
    have hlt : a < b ↔ a.toNat < b.toNat := Iff.rfl
    have heq : a = b ↔ a.toNat = b.toNat :=
      ⟨congrArg _, fun h => Char.ext (UInt32.toNat_inj.mp (by rw [Char.toNat_val, Char.toNat_val]; exact h))⟩
    rw [strLe, List.cons_le_cons_iff, ← strLe_iff as bs, hlt, heq]
    split
    · simp [*]
    · split
      · exact ⟨fun h => (nomatch h), fun h => h.elim (fun h => by omega) (fun h => by omega)⟩
      · exact ⟨fun h => Or.inr ⟨by omega, h⟩, fun h => h.elim (fun h => by omega) (·.2)⟩

theorem strLe_order : IsOrder strLe where
  refl a := (strLe_iff a a).mpr (List.le_refl a)
  total a b := by rw [strLe_iff, strLe_iff]; exact List.le_total a b
  trans a b c := by rw [strLe_iff, strLe_iff, strLe_iff]; exact List.le_trans
  antisymm a b := by rw [strLe_iff, strLe_iff]; exact List.le_antisymm

section
variable {α κ : Type} [DecidableEq κ] (le : κ → κ → Bool) (key : α → κ)

structure StableSort (l s : List α) : Prop where
  sorted : s.Pairwise (fun x y => le (key x) (key y) = true)
  filter : ∀ k, s.filter (fun x => decide (key x = k)) = l.filter (fun x => decide (key x = k))

variable {le key}

theorem StableSort.mem {l s : List α} (h : StableSort le key l s) (x : α) : x ∈ s ↔ x ∈ l := by
  have e : ∀ t : List α, x ∈ t ↔ x ∈ t.filter (fun y => decide (key y = key x)) := fun t => by simp
  rw [e s, e l, h.filter]

variable (le key)

theorem groupBy_cons_nil (a : α) (l : List α) (h : groupBy key l = []) :
    groupBy key (a :: l) = [(key a, [a])] := by
  rw [groupBy, h]

theorem groupBy_cons_cons (a : α) (l : List α) {k : κ} {g : List α} {rest : List (κ × List α)}
    (h : groupBy key l = (k, g) :: rest) :
    groupBy key (a :: l) = if key a = k then (k, a :: g) :: rest else (key a, [a]) :: (k, g) :: rest := by
  rw [groupBy, h]

theorem groupBy_flatten (l : List α) : (groupBy key l).flatMap (·.2) = l := by
  induction l with
  | nil => rfl
  | cons a l ih =>
    cases hg : groupBy key l with
    | nil =>
      rw [groupBy_cons_nil key a l hg]
      rw [hg] at ih
      simp at ih
      simp [← ih]
    | cons p rest =>
      obtain ⟨k, g⟩ := p
      rw [groupBy_cons_cons key a l hg]
      rw [hg] at ih
      split <;> simp [← ih]

theorem groupBy_mem (l : List α) (k : κ) (g : List α) (h : (k, g) ∈ groupBy key l) :
    g ≠ [] ∧ ∀ x ∈ g, key x = k ∧ x ∈ l := by
  suffices H : g ≠ [] ∧ ∀ x ∈ g, key x = k from
    ⟨H.1, fun x hx => ⟨H.2 x hx, by rw [← groupBy_flatten key l]; exact List.mem_flatMap.mpr ⟨_, h, hx⟩⟩⟩
  induction l generalizing k g with
  | nil => simp [groupBy] at h
  | cons a l ih =>
    cases hg : groupBy key l with
    | nil =>
      rw [groupBy_cons_nil key a l hg] at h
      obtain ⟨rfl, rfl⟩ := Prod.mk.inj (List.mem_singleton.mp h)
      simp
    | cons p rest =>
      obtain ⟨k', g'⟩ := p
      rw [groupBy_cons_cons key a l hg] at h
      rw [hg] at ih
      split at h
      · rename_i hk
        rcases List.mem_cons.mp h with h | h
        · obtain ⟨rfl, rfl⟩ := Prod.mk.inj h
          exact ⟨List.cons_ne_nil _ _, List.forall_mem_cons.mpr ⟨hk, (ih _ _ List.mem_cons_self).2⟩⟩
        · exact ih _ _ (List.mem_cons_of_mem _ h)
      · rcases List.mem_cons.mp h with h | h
        · obtain ⟨rfl, rfl⟩ := Prod.mk.inj h
          simp
        · exact ih _ _ h

theorem groupBy_head (a : α) (l : List α) : ∃ g rest, groupBy key (a :: l) = (key a, g) :: rest := by
  cases hg : groupBy key l with
  | nil => exact ⟨_, _, groupBy_cons_nil key a l hg⟩
  | cons p rest =>
    obtain ⟨k', g'⟩ := p
    rw [groupBy_cons_cons key a l hg]
    by_cases hk : key a = k'
    · simp only [hk, if_true]; exact ⟨_, _, rfl⟩
    · simp only [hk, if_false]; exact ⟨_, _, rfl⟩

theorem flatMap_filter_groups {κ β : Type} (P : κ → Bool) (q : β → Bool) (ts : List (κ × List β))
    (h : ∀ t ∈ ts, ∀ w ∈ t.2, q w = P t.1) :
    (ts.filter (fun t => P t.1)).flatMap (·.2) = (ts.flatMap (·.2)).filter q := by
  induction ts with
  | nil => rfl
  | cons t ts ih =>
    have ih := ih (fun t' ht' => h t' (List.mem_cons_of_mem _ ht'))
    have ht := h t (by simp)
    simp only [List.filter_cons, List.flatMap_cons, List.filter_append]
    cases hm : P t.1
    · have : t.2.filter q = [] := List.filter_eq_nil_iff.mpr (fun w hw => by simp [ht w hw, hm])
      simp [this, ih]
    · have : t.2.filter q = t.2 := List.filter_eq_self.mpr (fun w hw => by simp [ht w hw, hm])
      simp [this, ih]

theorem groupBy_filter (l : List α) (k : κ) :
    ((groupBy key l).filter (fun p => decide (p.1 = k))).flatMap (·.2) = l.filter (fun x => decide (key x = k)) := by
  rw [flatMap_filter_groups (fun k' => decide (k' = k)) (fun x => decide (key x = k)) _
    (fun t ht w hw => by rw [((groupBy_mem key l t.1 t.2 ht).2 w hw).1]), groupBy_flatten]

theorem groupBy_keys_lt (h : IsOrder le) (l : List α)
    (hl : l.Pairwise (fun x y => le (key x) (key y) = true)) :
    ((groupBy key l).map (·.1)).Pairwise (fun a b => le a b = true ∧ a ≠ b) := by
  induction l with
  | nil => simp [groupBy]
  | cons a l ih =>
    rw [List.pairwise_cons] at hl
    have ih := ih hl.2
    cases hg : groupBy key l with
    | nil => rw [groupBy_cons_nil key a l hg]; simp
    | cons p rest =>
      obtain ⟨k', g'⟩ := p
      rw [groupBy_cons_cons key a l hg]
      rw [hg] at ih
      by_cases hk : key a = k'
      · simpa only [hk, if_true, List.map_cons] using ih
      · simp only [hk, if_false, List.map_cons, List.pairwise_cons]
        refine ⟨?_, by simpa using ih⟩
        -- a later label `k''` is the key of some `x ∈ l`, so `key a ≤ k''`; were they equal, the first element of `l`,
        -- whose key is `k'`, would lie between them
        intro k'' hk''
        obtain ⟨⟨_, g''⟩, hg'', rfl⟩ := List.mem_map.mp (show k'' ∈ ((k', g') :: rest).map (·.1) from hk'')
        rw [← hg] at hg''
        obtain ⟨hne, hall⟩ := groupBy_mem key l _ g'' hg''
        obtain ⟨x, hx⟩ := List.exists_mem_of_ne_nil g'' hne
        obtain ⟨hxk, hxl⟩ := hall x hx
        refine ⟨hxk ▸ hl.1 x hxl, fun heq => ?_⟩
        cases l with
        | nil => simp [groupBy] at hg
        | cons b l' =>
          obtain ⟨g0, rest0, hhead⟩ := groupBy_head key b l'
          rw [hhead] at hg
          have hbk : key b = k' := (Prod.mk.inj (List.cons.inj hg).1).1
          have hbx : le (key b) (key x) = true := by
            rcases List.mem_cons.mp hxl with rfl | hxl'
            · exact h.refl _
            · exact (List.pairwise_cons.mp hl.2).1 x hxl'
          exact hk ((h.antisymm _ _ (hl.1 b (by simp)) (by rw [heq, ← hxk]; exact hbx)).trans hbk)

theorem group_sorted (h : IsOrder le) {s : List α} (hs : s.Pairwise (fun x y => le (key x) (key y) = true)) :
    ((groupBy key s).map (·.1)).Pairwise (fun a b => le a b = true ∧ a ≠ b) ∧
    (∀ k g, (k, g) ∈ groupBy key s → g ≠ [] ∧ g = s.filter (fun x => decide (key x = k))) ∧
    (∀ x ∈ s, ∃ g, (key x, g) ∈ groupBy key s) := by
  have hkeys := groupBy_keys_lt le key h s hs
  refine ⟨hkeys, fun k g hg => ⟨(groupBy_mem key s k g hg).1, ?_⟩, fun x hx => ?_⟩
  · -- the labels are pairwise different, so `(k, g)` is the only group labelled `k`
    rw [← groupBy_filter key s k]
    have hnd : ((groupBy key s).map (·.1)).Pairwise (· ≠ ·) := hkeys.imp (fun h => h.2)
    generalize groupBy key s = gs at hg hnd
    induction gs with
    | nil => simp at hg
    | cons p gs ih =>
      simp only [List.map_cons, List.pairwise_cons] at hnd
      rcases List.mem_cons.mp hg with rfl | hg'
      · have : gs.filter (fun p => decide (p.1 = k)) = [] :=
          List.filter_eq_nil_iff.mpr fun q hq => by
            simpa using fun e => hnd.1 q.1 (List.mem_map.mpr ⟨q, hq, rfl⟩) e.symm
        simp [List.filter_cons, this]
      · have hp : p.1 ≠ k := hnd.1 k (List.mem_map.mpr ⟨(k, g), hg', rfl⟩)
        simp only [List.filter_cons, hp, decide_false]
        exact ih hg' hnd.2
  · have hx' : x ∈ s.filter (fun y => decide (key y = key x)) := by simp [hx]
    rw [← groupBy_filter key s (key x)] at hx'
    obtain ⟨p, hp, _⟩ := List.mem_flatMap.mp hx'
    obtain ⟨hp1, hp2⟩ := List.mem_filter.mp hp
    exact ⟨p.2, (of_decide_eq_true hp2 : p.1 = key x) ▸ hp1⟩

theorem group_stable (h : IsOrder le) {l s : List α} (hs : StableSort le key l s) :
    ((groupBy key s).map (·.1)).Pairwise (fun a b => le a b = true ∧ a ≠ b) ∧
    (∀ k g, (k, g) ∈ groupBy key s → g ≠ [] ∧ g = l.filter (fun x => decide (key x = k))) ∧
    (∀ x ∈ l, ∃ g, (key x, g) ∈ groupBy key s) := by
  obtain ⟨h1, h2, h3⟩ := group_sorted le key h hs.sorted
  exact ⟨h1, fun k g hg => hs.filter k ▸ h2 k g hg, fun x hx => h3 x ((hs.mem x).mpr hx)⟩

theorem filter_insertBy (hrefl : ∀ a, le a a = true) (a : α) (l : List α) (k : κ) :
    (insertBy le key a l).filter (fun x => decide (key x = k)) =
      if key a = k then a :: l.filter (fun x => decide (key x = k)) else l.filter (fun x => decide (key x = k)) := by
  induction l with
  | nil => by_cases h : key a = k <;> simp [insertBy, h]
  | cons b l ih =>
    simp only [insertBy]
    split
    · by_cases h : key a = k <;> simp [List.filter_cons, h]
    · rename_i hab
      rw [List.filter_cons, ih]
      by_cases h : key a = k
      · have hb : key b ≠ k := by
          intro hb; apply hab; rw [h, hb]; exact hrefl k
        simp [h, hb, List.filter_cons]
      · by_cases hb : key b = k <;> simp [h, hb, List.filter_cons]

theorem mem_insertBy (a x : α) (l : List α) : x ∈ insertBy le key a l ↔ x = a ∨ x ∈ l := by
  induction l with
  | nil => simp [insertBy]
  | cons b l ih =>
    simp only [insertBy]
    split
    · simp
    · simp only [List.mem_cons, ih]
      exact or_left_comm

theorem insertBy_sorted (h : IsOrder le) (a : α) (l : List α)
    (hl : l.Pairwise (fun x y => le (key x) (key y) = true)) :
    (insertBy le key a l).Pairwise (fun x y => le (key x) (key y) = true) := by
  induction l with
  | nil => simp [insertBy]
  | cons b l ih =>
    rw [List.pairwise_cons] at hl
    simp only [insertBy]
    split
    · rename_i hab
      rw [List.pairwise_cons]
      refine ⟨?_, List.pairwise_cons.mpr hl⟩
      intro y hy
      rcases List.mem_cons.mp hy with rfl | hy
      · exact hab
      · exact h.trans _ _ _ hab (hl.1 y hy)
    · rename_i hab
      rw [List.pairwise_cons]
      refine ⟨?_, ih hl.2⟩
      intro y hy
      rcases (mem_insertBy le key a y l).mp hy with rfl | hy
      · exact (h.total (key y) (key b)).resolve_left hab
      · exact hl.1 y hy

theorem sortBy_stable (h : IsOrder le) (l : List α) : StableSort le key l (sortBy le key l) := by
  induction l with
  | nil => exact ⟨List.Pairwise.nil, fun _ => rfl⟩
  | cons a l ih =>
    refine ⟨insertBy_sorted le key h a _ ih.sorted, fun k => ?_⟩
    rw [sortBy, filter_insertBy le key h.refl, ih.filter]
    by_cases hk : key a = k <;> simp [hk]

theorem group_sort (h : IsOrder le) (l : List α) :
    ((groupBy key (sortBy le key l)).map (·.1)).Pairwise (fun a b => le a b = true ∧ a ≠ b) ∧
    (∀ k g, (k, g) ∈ groupBy key (sortBy le key l) → g ≠ [] ∧ g = l.filter (fun x => decide (key x = k))) ∧
    (∀ x ∈ l, ∃ g, (key x, g) ∈ groupBy key (sortBy le key l)) :=
  group_stable le key h (sortBy_stable le key h l)

end

/-- `sorted(requests, key=class name)`: the names are pairwise different -/
theorem rkind_order : IsOrder RKind.le :=
  strLe_order.comap RKind.className (by intro a b; cases a <;> cases b <;> first | (intro; rfl) | decide)

/-- `trnrqs.sort(key=message-set class name)` -/
theorem msgset_order : IsOrder MsgSet.le :=
  strLe_order.comap (fun m : MsgSet => m.className.toList)
    (by intro a b; cases a <;> cases b <;> first | (intro; rfl) | decide)

end Ofx.Compose
