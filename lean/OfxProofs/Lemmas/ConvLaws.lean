/-
The element converters (`Ofx.Types.conv`) satisfy the laws the aggregate round-trip theorem (C01, `ConvLaws` in
`Lemmas/AggRound.lean`) needs, on an explicit domain of values: `typesDom` for the wire pipeline (`esc = _escape_cdata`),
`typesDomId` for the direct `from_etree ∘ to_etree` (`esc = id`), where strings must be free of the six entity
spellings, since `String.unconvert` does not escape. Date-time and time values in the domains are the ones the library
itself produces on read: UTC, millisecond resolution, valid fields, years 1000..9999 for date-times (`dtUtcMs`,
`tmUtcMs`); the `Ofx.DateTime` part below derives from C09's writer theorems that such a value is written as a
non-empty text without markup characters that reads back as the same value (`dt_round_utc`, `tm_round_utc`).
-/
import OfxProofs.Lemmas.AggRound
import OfxProofs.Props.C10
import OfxProofs.Props.C09
import OfxProofs.Defs.ReadBack

namespace Ofx.Types
open Ofx Ofx.Agg

theorem escapeCdata_markupFree (s : Str) (h : markupFree s = true) : escapeCdata s = s :=
  escapeCdata_id (by simpa [markupFree, and_assoc] using h)

theorem escapeCdata_ne_nil (s : Str) (h : s ≠ []) : escapeCdata s ≠ [] := by
  obtain ⟨c, cs, rfl⟩ := List.exists_cons_of_ne_nil h
  rw [escapeCdata_cons]
  intro e
  exact escChar_ne_nil c (List.append_eq_nil_iff.mp e).1

theorem digitChar_markupFree : ∀ d, d < 10 → (digitChar d != '&' && digitChar d != '<' && digitChar d != '>') = true := by
  decide

end Ofx.Types

namespace Ofx.DateTime
open Ofx Ofx.Cal Ofx.Spec.Instant Ofx.Types

theorem dch_markupFree (n : Nat) : (dch n != '&' && dch n != '<' && dch n != '>') = true :=
  digitChar_markupFree _ (mod10_lt n)

theorem canonOff_utc_render : (canonOff 0 (some "UTC".toList)).render = "+0:UTC".toList := by decide +kernel

theorem render_utc_all (q : Char → Bool) (hq : ∀ n, q (dch n) = true) (hlit : ['.', '[', '+', '0', ':', 'U', 'T', 'C', ']'].all q = true)
    (p : Parts) (htod : p.tod.isSome = true) (hms : p.ms.isSome = true)
    (hoff : p.off = some (canonOff 0 (some "UTC".toList))) : p.render.all q = true := by
  obtain ⟨date, tod, ms, off⟩ := p
  simp only at htod hms hoff
  subst hoff
  obtain ⟨⟨h, mi, s⟩, rfl⟩ := Option.isSome_iff_exists.mp htod
  obtain ⟨m, rfl⟩ := Option.isSome_iff_exists.mp hms
  simp only [List.all_cons, List.all_nil, Bool.and_true, Bool.and_eq_true] at hlit
  cases date with
  | none =>
    simp only [Parts.render, canonOff_utc_render]
    simp [d2, d3, hq, hlit]
  | some x =>
    simp only [Parts.render, canonOff_utc_render]
    simp [d2, d3, d4, hq, hlit]

theorem render_ne_nil (p : Parts) (htod : p.tod.isSome = true) : p.render ≠ [] := by
  obtain ⟨date, tod, ms, off⟩ := p
  obtain ⟨⟨h, mi, s⟩, rfl⟩ := Option.isSome_iff_exists.mp htod
  simp [Parts.render, d2]

theorem localUs_inj (a b : DT) (ha : dtValid a = true) (hb : dtValid b = true) (h : localUs a = localUs b) :
    a.year = b.year ∧ a.month = b.month ∧ a.day = b.day ∧ a.hour = b.hour ∧ a.minute = b.minute
      ∧ a.second = b.second ∧ a.us = b.us := by
  obtain ⟨da, ta, a4⟩ := dtValid_iff.mp ha
  obtain ⟨db, tb, b4⟩ := dtValid_iff.mp hb
  obtain ⟨a1, a2, a3⟩ := validTod_iff.mp ta
  obtain ⟨b1, b2, b3⟩ := validTod_iff.mp tb
  unfold localUs toUs at h
  obtain ⟨hN, hh, hmi, hs, hu⟩ : ymd2ord a.year a.month a.day = ymd2ord b.year b.month b.day
      ∧ a.hour = b.hour ∧ a.minute = b.minute ∧ a.second = b.second ∧ a.us = b.us := by omega
  obtain ⟨ya, _, ma1, ma2, dda1, dda2⟩ := validDate_iff.mp (spec_validDate_eq .. ▸ da)
  obtain ⟨yb, _, mb1, mb2, ddb1, ddb2⟩ := validDate_iff.mp (spec_validDate_eq .. ▸ db)
  obtain ⟨ey, em, ed⟩ := ymd2ord_inj _ _ _ _ _ _ ya ⟨ma1, ma2⟩ ⟨dda1, dda2⟩ yb ⟨mb1, mb2⟩ ⟨ddb1, ddb2⟩ hN
  exact ⟨ey, em, ed, hh, hmi, hs, hu⟩

theorem utc_name_ok : ∀ n, utc.name = some n → '\n' ∉ n := by
  intro n hn
  have : n = "UTC".toList := by simpa [utc] using hn.symm
  subst this; decide

def dtUtcMs (d : DT) : Prop :=
  dtValid d = true ∧ d.tz = some utc ∧ d.us % 1000 = 0 ∧ us1000 ≤ localUs d ∧ localUs d < usEnd

theorem localUs_ms (d : DT) (h : d.us % 1000 = 0) : localUs d % 1000 = 0 := by
  unfold localUs toUs; omega

theorem dt_round_utc (r r' : Bool) (d : DT) (hd : dtUtcMs d) :
    ∃ s, dtUnconvert r (.dt d) = .ok (.str s) ∧ markupFree s = true ∧ s ≠ [] ∧
      dtConvert r' (.str s) = .ok (.dt d) := by
  obtain ⟨hv, htz, hms, hlo, hhi⟩ := hd
  have hmod := localUs_ms d hms
  have hoffU : utc.offUs = 0 := rfl
  have hname := utc_name_ok
  have hyear : us1000 ≤ localUs d + 500 ∧ localUs d + 500 < usEnd := by
    unfold us1000 usEnd at *; omega
  have hutc : minInstant ≤ roundMs (localUs d - utc.offUs) ∧ roundMs (localUs d - utc.offUs) < endInstant := by
    rw [hoffU]; unfold minInstant endInstant roundMs; unfold us1000 usEnd at *; omega
  obtain ⟨p, us, _, hun, _, _, htod, hpms, hpo, _⟩ :=
    C09_write r d utc hv htz (by decide) (by decide) hname hyear
  obtain ⟨text, v, hun', hc, hi, _⟩ :=
    C09_write_roundtrip Ofx.Generated.tzs r r' d utc hv htz (by decide) (by decide) hname hyear hutc
  have htext : text = p.render := by
    rw [hun] at hun'; injection hun' with h; injection h with h; exact h.symm
  subst htext
  have hpo' : p.off = some (canonOff 0 (some "UTC".toList)) := by rw [hpo]; rfl
  refine ⟨p.render, hun, render_utc_all _ dch_markupFree (by decide) p htod hpms hpo', render_ne_nil p htod, ?_⟩
  obtain ⟨x, rfl, hxv, hxtz, hxi⟩ := hi
  have hxl := dtInstantUs_local x utc hxv hxtz
  rw [hxl] at hxi
  injection hxi with hxi
  have hround : 1000 * roundMs (localUs d - utc.offUs) = localUs d := by
    rw [hoffU]; unfold roundMs; omega
  rw [hround, hoffU] at hxi
  have hinj := localUs_inj x d hxv hv (by omega)
  have : x = d := by
    cases x; cases d
    simp only at hinj hxtz htz
    obtain ⟨h1, h2, h3, h4, h5, h6, h7⟩ := hinj
    subst h1 h2 h3 h4 h5 h6 h7
    rw [hxtz, htz]
  rw [← this]
  exact hc

def tmUtcMs (t : TM) : Prop := tmValid t = true ∧ t.tz = some utc ∧ t.us % 1000 = 0

theorem tm_round_utc (r r' : Bool) (t : TM) (hd : tmUtcMs t) :
    ∃ s, tmUnconvert r (.tm t) = .ok (.str s) ∧ markupFree s = true ∧ s ≠ [] ∧
      tmConvert r' (.str s) = .ok (.tm t) := by
  obtain ⟨hv, htz, hms⟩ := hd
  have hoffU : utc.offUs = 0 := rfl
  have hname := utc_name_ok
  obtain ⟨p, hun, _, _, htod, hpms, hpo, _⟩ := C09_time_write r t utc hv htz (by decide) (by decide) hname
  obtain ⟨text, v, hun', hc, hi, _⟩ :=
    C09_time_write_roundtrip Ofx.Generated.tzs r r' t utc hv htz (by decide) (by decide) hname
  have htext : text = p.render := by
    rw [hun] at hun'; injection hun' with h; injection h with h; exact h.symm
  subst htext
  have hpo' : p.off = some (canonOff 0 (some "UTC".toList)) := by rw [hpo]; rfl
  refine ⟨p.render, hun, render_utc_all _ dch_markupFree (by decide) p htod hpms hpo', render_ne_nil p htod, ?_⟩
  obtain ⟨x, rfl, hxv, hxtz, hxi⟩ := hi
  rw [tmInstantUs_local x utc hxtz] at hxi
  injection hxi with hxi
  rw [hoffU] at hxi
  have hU : todUs t % 1000 = 0 := by unfold todUs; omega
  have h1 := todUs_lt t hv
  have h2 := todUs_lt x hxv
  have heq : todUs x = todUs t := by
    unfold roundMs at hxi
    generalize todUs t = U at *
    generalize todUs x = X at *
    omega
  have e := todUs_inj x t hxv hv heq
  have : x = t := by
    cases x; cases t
    simp only at e hxtz htz
    obtain ⟨h1, h2, h3, h4⟩ := e
    subst h1 h2 h3 h4
    rw [hxtz, htz]
  rw [← this]
  exact hc

end Ofx.DateTime

namespace Ofx.Types
open Ofx Ofx.Agg

/-- values for which the wire pipeline (write, `_escape_cdata`, read) returns the value -/
def typesDom (enums : List (List Str)) : Kind → Bool → Val → Prop
  | .bool, _, v => ∃ b, v = .bool b
  | .string l st, _, v => ∃ s, v = .str s ∧ s ≠ [] ∧ fits l st s = true
  | .oneOf e, _, v => ∃ s valid, v = .str s ∧ enums[e]? = some valid ∧ s ∈ valid ∧ s ≠ [] ∧ markupFree s = true
  | .integer l, _, v => ∃ i, v = .int i ∧ intFits l i = true
  | .decimal none, _, v => ∃ neg c e, v = .dec (.fin neg c e) ∧ e ≤ 0
  | .decimal (some q), _, v => ∃ neg c, v = .dec (.fin neg c q) ∧ q ≤ 0 ∧ fitsPrec c = true
  | .datetime, _, v => ∃ d, v = .dt d ∧ Ofx.DateTime.dtUtcMs d
  | .time, _, v => ∃ t, v = .tm t ∧ Ofx.DateTime.tmUtcMs t
  | .listElem k ir, _, v => typesDom enums k ir v
  | _, _, _ => False

/-- values for which the direct `from_etree ∘ to_etree` returns the value: strings must be entity-free -/
def typesDomId (enums : List (List Str)) : Kind → Bool → Val → Prop
  | .bool, _, v => ∃ b, v = .bool b
  | .string l st, _, v => ∃ s, v = .str s ∧ s ≠ [] ∧ fits l st s = true ∧ entityFree s = true
  | .oneOf e, _, v => ∃ s valid, v = .str s ∧ enums[e]? = some valid ∧ s ∈ valid ∧ s ≠ []
  | .integer l, _, v => ∃ i, v = .int i ∧ intFits l i = true
  | .decimal none, _, v => ∃ neg c e, v = .dec (.fin neg c e) ∧ e ≤ 0
  | .decimal (some q), _, v => ∃ neg c, v = .dec (.fin neg c q) ∧ q ≤ 0 ∧ fitsPrec c = true
  | .datetime, _, v => ∃ d, v = .dt d ∧ Ofx.DateTime.dtUtcMs d
  | .time, _, v => ∃ t, v = .tm t ∧ Ofx.DateTime.tmUtcMs t
  | .listElem k ir, _, v => typesDomId enums k ir v
  | _, _, _ => False

/-- every branch of the domains is inhabited -/
example : typesDom [] .bool false (.bool true) := ⟨true, rfl⟩
example : typesDom [] (.string (some 12) true) true (.str "AT&T <&amp;>".toList) :=
  ⟨_, rfl, by decide, by decide⟩
example : typesDom [] (.string (some 2) false) false (.str "over-long, kept whole".toList) :=
  ⟨_, rfl, by decide, by decide⟩
example : typesDom [["CALL".toList, "PUT".toList]] (.oneOf 0) true (.str "PUT".toList) :=
  ⟨_, _, rfl, rfl, by decide, by decide, by decide⟩
example : typesDom [] (.integer (some 3)) false (.int (-999)) := ⟨_, rfl, by decide⟩
example : typesDom [] (.decimal none) false (.dec (.fin true 15065 (-2))) := ⟨_, _, _, rfl, by decide⟩
example : typesDom [] (.decimal (some (-2))) false (.dec (.fin false 0 (-2))) :=
  ⟨_, _, rfl, by decide, by decide⟩
example : typesDom [] (.listElem (.string (some 32) true) false) true (.str "a<b".toList) :=
  ⟨_, rfl, by decide, by decide⟩
example : typesDom [] .datetime false (.dt ⟨2024, 2, 29, 23, 59, 59, 999000, some Ofx.Spec.Instant.utc⟩) :=
  ⟨_, rfl, by unfold Ofx.DateTime.dtUtcMs; decide +kernel⟩
example : typesDom [] .time true (.tm ⟨23, 59, 59, 5000, some Ofx.Spec.Instant.utc⟩) :=
  ⟨_, rfl, by unfold Ofx.DateTime.tmUtcMs; decide +kernel⟩
example : typesDomId [] (.string none true) false (.str "AT&T; 100% <plain>".toList) :=
  ⟨_, rfl, by decide, by decide, by decide +kernel⟩

theorem typesConv_none_ok (enums : List (List Str)) (k : Kind) (hl : k.isList = false)
    (hu : k.isUnsupported = false) (hs : Kind.subTarget k = none) (he : Kind.enumOk enums k = true) :
    conv.convert enums k false .none = .ok .none := by
  refine convert_of_reads (.none ?_)
  cases k with
  | oneOf e => simpa [hasConverter, Kind.enumOk] using he
  | listElem _ _ | listAgg _ => cases hl
  | sub _ => cases hs
  | unsupported => cases hu
  | _ => rfl

/-- kinds whose written text is the value itself -/
def isTextKind : Kind → Bool
  | .string .. => true
  | .oneOf _ => true
  | .listElem k _ => isTextKind k
  | _ => false

theorem typesConv_round (enums : List (List Str)) (k : Kind) (r : Bool) (v : Val) (hd : typesDomId enums k r v) :
    ∃ s, conv.unconvert enums k r v = .ok (.str s) ∧ s ≠ [] ∧ conv.convert enums k r (.str s) = .ok v
      ∧ (isTextKind k = false → markupFree s = true) := by
  induction k generalizing r with
  | bool =>
    obtain ⟨b, rfl⟩ := hd
    cases b
    · exact ⟨['N'], rfl, by decide, rfl, fun _ => by decide⟩
    · exact ⟨['Y'], rfl, by decide, rfl, fun _ => by decide⟩
  | string l st =>
    obtain ⟨s, rfl, hne, hf, hfree⟩ := hd
    have := C10_string_inv_partial l st r s hne hf hfree
    exact ⟨s, this.1, hne, this.2, fun h => Bool.noConfusion h⟩
  | oneOf e =>
    obtain ⟨s, valid, rfl, he, hm, hne⟩ := hd
    have := C10_oneof_inv valid r s hm hne
    refine ⟨s, ?_, hne, ?_, fun h => Bool.noConfusion h⟩
    · simp only [conv, unconvert, he]; exact this.1
    · simp only [conv, convert, he]; exact this.2
  | integer l =>
    obtain ⟨i, rfl, hf⟩ := hd
    have := C10_integer_inv l r i hf
    exact ⟨_, this.1, pyStrInt_ne_nil i, this.2, fun _ => pyStrInt_all _ digitChar_markupFree (by decide) i⟩
  | decimal q =>
    cases q with
    | none =>
      obtain ⟨neg, c, e, rfl, he⟩ := hd
      have := C10_decimal_inv r neg c e he
      exact ⟨_, this.1, decFormatF_ne_nil neg c e, this.2, fun _ => decFormatF_all _ digitChar_markupFree (by decide) neg c e⟩
    | some qe =>
      obtain ⟨neg, c, rfl, hq, hc⟩ := hd
      have := C10_decimal_inv_scaled qe hq r neg c hc
      exact ⟨_, this.1, decFormatF_ne_nil neg c qe, this.2, fun _ => decFormatF_all _ digitChar_markupFree (by decide) neg c qe⟩
  | datetime =>
    obtain ⟨d, rfl, hdd⟩ := hd
    obtain ⟨s, hun, hmf, hne, hc⟩ := Ofx.DateTime.dt_round_utc r r d hdd
    exact ⟨s, hun, hne, hc, fun _ => hmf⟩
  | time =>
    obtain ⟨t, rfl, hdt⟩ := hd
    obtain ⟨s, hun, hmf, hne, hc⟩ := Ofx.DateTime.tm_round_utc r r t hdt
    exact ⟨s, hun, hne, hc, fun _ => hmf⟩
  | listElem k ir ih => exact ih ir hd
  | sub c => exact absurd hd (by simp [typesDomId])
  | listAgg c => exact absurd hd (by simp [typesDomId])
  | unsupported => exact absurd hd (by simp [typesDomId])

theorem typesConv_round_id (enums : List (List Str)) (k : Kind) (r : Bool) (v : Val)
    (hd : typesDomId enums k r v) (_hv : v ≠ .none) :
    ∃ s, conv.unconvert enums k r v = .ok (.str s) ∧ id s ≠ [] ∧ conv.convert enums k r (.str (id s)) = .ok v := by
  obtain ⟨s, h1, h2, h3, _⟩ := typesConv_round enums k r v hd
  exact ⟨s, h1, h2, h3⟩

/-- the round law through `_escape_cdata`: a text without markup passes unchanged, character data is decoded back,
    tokens are free of markup by the domain -/
theorem typesConv_round_esc (enums : List (List Str)) (k : Kind) (r : Bool) (v : Val)
    (hd : typesDom enums k r v) (_hv : v ≠ .none) :
    ∃ s, conv.unconvert enums k r v = .ok (.str s) ∧ escapeCdata s ≠ [] ∧
      conv.convert enums k r (.str (escapeCdata s)) = .ok v := by
  have plain : ∀ (k : Kind) (r : Bool), isTextKind k = false → typesDomId enums k r v →
      ∃ s, conv.unconvert enums k r v = .ok (.str s) ∧ escapeCdata s ≠ [] ∧
        conv.convert enums k r (.str (escapeCdata s)) = .ok v := by
    intro k r hk hid
    obtain ⟨s, h1, h2, h3, h4⟩ := typesConv_round enums k r v hid
    rw [← escapeCdata_markupFree s (h4 hk)] at h2 h3
    exact ⟨s, h1, h2, h3⟩
  induction k generalizing r with
  | string l st =>
    obtain ⟨s, rfl, hne, hf⟩ := hd
    refine ⟨s, ?_, escapeCdata_ne_nil s hne, ?_⟩
    · show stringUnconvert l st r (.str s) = _
      rw [C10_string_limits_write]; simp [hf]
    · show stringConvert l st r (.str (escapeCdata s)) = _
      rw [C10_string_limits_read l st r _ (escapeCdata_ne_nil s hne), unescape_escapeCdata]; simp [hf]
  | oneOf e =>
    obtain ⟨s, valid, rfl, he, hm, hne, hmf⟩ := hd
    have := C10_oneof_inv valid r s hm hne
    refine ⟨s, ?_, escapeCdata_ne_nil s hne, ?_⟩
    · simp only [conv, unconvert, he]; exact this.1
    · rw [escapeCdata_markupFree s hmf]; simp only [conv, convert, he]; exact this.2
  | decimal q => cases q <;> exact plain _ r rfl hd
  | listElem k ir ih => exact ih ir hd
  | bool | integer _ | datetime | time => exact plain _ r rfl hd
  | sub _ | listAgg _ | unsupported => exact absurd hd (by simp [typesDom])

/-- the wire pipeline `parse ∘ serialize` -/
theorem typesConv_laws_esc (enums : List (List Str)) : ConvLaws conv enums escapeCdata (typesDom enums) where
  none_ok := typesConv_none_ok enums
  round := typesConv_round_esc enums

/-- the direct round trip `from_etree ∘ to_etree` -/
theorem typesConv_laws_id (enums : List (List Str)) : ConvLaws conv enums id (typesDomId enums) where
  none_ok := typesConv_none_ok enums
  round := typesConv_round_id enums

end Ofx.Types
