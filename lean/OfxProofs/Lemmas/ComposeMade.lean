/-
The builders of `Client.py`, each walked once.  `Made n`: `n` came out of constructor calls of the client's classes
(`reqTable`, `TAX1099RQ`) whose keywords fit the class's keyword table (`Passes`) and whose aggregate parts were made the
same way.  A builder's theorem says that its result is `Made` and meets its expectation of `Spec.Request`, under no
premise of the wire layers; that whatever is `Made` is `Valid` is proved once, by induction.
-/
import OfxProofs.Lemmas.Compose

namespace Ofx.Compose
open Ofx Ofx.Agg Ofx.Spec.Request

attribute [-simp] String.reduceToList

/-- a node as `Client.py` makes it: the class of a row of `reqTable` called on keywords of the row's shapes and on
    aggregates made the same way (`call`); `TAX1099RQ`, the one `ElementList`, has a constructor of its own (`years`) -/
inductive Made (S : Schema) (cv : Conv) (Ptext : Str → Prop) (Pd : DT → Prop) : Node → Prop
  | call {name : String} {tbl : List (String × Shape)} {args : List Node} {kw : List (Str × Node)} {n : Node}
      (hrow : (name, tbl) ∈ reqTable)
      (hkw : ∀ p ∈ kw, Passes S Ptext Pd tbl p) (hsub : ∀ p ∈ kw, p.2.isAgg = true → Made S cv Ptext Pd p.2)
      (hagg : ∀ m ∈ args, m.isAgg = true) (hargs : ∀ m ∈ args, Made S cv Ptext Pd m)
      (h : mk S cv name args kw = .ok n) : Made S cv Ptext Pd n
  | years {kw : List (Str × Node)} {years : List Str} {n : Node}
      (hkw : ∀ p ∈ kw, Passes S Ptext Pd tTAXRQ p) (hyears : ∀ y ∈ years, ∃ j : Int, y = pyStrInt j)
      (h : mk S cv "TAX1099RQ" (years.map sv) kw = .ok n) : Made S cv Ptext Pd n

structure Wire (S : Schema) (cv : Conv) (esc : Str → Str) (Dom : Kind → Bool → Val → Prop) (Ptext : Str → Prop)
    (Pd : DT → Prop) : Prop where
  wf : WireWF S
  into : ConvInto cv S.enums Dom Ptext Pd
  laws : ConvLaws cv S.enums esc Dom
  year : ConvYear cv
  yearDom : ConvYearDom cv S.enums Dom

section
variable {S : Schema} {cv : Conv} {Ptext : Str → Prop} {Pd : DT → Prop} {esc : Str → Str}
  {Dom : Kind → Bool → Val → Prop} {tbl : List (String × Shape)}

theorem Made.valid (hcv : ConvOK cv Ptext) (hw : Wire S cv esc Dom Ptext Pd) {n : Node} (h : Made S cv Ptext Pd n) :
    Valid S cv esc Dom n ∧ ∃ ci f i c, n = .agg ci f i ∧ S.cls? ci = some c ∧ '.' ∉ c.name := by
  have hS := wireWF_reqWF hw.wf
  induction h with
  | @call name tbl args kw n hrow hkw _ _ _ h ihsub ihargs =>
    obtain ⟨ci, c, hc⟩ := reqWF_cls hS hrow
    obtain ⟨f, rfl, _⟩ := mk_spec hcv hc hkw h
    have hwc := wireWF_row hw.wf hrow hc
    exact ⟨mk_valid hcv hw.into hw.laws hc hwc (flags_untested _ hrow) hkw (fun p hp hagg => (ihsub p hp hagg).1)
      ihargs h, ci, f, args, c, rfl, hc.cls, hwc.nodot⟩
  | @years kw years n hkw hyears h =>
    obtain ⟨ci, c, hT, hany, htriv⟩ := wireWF_tax hw.wf
    obtain ⟨f, items, rfl, _⟩ := mk_fields hcv hT.fits hkw h
    obtain ⟨a0, l, ireq0, hfil, hk0⟩ := hT.elem
    have hmk := h
    simp only [mk, hT.fits.idx] at hmk
    -- no keyword of `TAX1099RQ` is an aggregate
    refine ⟨construct_valid_any S cv esc Dom hany hmk (kw_fieldOk hcv hw.into hT.fits (fun k hk => by simp at hk) hkw
      (fun p hp hagg => by
        rcases hkw p hp with h0 | ⟨k, sh, hm, _, hf, _⟩
        · rw [h0] at hagg; cases hagg
        · cases hp2 : p.2 with
          | val x => rw [hp2] at hagg; cases hagg
          | agg cj fj ij =>
            rw [hp2] at hf
            simp only [List.mem_cons, Prod.mk.injEq, List.mem_nil_iff, or_false] at hm
            rcases hm with ⟨_, rfl⟩ | ⟨_, rfl⟩ <;> exact hf.elim))
      (fun hel => by rw [hT.el] at hel; cases hel) ?_ (fun _ _ _ _ => validate_trivial S c _ _ htriv.1 htriv.2.1 htriv.2.2),
      ci, f, items, c, rfl, hT.fits.cls, by rw [findIdx_name hT.fits.idx hT.fits.cls]; decide⟩
    intro _ a ha inner ireq hk m hm x hx
    have : a ∈ c.spec.filter (fun a => a.kind.isListElem) := List.mem_filter.mpr ⟨ha, by rw [hk]; rfl⟩
    rw [hfil, List.mem_singleton] at this
    subst this
    rw [hk0] at hk
    injection hk with hk1 hk2
    subst hk1 hk2
    obtain ⟨y, hy', rfl⟩ := List.mem_map.mp hm
    obtain ⟨j, rfl⟩ := hyears y hy'
    simp only [sv, Node.toVal] at hx
    exact ⟨by rw [hw.year _ _ _ _ _ hx]; simp, hw.yearDom _ _ _ _ hx⟩

def Arg (S : Schema) (cv : Conv) (Ptext : Str → Prop) (Pd : DT → Prop) (tbl : List (String × Shape)) (p : Str × Node) :
    Prop :=
  Passes S Ptext Pd tbl p ∧ (p.2.isAgg = true → Made S cv Ptext Pd p.2)

theorem arg_none (k : String) : Arg S cv Ptext Pd tbl (kv k (.val .none)) := ⟨Or.inl rfl, fun h => nomatch h⟩

theorem arg_val {k : String} {sh : Shape} (hm : (k, sh) ∈ tbl) {x : Val} (hv : sh.fits Ptext (.val x))
    (hw : NodeWire Pd (.val x)) : Arg S cv Ptext Pd tbl (kv k (.val x)) :=
  ⟨Or.inr ⟨k, sh, hm, rfl, hv, hw, fun _ _ _ h => nomatch h⟩, fun h => nomatch h⟩

theorem arg_sv {k : String} (hm : (k, Shape.text) ∈ tbl) {s : Str} (h : Ptext s) :
    Arg S cv Ptext Pd tbl (kv k (sv s)) :=
  arg_val hm (x := .str s) h trivial

theorem arg_osv {k : String} (hm : (k, Shape.text) ∈ tbl) {o : Option Str} (h : ∀ s, o = some s → Ptext s) :
    Arg S cv Ptext Pd tbl (kv k (osv o)) := by
  cases o with
  | none => exact arg_none k
  | some s => exact arg_sv hm (h s rfl)

theorem arg_dt {k : String} (hm : (k, Shape.date) ∈ tbl) {d : DT} (h : Pd d) :
    Arg S cv Ptext Pd tbl (kv k (.val (.dt d))) :=
  arg_val hm (x := .dt d) trivial h

theorem arg_odt {k : String} (hm : (k, Shape.date) ∈ tbl) {o : Option DT} (h : ∀ d, o = some d → Pd d) :
    Arg S cv Ptext Pd tbl (kv k (odt o)) := by
  cases o with
  | none => exact arg_none k
  | some d => exact arg_dt hm (h d rfl)

theorem arg_obv {k : String} (hm : (k, Shape.flag) ∈ tbl) (o : Option Bool) :
    Arg S cv Ptext Pd tbl (kv k (obv o)) := by
  cases o with
  | none => exact arg_none k
  | some b => exact arg_val hm (x := .bool b) trivial trivial

theorem arg_sub {k cls : String} (hm : (k, Shape.sub) ∈ tbl) (hup : upper k.toList = cls.toList) {v : Node}
    (hc : isCls S cls v = true) (hv : Made S cv Ptext Pd v) : Arg S cv Ptext Pd tbl (kv k v) := by
  obtain ⟨cj, f, i, rfl, hidx⟩ := isCls_agg hc
  exact ⟨Or.inr ⟨k, .sub, hm, rfl, trivial, trivial, fun cj' f' i' h => by
    injection h with h1; subst h1; exact hup ▸ hidx⟩, fun _ => hv⟩

theorem made_call (hS : ReqWF S = true) (hcv : ConvOK cv Ptext) {name : String} (hm : (name, tbl) ∈ reqTable)
    {args : List Node} {kw : List (Str × Node)} {n : Node}
    (hkw : ∀ p ∈ kw, Arg S cv Ptext Pd tbl p) (hargs : ∀ m ∈ args, m.isAgg = true ∧ Made S cv Ptext Pd m)
    (h : mk S cv name args kw = .ok n) : Made S cv Ptext Pd n ∧ Reads S name kw n ∧ n.items = args := by
  obtain ⟨ci, c, hc⟩ := reqWF_cls hS hm
  obtain ⟨f, rfl, hcls, hfv, hoth⟩ := mk_spec hcv hc (fun p hp => (hkw p hp).1) h
  exact ⟨.call hm (fun p hp => (hkw p hp).1) (fun p hp => (hkw p hp).2) (fun m hm => (hargs m hm).1)
    (fun m hm => (hargs m hm).2) h, ⟨hcls, hfv, hoth⟩, rfl⟩

def Meet (S : Schema) (cv : Conv) (Ptext : Str → Prop) (Pd : DT → Prop) (tbl : List (String × Shape))
    (p : Str × Node) (q : String × Exp) : Prop :=
  p.1 = q.1.toList ∧ Arg S cv Ptext Pd tbl p ∧ q.2.ok S (normNode p.2) = true

theorem meets_facts {kw : List (Str × Node)} {fs : List (String × Exp)} (h : Rel2 (Meet S cv Ptext Pd tbl) kw fs)
    (hnd : (fs.map (·.1)).Nodup) :
    (∀ p ∈ kw, Arg S cv Ptext Pd tbl p ∧ p.1 ∈ (fs.map (·.1)).map String.toList) ∧
    ∀ q ∈ fs, q.2.ok S (normNode (kwval kw q.1.toList)) = true := by
  induction h with
  | nil => exact ⟨fun _ h => (nomatch h), fun _ h => (nomatch h)⟩
  | @cons p q kw fs hpq _ ih =>
    obtain ⟨hk, ha, he⟩ := hpq
    rw [List.map_cons, List.nodup_cons] at hnd
    obtain ⟨ih1, ih2⟩ := ih hnd.2
    obtain ⟨k, v⟩ := p
    simp only at hk; subst hk
    refine ⟨List.forall_mem_cons.mpr ⟨⟨ha, by simp⟩, fun p' hp' =>
        ⟨(ih1 p' hp').1, by rw [List.map_cons, List.map_cons]; exact List.mem_cons_of_mem _ (ih1 p' hp').2⟩⟩,
      List.forall_mem_cons.mpr ⟨by rw [kwval_kv_cons, if_pos rfl]; exact he, fun q' hq' => ?_⟩⟩
    have hne : q.1 ≠ q'.1 := fun e => hnd.1 (e ▸ List.mem_map_of_mem (f := (·.1)) hq')
    rw [kwval_kv_cons, if_neg hne]
    exact ih2 q' hq'

/-- keyword by keyword in the order of the call (`hks`), so that neither list is written again where the lemma is used -/
theorem made_exp (hS : ReqWF S = true) (hcv : ConvOK cv Ptext) {name : String} (hm : (name, tbl) ∈ reqTable)
    {kw : List (Str × Node)} {fs : List (String × Exp)} {n : Node}
    (h : mk S cv name [] kw = .ok n) (hks : Rel2 (Meet S cv Ptext Pd tbl) kw fs) (hnd : (fs.map (·.1)).Nodup) :
    Made S cv Ptext Pd n ∧ (Exp.agg name fs []).ok S n = true := by
  obtain ⟨h1, h2⟩ := meets_facts hks hnd
  obtain ⟨hmade, hr, hit⟩ := made_call hS hcv hm (fun p hp => (h1 p hp).1) (forall_nil _) h
  exact ⟨hmade, hr.exp h2 (fun p hp => Or.inr (h1 p hp).2) (by rw [hit]; rfl)⟩

theorem meet_str {k : String} (hm : (k, Shape.text) ∈ tbl) {s : Str} (h : Ptext s) (hne : s ≠ []) :
    Meet S cv Ptext Pd tbl (kv k (sv s)) (k, .leaf (.str s)) := ⟨rfl, arg_sv hm h, want_str hne⟩

theorem meet_osv {k : String} (hm : (k, Shape.text) ∈ tbl) {o : Option Str} (h : ∀ s, o = some s → Ptext s) :
    Meet S cv Ptext Pd tbl (kv k (osv o)) (k, .leaf (.ostr o)) := ⟨rfl, arg_osv hm h, want_ostr _⟩

theorem meet_dt {k : String} (hm : (k, Shape.date) ∈ tbl) {d : DT} (h : Pd d) :
    Meet S cv Ptext Pd tbl (kv k (.val (.dt d))) (k, .leaf (.date (some d))) := ⟨rfl, arg_dt hm h, want_dt _⟩

theorem meet_odt {k : String} (hm : (k, Shape.date) ∈ tbl) {o : Option DT} (h : ∀ d, o = some d → Pd d) :
    Meet S cv Ptext Pd tbl (kv k (odt o)) (k, .leaf (.date o)) := ⟨rfl, arg_odt hm h, want_date _⟩

theorem meet_obv {k : String} (hm : (k, Shape.flag) ∈ tbl) (o : Option Bool) :
    Meet S cv Ptext Pd tbl (kv k (obv o)) (k, .leaf (.bool o)) := ⟨rfl, arg_obv hm o, want_bool _⟩

theorem meet_made {k cls : String} (hm : (k, Shape.sub) ∈ tbl) (hup : upper k.toList = cls.toList) {v : Node}
    {fs : List (String × Exp)} {its : List Want}
    (h : Made S cv Ptext Pd v ∧ (Exp.agg cls fs its).ok S v = true) :
    Meet S cv Ptext Pd tbl (kv k v) (k, .agg cls fs its) := by
  have hc : isCls S cls v = true := by
    have := h.2; simp only [Exp.ok, Bool.and_eq_true] at this; exact this.1.1.1
  obtain ⟨cj, f, i, rfl, _⟩ := isCls_agg hc
  exact ⟨rfl, arg_sub hm hup hc h.1, h.2⟩

theorem made_bankacct (hS : ReqWF S = true) (hcv : ConvOK cv Ptext) (cfg : Cfg) (acctid accttype : Option Str)
    (hb : ∀ s, cfg.bankid = some s → Ptext s) (ha : ∀ s, acctid = some s → Ptext s)
    (ht : ∀ s, accttype = some s → Ptext s) {n : Node}
    (h : mk S cv "BANKACCTFROM" [] [kv "bankid" (osv cfg.bankid), kv "acctid" (osv acctid),
      kv "accttype" (osv accttype)] = .ok n) :
    Made S cv Ptext Pd n ∧ (expBankAcct cfg acctid accttype).ok S n = true :=
  made_exp hS hcv (row 3 rfl) h
    (.cons (meet_osv (by simp) hb) (.cons (meet_osv (by simp) ha) (.cons (meet_osv (by simp) ht) .nil))) (by simp)

theorem made_ccacct (hS : ReqWF S = true) (hcv : ConvOK cv Ptext) (acctid : Option Str)
    (ha : ∀ s, acctid = some s → Ptext s) {n : Node} (h : mk S cv "CCACCTFROM" [] [kv "acctid" (osv acctid)] = .ok n) :
    Made S cv Ptext Pd n ∧ (expCcAcct acctid).ok S n = true :=
  made_exp hS hcv (row 4 rfl) h (.cons (meet_osv (by simp) ha) .nil) (by simp)

theorem made_inctran (hS : ReqWF S = true) (hcv : ConvOK cv Ptext) (dtstart dtend : Option DT) (inctran : Option Bool)
    (h1 : ∀ d, dtstart = some d → Pd d) (h2 : ∀ d, dtend = some d → Pd d) {n : Node}
    (h : mk S cv "INCTRAN" [] [kv "dtstart" (odt dtstart), kv "dtend" (odt dtend), kv "include" (obv inctran)]
      = .ok n) :
    Made S cv Ptext Pd n ∧ (expInctran dtstart dtend inctran).ok S n = true :=
  made_exp hS hcv (row 6 rfl) h
    (.cons (meet_odt (by simp) h1) (.cons (meet_odt (by simp) h2) (.cons (meet_obv (by simp) _) .nil))) (by simp)

/-- `NAME(trnuid=uuid, <inner>=rq)` around a request aggregate the client has made -/
theorem made_trn (hS : ReqWF S = true) (hcv : ConvOK cv Ptext) {name inner cls : String}
    (hm : (name, tbl) ∈ reqTable) (h1 : ("trnuid", Shape.text) ∈ tbl) (h2 : (inner, Shape.sub) ∈ tbl) (hne1 : inner ≠ "trnuid")
    (hup : upper inner.toList = cls.toList) {uuid : Str} (hu : Ptext uuid) {rq : Node} {fs : List (String × Exp)}
    {its : List Want} (hrq : Made S cv Ptext Pd rq ∧ (Exp.agg cls fs its).ok S rq = true) {w : Node}
    (h : mk S cv name [] [kv "trnuid" (sv uuid), kv inner rq] = .ok w) :
    Made S cv Ptext Pd w ∧ isCls S name w = true ∧
      (uuid ≠ [] → (Exp.agg name [("trnuid", .leaf .anyStr), (inner, .agg cls fs its)] []).ok S w = true ∧
        fieldVal w "trnuid" = .val (.str uuid)) := by
  obtain ⟨_, harg, he⟩ := meet_made (tbl := tbl) h2 hup hrq
  obtain ⟨hmade, hr, hit⟩ := made_call hS hcv hm
    (forall_cons (arg_sv h1 hu) (forall_cons harg (forall_nil _))) (forall_nil _) h
  refine ⟨hmade, hr.cls, fun hne => ?_⟩
  have htr : normNode (kwval [kv "trnuid" (sv uuid), kv inner rq] "trnuid".toList) = .val (.str uuid) := by
    cases uuid with
    | nil => exact absurd rfl hne
    | cons c cs => simp [kv, kwval_kv_cons, sv, normNode, norm]
  have hinner : kwval [kv "trnuid" (sv uuid), kv inner rq] inner.toList = rq := by
    simp [kv, kwval_kv_cons, hne1.symm]
  refine ⟨hr.exp (forall_cons ?_ (forall_cons ?_ (forall_nil _))) ?_ (by rw [hit]; rfl), (hr.val _).trans htr⟩
  · show Want.ok .anyStr _ = true
    rw [htr]
    cases uuid with
    | nil => exact absurd rfl hne
    | cons c cs => rfl
  · show (Exp.agg cls fs its).ok S _ = true
    rw [hinner]
    exact he
  · simp [kv]

theorem made_wrap (hS : ReqWF S = true) (hcv : ConvOK cv Ptext) (cfg : Cfg) (rq : Req) (uuid : Str)
    (htexts : ∀ s ∈ cfg.texts, Ptext s) (hrq : ∀ s ∈ rq.texts, Ptext s) (hrd : ∀ d ∈ rq.dates, Pd d) (hu : Ptext uuid)
    {w : Node} (h : wrap S cv cfg rq uuid = .ok w) :
    Made S cv Ptext Pd w ∧ isWrapper S rq.kind w = true ∧
      (uuid ≠ [] → (expWrapper cfg rq).ok S w = true ∧ fieldVal w "trnuid" = .val (.str uuid)) := by
  obtain ⟨_, _, _, _, _, _, _, hbank, hbroker⟩ := Cfg.texts_ok htexts
  cases rq with
  | stmt acctid accttype dtstart dtend inctran =>
    simp only [Req.texts, List.mem_append, Option.mem_toList] at hrq
    simp only [Req.dates, List.mem_append, Option.mem_toList] at hrd
    simp only [wrap, stmttrnrq] at h
    obtain ⟨acct, hacct, h⟩ := PyM.bind_ok h
    obtain ⟨inc, hinc, h⟩ := PyM.bind_ok h
    obtain ⟨rq, hrq', h⟩ := PyM.bind_ok h
    refine made_trn hS hcv (row 13 rfl) (by simp) (by simp) (by decide) (by decide +kernel) hu ?_ h
    exact made_exp hS hcv (row 8 rfl) hrq'
      (.cons (meet_made (by simp) (by decide +kernel) (made_bankacct hS hcv cfg acctid accttype hbank
          (fun s hs => hrq s (Or.inl hs)) (fun s hs => hrq s (Or.inr hs)) hacct))
        (.cons (meet_made (by simp) (by decide +kernel) (made_inctran hS hcv dtstart dtend inctran
          (fun d hd => hrd d (Or.inl hd)) (fun d hd => hrd d (Or.inr hd)) hinc)) .nil)) (by simp)
  | stmtEnd acctid accttype dtstart dtend =>
    simp only [Req.texts, List.mem_append, Option.mem_toList] at hrq
    simp only [Req.dates, List.mem_append, Option.mem_toList] at hrd
    simp only [wrap, stmtendtrnrq] at h
    obtain ⟨acct, hacct, h⟩ := PyM.bind_ok h
    obtain ⟨rq, hrq', h⟩ := PyM.bind_ok h
    refine made_trn hS hcv (row 14 rfl) (by simp) (by simp) (by decide) (by decide +kernel) hu ?_ h
    exact made_exp hS hcv (row 9 rfl) hrq'
      (.cons (meet_made (by simp) (by decide +kernel) (made_bankacct hS hcv cfg acctid accttype hbank
          (fun s hs => hrq s (Or.inl hs)) (fun s hs => hrq s (Or.inr hs)) hacct))
        (.cons (meet_odt (by simp) (fun d hd => hrd d (Or.inl hd)))
        (.cons (meet_odt (by simp) (fun d hd => hrd d (Or.inr hd))) .nil))) (by simp)
  | ccStmt acctid dtstart dtend inctran =>
    simp only [Req.texts, Option.mem_toList] at hrq
    simp only [Req.dates, List.mem_append, Option.mem_toList] at hrd
    simp only [wrap, ccstmttrnrq] at h
    obtain ⟨acct, hacct, h⟩ := PyM.bind_ok h
    obtain ⟨inc, hinc, h⟩ := PyM.bind_ok h
    obtain ⟨rq, hrq', h⟩ := PyM.bind_ok h
    refine made_trn hS hcv (row 15 rfl) (by simp) (by simp) (by decide) (by decide +kernel) hu ?_ h
    exact made_exp hS hcv (row 10 rfl) hrq'
      (.cons (meet_made (by simp) (by decide +kernel) (made_ccacct hS hcv acctid hrq hacct))
        (.cons (meet_made (by simp) (by decide +kernel) (made_inctran hS hcv dtstart dtend inctran
          (fun d hd => hrd d (Or.inl hd)) (fun d hd => hrd d (Or.inr hd)) hinc)) .nil)) (by simp)
  | ccStmtEnd acctid dtstart dtend =>
    simp only [Req.texts, Option.mem_toList] at hrq
    simp only [Req.dates, List.mem_append, Option.mem_toList] at hrd
    simp only [wrap, ccstmtendtrnrq] at h
    obtain ⟨acct, hacct, h⟩ := PyM.bind_ok h
    obtain ⟨rq, hrq', h⟩ := PyM.bind_ok h
    refine made_trn hS hcv (row 16 rfl) (by simp) (by simp) (by decide) (by decide +kernel) hu ?_ h
    exact made_exp hS hcv (row 11 rfl) hrq'
      (.cons (meet_made (by simp) (by decide +kernel) (made_ccacct hS hcv acctid hrq hacct))
        (.cons (meet_odt (by simp) (fun d hd => hrd d (Or.inl hd)))
        (.cons (meet_odt (by simp) (fun d hd => hrd d (Or.inr hd))) .nil))) (by simp)
  | invStmt acctid dtstart dtend dtasof inctran incoo incpos incbal =>
    simp only [Req.texts, Option.mem_toList] at hrq
    simp only [Req.dates, List.mem_append, Option.mem_toList] at hrd
    simp only [wrap, invstmttrnrq] at h
    obtain ⟨acct, hacct, h⟩ := PyM.bind_ok h
    obtain ⟨inc, hinc, h⟩ := PyM.bind_ok h
    obtain ⟨pos, hpos, h⟩ := PyM.bind_ok h
    obtain ⟨rq, hrq', h⟩ := PyM.bind_ok h
    -- `INVACCTFROM`: the expectation lists the broker first, the call the account
    obtain ⟨hma, hra, hia⟩ := made_call (Pd := Pd) hS hcv (row 5 rfl)
      (forall_cons (arg_osv (by simp) hrq) (forall_cons (arg_osv (by simp) hbroker) (forall_nil _))) (forall_nil _) hacct
    have hea : (Exp.agg "INVACCTFROM" [("brokerid", .leaf (.ostr cfg.brokerid)),
        ("acctid", .leaf (.ostr acctid))] []).ok S acct = true :=
      hra.exp (by simp [kv, kwval_kv_cons, Exp.ok, want_ostr]) (by simp [kv]) (by rw [hia]; rfl)
    have hinc' : Meet S cv Ptext Pd tINVSTMTRQ (kv "inctran" inc)
        ("inctran", if flagSet inctran then expInctran dtstart dtend inctran else .leaf .absent) := by
      rw [invInctran] at hinc
      by_cases hf : flagSet inctran = true
      · rw [if_pos hf] at hinc ⊢
        exact meet_made (by simp) (by decide +kernel) (made_inctran hS hcv dtstart dtend inctran
          (fun d hd => hrd d (Or.inl (Or.inl hd))) (fun d hd => hrd d (Or.inl (Or.inr hd))) hinc)
      · rw [if_neg hf] at hinc ⊢
        cases hinc
        exact ⟨rfl, arg_none _, rfl⟩
    refine made_trn hS hcv (row 17 rfl) (by simp) (by simp) (by decide) (by decide +kernel) hu ?_ h
    exact made_exp hS hcv (row 12 rfl) hrq'
      (.cons (meet_made (by simp) (by decide +kernel) ⟨hma, hea⟩)
        (.cons hinc'
        (.cons (meet_obv (by simp) _)
        (.cons (meet_made (by simp) (by decide +kernel) (made_exp hS hcv (row 7 rfl) hpos
          (.cons (meet_odt (by simp) (fun d hd => hrd d (Or.inr hd))) (.cons (meet_obv (by simp) _) .nil)) (by simp)))
        (.cons (meet_obv (by simp) _) .nil))))) (by simp)

theorem made_signon (hS : ReqWF S = true) (hcv : ConvOK cv Ptext) (cfg : Cfg) (userpass : Str) (userid : Option Str)
    (dtclient : DT) (htexts : ∀ s ∈ cfg.texts, Ptext s) (hpw : Ptext userpass) (huid : ∀ s, userid = some s → Ptext s)
    (hdt : Pd dtclient) {so : Node} (h : signon S cv cfg userpass userid dtclient = .ok so) :
    Made S cv Ptext Pd so ∧ (expSignon cfg (orDefault userid cfg.userid) userpass dtclient).ok S so = true := by
  obtain ⟨tuid, tappid, tappver, tlang, tcu, torg, tfid, _, _⟩ := Cfg.texts_ok htexts
  have huid' : Ptext (orDefault userid cfg.userid) := by
    cases userid with
    | none => exact tuid
    | some u => exact huid u rfl
  rw [signon] at h
  obtain ⟨fi, hfi, h⟩ := PyM.bind_ok h
  obtain ⟨sonrq, hsonrq, h⟩ := PyM.bind_ok h
  have hfi' : Meet S cv Ptext Pd tSONRQ (kv "fi" fi) ("fi", wantFi cfg) := by
    rw [fiNode] at hfi
    unfold wantFi
    by_cases horg : orgSet cfg = true
    · rw [if_pos horg] at hfi ⊢
      exact meet_made (by simp) (by decide +kernel) (made_exp hS hcv (row 0 rfl) hfi
        (.cons (meet_osv (by simp) torg) (.cons (meet_osv (by simp) tfid) .nil)) (by simp))
    · rw [if_neg horg] at hfi ⊢
      cases hfi
      exact ⟨rfl, arg_none _, rfl⟩
  have hcu : ∀ s, (if cfg.version < 103 then none else cfg.clientuid) = some s → Ptext s := by
    intro s hs
    split at hs
    · cases hs
    · exact tcu s hs
  -- `SONRQ`: the expectation does not list `sesscookie`
  obtain ⟨hmS, hrS, hiS⟩ := made_call (Pd := Pd) hS hcv (row 1 rfl)
    (forall_cons (arg_dt (by simp) hdt) (forall_cons (arg_sv (by simp) huid') (forall_cons (arg_sv (by simp) hpw)
      (forall_cons (arg_sv (by simp) tlang) (forall_cons hfi'.2.1 (forall_cons (arg_none _)
      (forall_cons (arg_sv (by simp) tappid) (forall_cons (arg_sv (by simp) tappver)
      (forall_cons (arg_osv (by simp) hcu) (forall_nil _)))))))))) (forall_nil _) hsonrq
  have hcuw : (wantClientuid cfg).ok (normNode (osv (if cfg.version < 103 then none else cfg.clientuid))) = true := by
    unfold wantClientuid
    by_cases hv : cfg.version < 103
    · have : ¬ cfg.version ≥ 103 := by omega
      simp [hv, this, osv, want_absent]
    · have : cfg.version ≥ 103 := by omega
      simp [hv, this, want_ostr]
  have hfi2 : (wantFi cfg).ok S (normNode fi) = true := hfi'.2.2
  have heS : (Exp.agg "SONRQ" (expSonrq cfg (orDefault userid cfg.userid) userpass dtclient) []).ok S sonrq = true :=
    hrS.exp (by simp [expSonrq, kv, kwval_kv_cons, Exp.ok, want_sv, want_dt, hcuw, hfi2])
      (by simp [kv, expSonrq]) (by rw [hiS]; rfl)
  exact made_exp hS hcv (row 2 rfl) h (.cons (meet_made (by simp) (by decide +kernel) ⟨hmS, heS⟩) .nil) (by simp)

theorem exp_agg_nil {cls : String} {fs : List (String × Exp)} {n : Node} (h : (Exp.agg cls fs []).ok S n = true) :
    ∃ ci f, n = .agg ci f [] ∧ isCls S cls n = true := by
  simp only [Exp.ok, Bool.and_eq_true] at h
  obtain ⟨ci, f, its, rfl, _⟩ := isCls_agg h.1.1.1
  cases its with
  | nil => exact ⟨ci, f, rfl, h.1.1.1⟩
  | cons _ _ => simp [all2, Node.items] at h

theorem made_ofx (hS : ReqWF S = true) (hcv : ConvOK cv Ptext) {kw : List (Str × Node)} {n : Node}
    (hkw : ∀ p ∈ kw, Arg S cv Ptext Pd tOFX p) (h : mk S cv "OFX" [] kw = .ok n) :
    ∃ ci f, n = .agg ci f [] ∧ Made S cv Ptext Pd n ∧ Reads S "OFX" kw n := by
  obtain ⟨hm, hr, hi⟩ := made_call hS hcv (row 21 rfl) hkw (forall_nil _) h
  obtain ⟨ci, f, its, rfl, _⟩ := isCls_agg hr.cls
  obtain rfl : its = [] := hi
  exact ⟨ci, f, rfl, hm, hr⟩

theorem made_msgset (hS : ReqWF S = true) (hcv : ConvOK cv Ptext) (m : MsgSet) {args : List Node}
    (hargs : ∀ w ∈ args, w.isAgg = true ∧ Made S cv Ptext Pd w) {inst : Node}
    (h : mk S cv m.className args [] = .ok inst) :
    Made S cv Ptext Pd inst ∧ Reads S m.className [] inst ∧ inst.items = args := by
  cases m
  · exact made_call hS hcv (row 18 rfl) (forall_nil _) hargs h
  · exact made_call hS hcv (row 19 rfl) (forall_nil _) hargs h
  · exact made_call hS hcv (row 20 rfl) (forall_nil _) hargs h

theorem isAgg_of_isCls {name : String} {n : Node} (h : isCls S name n = true) : n.isAgg = true := by
  obtain ⟨_, _, _, rfl, _⟩ := isCls_agg h; rfl

theorem made_requestStatements (hS : ReqWF S = true) (hcv : ConvOK cv Ptext) (cfg : Cfg) (pw : Str) (reqs : List Req)
    (us : Nat → Str) (dtc : DT) (htexts : ∀ s ∈ cfg.texts, Ptext s) (hpw : Ptext pw)
    (hreqs : ∀ r ∈ reqs, ∀ s ∈ r.texts, Ptext s) (hdates : ∀ r ∈ reqs, ∀ d ∈ r.dates, Pd d) (hdt : Pd dtc)
    (huP : ∀ i, Ptext (us i)) {root : Node} (h : requestStatements S cv cfg pw reqs us dtc = .ok root) :
    Made S cv Ptext Pd root ∧
      ((∀ i j, us i = us j → i = j) → (∀ i, us i ≠ []) → check S cfg pw dtc reqs (Int.ofNat cfg.version) root = []) := by
  obtain ⟨wm, so, msgs, hrel, hso, hlook, hmsgs, h⟩ := requestStatements_nf h
  have hwrap : ∀ m, Rel2 (fun (p : Req × Nat) w => Made S cv Ptext Pd w ∧ isWrapper S p.1.kind w = true ∧
      (us p.2 ≠ [] → (expWrapper cfg p.1).ok S w = true ∧ fieldVal w "trnuid" = .val (.str (us p.2)))) _ (wm m) :=
    fun m => rel2_imp (rel2_with_mem (hrel m)) (fun p w hpw =>
      have hmem : p.1 ∈ reqs := ((sortBy_stable RKind.le Req.kind rkind_order reqs).mem p.1).mp
        (List.fst_mem_of_mem_zipIdx (List.mem_filter.mp hpw.2).1)
      made_wrap hS hcv cfg p.1 (us p.2) htexts (hreqs p.1 hmem) (hdates p.1 hmem) (huP _) hpw.1)
  have hinst : ∀ m inst, mk S cv m.className (wm m) [] = .ok inst →
      Made S cv Ptext Pd inst ∧ Reads S m.className [] inst ∧ inst.items = wm m := fun m inst hmk =>
    made_msgset hS hcv m (fun w hmem => by
      obtain ⟨p, _, hmw, hk, _⟩ := rel2_mem_right (hwrap m) hmem
      exact ⟨isAgg_of_isCls hk, hmw⟩) hmk
  obtain ⟨hmso, heso⟩ := made_signon hS hcv cfg pw none dtc htexts hpw (fun _ e => nomatch e) hdt hso
  obtain ⟨cis, fs, rfl, hcso⟩ := exp_agg_nil heso
  have hkwO : ∀ p ∈ msgs, Arg S cv Ptext Pd tOFX p := by
    intro e he
    obtain ⟨m, inst, rfl, hmk⟩ := hmsgs e he
    obtain ⟨hmi, hri, _⟩ := hinst m inst hmk
    exact arg_sub (msgset_kw m).1 (msgset_kw m).2.1 hri.cls hmi
  obtain ⟨ciO, fO, rfl, hmO, hrO⟩ := made_ofx hS hcv
    (forall_cons (arg_sub (by simp) (by decide +kernel) hcso hmso) hkwO) h
  refine ⟨hmO, fun hinj hune => ?_⟩
  have hothO' : othersNone ("signonmsgsrqv1" :: allMsgSets.map (·.attrName)) (.agg ciO fO []) = true := by
    refine hrO.others _ (forall_cons (Or.inr (by simp [kv])) fun e he => ?_)
    obtain ⟨m, inst, rfl, _⟩ := hmsgs e he
    exact Or.inr (List.mem_map_of_mem (List.mem_cons_of_mem _ (List.mem_map_of_mem (by cases m <;> simp [allMsgSets]))))
  have hval : ∀ m : MsgSet, fieldVal (.agg ciO fO []) m.attrName = normNode (kwval msgs m.attrName.toList) := by
    intro m
    rw [hrO.val, kv, kwval_kv_cons, if_neg (msgset_kw m).2.2]
  have hM : ∀ m : MsgSet, (wm m = [] ∧ fieldVal (.agg ciO fO []) m.attrName = .val .none) ∨
      (wm m ≠ [] ∧ ∃ ci f, fieldVal (.agg ciO fO []) m.attrName = .agg ci f (wm m) ∧
        isCls S m.className (.agg ci f (wm m)) = true ∧ othersNone [] (.agg ci f (wm m)) = true) := by
    intro m
    rcases hlook m with ⟨hnil, hl⟩ | ⟨hne, inst, hl, hmk⟩
    · exact Or.inl ⟨hnil, by rw [hval, kwval, hl]; rfl⟩
    · obtain ⟨_, hr, hi⟩ := hinst m inst hmk
      obtain ⟨ci, f, its, rfl, _⟩ := isCls_agg hr.cls
      obtain rfl : its = wm m := hi
      exact Or.inr ⟨hne, ci, f, by rw [hval, kwval_of_lookup hl]; rfl, hr.cls, hr.others [] (forall_nil _)⟩
  have hso' : fieldVal (.agg ciO fO []) "signonmsgsrqv1" = .agg cis fs [] := by
    rw [hrO.val]; simp [kv, kwval_kv_cons]
  have h1 : headerClause cfg.version (Int.ofNat cfg.version) = [] := by simp [headerClause, clause_eq_nil]
  have h2 : rootClauses S (allMsgSets.map (·.attrName)) (.agg ciO fO []) = [] := by
    simp [rootClauses, clause_eq_nil, hrO.cls, Node.items, hothO']
  have h3 : signonClauses S cfg cfg.userid pw dtc (fieldVal (.agg ciO fO []) "signonmsgsrqv1") = [] := by
    rw [hso']; exact signonClauses_eq_nil.mpr heso
  have h4 : allMsgSets.flatMap (fun m => msgsetClauses S cfg reqs m (.agg ciO fO [])) = [] :=
    List.flatMap_eq_nil_iff.mpr fun m _ => msgset_clauses_ok cfg reqs m _ (wm m)
      (rel2_imp (hwrap m) (fun p w ⟨_, hk, hs⟩ => ⟨hk, (hs (hune _)).1⟩)) (hM m)
  have h5 := trnuid_clause_ok us hinj (sortBy RKind.le Req.kind reqs) (.agg ciO fO []) wm
    (fun m => rel2_imp (hwrap m) (fun p w ⟨_, _, hs⟩ => (hs (hune _)).2))
    (fun m => by
      rcases hM m with ⟨hnil, hnone⟩ | ⟨_, ci, f, hfv, _, _⟩
      · rw [hnone, hnil]; rfl
      · rw [hfv]; rfl)
  simp only [check, h1, h2, h3, h4, h5, List.append_nil]

/-- a request made of the sign-on and one message set holding one wrapper -/
theorem made_single (hS : ReqWF S = true) (hcv : ConvOK cv Ptext) {attr msgCls label : String}
    (hattr : (attr, Shape.sub) ∈ tOFX) (hattr' : attr ≠ "signonmsgsrqv1") (hmsg : (msgCls, tMSGS) ∈ reqTable)
    (hup : upper attr.toList = msgCls.toList) (cfg : Cfg) (userid password : Str) (dtc : DT) {so : Node}
    (hso : Made S cv Ptext Pd so ∧ (expSignon cfg userid password dtc).ok S so = true) {want : Exp} {trn : Node}
    {uuid : Str} (htrn : Made S cv Ptext Pd trn ∧ isCls S label trn = true ∧
      (uuid ≠ [] → want.ok S trn = true ∧ fieldVal trn "trnuid" = .val (.str uuid)))
    {msgs root : Node} (hmsgs : mk S cv msgCls [trn] [] = .ok msgs)
    (hroot : mk S cv "OFX" [] [kv "signonmsgsrqv1" so, kv attr msgs] = .ok root) :
    Made S cv Ptext Pd root ∧
      (uuid ≠ [] → checkSingle S cfg userid password dtc (Int.ofNat cfg.version) cfg.version attr msgCls label want
        root = []) := by
  obtain ⟨cis, fs, rfl, hcso⟩ := exp_agg_nil hso.2
  obtain ⟨hmM, hrM, hiM⟩ := made_call hS hcv hmsg (forall_nil _)
    (fun m hm => by rw [List.mem_singleton.mp hm]; exact ⟨isAgg_of_isCls htrn.2.1, htrn.1⟩) hmsgs
  obtain ⟨ciM, fM, itsM, rfl, _⟩ := isCls_agg hrM.cls
  obtain rfl : itsM = [trn] := hiM
  obtain ⟨ciO, fO, rfl, hmO, hrO⟩ := made_ofx hS hcv
    (forall_cons (arg_sub (by simp) (by decide +kernel) hcso hso.1)
      (forall_cons (arg_sub hattr hup hrM.cls hmM) (forall_nil _))) hroot
  refine ⟨hmO, fun hune => ?_⟩
  have hso' : fieldVal (.agg ciO fO []) "signonmsgsrqv1" = .agg cis fs [] := by
    rw [hrO.val]; simp [kv, kwval_kv_cons]
  have hms' : fieldVal (.agg ciO fO []) attr = .agg ciM fM [trn] := by
    rw [hrO.val]; simp [kv, kwval_kv_cons, hattr'.symm]
  have hoth := hrO.others ["signonmsgsrqv1", attr] (by simp [kv])
  have hothM := hrM.others [] (forall_nil _)
  simp [checkSingle, headerClause, rootClauses, trnuidClause, trnuidsOf, clause_eq_nil, hrO.cls, Node.items, hoth, hso',
    signonClauses_eq_nil.mpr hso.2, hms', hrM.cls, hothM, all2, (htrn.2.2 hune).1, (htrn.2.2 hune).2, strOf, nodupB]

theorem made_requestAccounts (hS : ReqWF S = true) (hcv : ConvOK cv Ptext) (cfg : Cfg) (pw : Str)
    (dtacctup : Option DT) (us : Nat → Str) (dtc : DT) (htexts : ∀ s ∈ cfg.texts, Ptext s) (hpw : Ptext pw)
    (hd : ∀ d, dtacctup = some d → Pd d) (hdt : Pd dtc) (hu : Ptext (us 0)) {root : Node}
    (h : requestAccounts S cv cfg pw dtacctup us dtc = .ok root) :
    Made S cv Ptext Pd root ∧
      (us 0 ≠ [] → checkAccounts S cfg pw dtc dtacctup (Int.ofNat cfg.version) root = []) := by
  simp only [requestAccounts] at h
  obtain ⟨so, hso, h⟩ := PyM.bind_ok h
  obtain ⟨rq, hrq, h⟩ := PyM.bind_ok h
  obtain ⟨trn, htrn, h⟩ := PyM.bind_ok h
  obtain ⟨msgs, hmsgs, hroot⟩ := PyM.bind_ok h
  exact made_single hS hcv (by simp) (by decide) (row 24 rfl) (by decide +kernel) cfg cfg.userid pw dtc
    (made_signon hS hcv cfg pw none dtc htexts hpw (fun _ e => nomatch e) hdt hso)
    (made_trn hS hcv (row 23 rfl) (by simp) (by simp) (by decide) (by decide +kernel) hu
      (made_exp hS hcv (row 22 rfl) hrq (.cons (meet_odt (by simp) hd) .nil) (by simp)) htrn) hmsgs hroot

theorem made_requestProfile (hS : ReqWF S = true) (hcv : ConvOK cv Ptext) (cfg : Cfg) (dtprofup : Option DT)
    (us : Nat → Str) (dtc : DT) (htexts : ∀ s ∈ cfg.texts, Ptext s) (hph : Ptext authPlaceholder)
    (hnone : Ptext "NONE".toList) (hd : Pd (orDefault dtprofup defaultDtprofup)) (hdt : Pd dtc) (hu : Ptext (us 0))
    {root : Node} (h : requestProfile S cv cfg dtprofup us dtc = .ok root) :
    Made S cv Ptext Pd root ∧
      (us 0 ≠ [] → checkProfile S cfg dtc dtprofup none (Int.ofNat cfg.version) root = []) := by
  simp only [requestProfile] at h
  obtain ⟨rq, hrq, h⟩ := PyM.bind_ok h
  obtain ⟨trn, htrn, h⟩ := PyM.bind_ok h
  obtain ⟨so, hso, h⟩ := PyM.bind_ok h
  obtain ⟨msgs, hmsgs, hroot⟩ := PyM.bind_ok h
  exact made_single hS hcv (by simp) (by decide) (row 27 rfl) (by decide +kernel) cfg authPlaceholder
    authPlaceholder dtc
    (made_signon hS hcv cfg authPlaceholder (some authPlaceholder) dtc htexts hph
      (fun s hs => Option.some.inj hs ▸ hph) hdt hso)
    (made_trn hS hcv (row 26 rfl) (by simp) (by simp) (by decide) (by decide +kernel) hu
      (made_exp hS hcv (row 25 rfl) hrq
        (.cons (meet_str (by simp) hnone (by decide +kernel))
          (.cons (meet_dt (by simp) hd) .nil)) (by simp)) htrn) hmsgs hroot

/-- `TAX1099RQ` is an `ElementList`: `mk_fields`, not `made_exp` -/
theorem made_requestTax (hS : ReqWF S = true) (hT : taxWFB S = true) (hcv : ConvOK cv Ptext) (hy : ConvYear cv)
    (cfg : Cfg) (pw : Str) (years : List Str) (acctnum recid : Option Str) (us : Nat → Str) (dtc : DT)
    (htexts : ∀ s ∈ cfg.texts, Ptext s) (hpw : Ptext pw)
    (hacct : ∀ s, acctnum = some s → Ptext s) (hrec : ∀ s, recid = some s → Ptext s)
    (hyears : ∀ y ∈ years, ∃ j : Int, y = pyStrInt j) (hdt : Pd dtc) (hu : Ptext (us 0)) {root : Node}
    (h : requestTax S cv cfg pw years acctnum recid us dtc = .ok root) :
    Made S cv Ptext Pd root ∧
      (us 0 ≠ [] → checkTax S cfg pw dtc years acctnum recid (Int.ofNat cfg.version) root = []) := by
  simp only [requestTax] at h
  obtain ⟨so, hso, h⟩ := PyM.bind_ok h
  obtain ⟨rq, hrq, h⟩ := PyM.bind_ok h
  obtain ⟨trn, htrn, h⟩ := PyM.bind_ok h
  obtain ⟨msgs, hmsgs, hroot⟩ := PyM.bind_ok h
  obtain ⟨ci, c, hT⟩ := taxWF_of hT
  have hkw : ∀ p ∈ [kv "acctnum" (osv (orNone acctnum)), kv "recid" (osv (orNone recid))],
      Arg S cv Ptext Pd tTAXRQ p :=
    forall_cons (arg_osv (by simp) (fun s hs => hacct s (orNone_some hs)))
      (forall_cons (arg_osv (by simp) (fun s hs => hrec s (orNone_some hs))) (forall_nil _))
  obtain ⟨f, items, rfl, hitems, hcls, hfv, hoth⟩ :=
    mk_fields hcv hT.fits (fun p hp => (hkw p hp).1) hrq
  obtain ⟨a0, l, ireq0, hfil, hk0⟩ := hT.elem
  have hit : all2 Want.ok (years.map Want.year) items = true := by
    simp only [applyArgs, hT.el, if_true, hfil, hk0] at hitems
    exact years_ok hy hyears (mapM_rel2 hitems)
  have he : (expTaxRq years acctnum recid).ok S (.agg ci f items) = true :=
    (Reads.mk hcls hfv hoth).exp (by simp [kv, kwval_kv_cons, Exp.ok, want_ostr_orNone]) (by simp [kv])
      hit
  exact made_single hS hcv (by simp) (by decide) (row 28 rfl) (by decide +kernel) cfg cfg.userid pw dtc
    (made_signon hS hcv cfg pw none dtc htexts hpw (fun _ e => nomatch e) hdt hso)
    (made_trn hS hcv (row 29 rfl) (by simp) (by simp) (by decide) (by decide +kernel) hu
      ⟨.years (fun p hp => (hkw p hp).1) hyears hrq, he⟩ htrn) hmsgs hroot

end
end Ofx.Compose
