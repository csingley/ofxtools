/-
C18, the INI reader: the "impossible" Python errors inside `_read` (`KeyError` / `AttributeError` on
`cursect[optname].append(…)`, and `cursect` referring to no dict of the parser: the four `IniErr.internal` branches of
`appendIn` and `modCur`) are never reached, so `iniReadInto` fails only with the four `configparser` exceptions.
The invariant is `RInv` of `Lemmas/IniRead.lean`.
-/
import OfxProofs.Lemmas.IniRead

namespace Ofx.IniText
open Ofx Ofx.Ofxget

def Safe (r : Except IniErr RState) : Prop := r ≠ .error .internal ∧ ∀ st', r = .ok st' → RInv st'

theorem Safe.ok {st : RState} (h : RInv st) : Safe (.ok st) := ⟨by simp, fun _ e => by cases e; exact h⟩

theorem Safe.error {e : IniErr} (h : e ≠ .internal) : Safe (.error e) := ⟨by simpa using h, fun _ e => by cases e⟩

theorem append_inv (st : RState) (k : Name) (x : Str) (h : RInv st) (ho : st.openOpt = some k) :
    Safe (st.modCur (appendIn k x)) := by
  obtain ⟨hc, hname, _⟩ := (openOpt_iff st k).mp ho
  have hok := curOk_of h.sect hc
  obtain ⟨l, _, hl⟩ := h.opened k ho
  rw [modCur_ok st _ _ hok (appendIn_lookup k x _ l hl)]
  exact Safe.ok (setCur_inv st k _ (by simp) hok hname h.sect)

theorem header_inv (st : RState) (name : Str) : Safe (st.header name) := by
  rw [header_eq]
  split
  · exact Safe.error (by decide)
  · exact Safe.ok (enter_inv st name)

theorem setOpt_inv (st : RState) (key : Name) (v : Str) (hok : CurOk st) (hname : st.optname = some key)
    (hsec : ∀ n, st.cur = .named n → (st.sections.lookup n).isSome = true) :
    Safe (st.modCur (fun d => .ok (mapSet key (.lines [v]) d))) := by
  have : st.modCur (fun d => .ok (mapSet key (.lines [v]) d)) = _ := modCur_ok st _ _ hok rfl
  rw [this]
  exact Safe.ok (setCur_inv st key _ (by simp) hok hname hsec)

theorem option_inv (st : RState) (k v : Str) (h : RInv st) (hc : st.cur ≠ .none) : Safe (st.option k v) := by
  unfold RState.option
  simp only
  split
  · exact Safe.error (by decide)
  · exact setOpt_inv _ _ v (curOk_of h.sect hc) rfl h.sect

theorem stepTail_inv (st : RState) (value : Str) (h : RInv st) : Safe (stepTail st value) := by
  unfold stepTail
  split
  · exact header_inv _ _
  · split
    · exact Safe.error (by decide)
    · rename_i hcur
      split
      · exact option_inv _ _ _ h (by intro e; exact hcur e)
      · exact Safe.ok ⟨h.sect, h.opened⟩

theorem step_inv (st : RState) (line : Str) (h : RInv st) :
    step st line ≠ .error .internal ∧ ∀ st', step st line = .ok st' → RInv st' := by
  have htail := stepTail_inv { st with indent := indentOf line } (strip line) ⟨h.sect, h.opened⟩
  show Safe (step st line)
  rw [step_eq]
  by_cases hc : isCommentLine (strip line) = true
  · simp only [hc, if_true]; exact Safe.ok h
  · simp only [hc, Bool.false_eq_true, if_false]
    by_cases he : (strip line).isEmpty = true
    · simp only [he, if_true]
      cases ho : st.openOpt with
      | none => exact Safe.ok h
      | some k => exact append_inv st k [] h ho
    · simp only [he, Bool.false_eq_true, if_false]
      cases ho : st.openOpt with
      | none => exact htail
      | some k =>
        by_cases hi : indentOf line > st.indent
        · simp only [hi, if_true]; exact append_inv st k _ h ho
        · simp only [hi, if_false]; exact htail

theorem foldlM_step_inv (lines : List Str) (st : RState) (h : RInv st) :
    lines.foldlM step st ≠ .error .internal := by
  induction lines generalizing st with
  | nil => simp
  | cons l rest ih =>
    obtain ⟨h1, h2⟩ := step_inv st l h
    rw [List.foldlM_cons]
    cases hs : step st l with
    | error e => exact fun he => h1 (hs.trans he)
    | ok st' => exact ih st' (h2 st' hs)

theorem inv_init (c : Ini) : RInv (RState.init c) :=
  ⟨fun n hn => (nomatch hn), fun k hk => by rw [openOpt_none _ rfl] at hk; cases hk⟩

theorem iniReadInto_no_internal (c0 : Ini) (text : Str) : iniReadInto c0 text ≠ .error .internal := by
  unfold iniReadInto
  have := foldlM_step_inv (splitLines text) (RState.init c0) (inv_init c0)
  cases hs : (splitLines text).foldlM step (RState.init c0) with
  | error e =>
    intro he
    cases he
    exact this hs
  | ok st =>
    simp only [PyM.ok_bind]
    split <;> simp

end Ofx.IniText
