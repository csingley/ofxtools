/-
Lemmas for C09 below the two patterns (those are in `Lemmas/DateTimeRead.lean`): fixed-width digit fields, `int()` on
the hours of an offset, the microsecond arithmetic, the writer, and that the executable recogniser `Spec.Instant.parse`
is sound and complete for `InNotation`.
-/
import OfxModel.Ofx.DateTime
import OfxModel.Spec.Instant
import OfxProofs.Lemmas.Cal
import OfxProofs.Lemmas.Digits
import OfxProofs.Lemmas.PyM

namespace Ofx.DateTime
open Ofx Ofx.Cal Ofx.Spec.Instant

theorem mod10_lt (n : Nat) : n % 10 < 10 := Nat.mod_lt _ (by decide)

theorem digitVal_dch (n : Nat) : digitVal (dch n) = some (n % 10) := digitVal_digitChar _ (mod10_lt n)

theorem isAsciiDigit_dch (n : Nat) : isAsciiDigit (dch n) = true :=
  (by decide : ∀ d < 10, isAsciiDigit (digitChar d) = true) _ (mod10_lt n)

theorem isHoursChar_dch (n : Nat) : isHoursChar (dch n) = true := by
  simp [isHoursChar, isAsciiDigit_dch]

theorem dch_ne_newline (n : Nat) : dch n ≠ '\n' :=
  (by decide : ∀ d < 10, digitChar d ≠ '\n') _ (mod10_lt n)

theorem dch_ne_sign (a : Nat) : dch a ≠ '-' ∧ dch a ≠ '+' :=
  (by decide : ∀ d < 10, digitChar d ≠ '-' ∧ digitChar d ≠ '+') _ (mod10_lt a)

theorem dch_mod (n : Nat) : dch (n % 10) = dch n := by unfold dch; rw [Nat.mod_mod]

theorem digitsVal_map_dch (ds : List Nat) (hd : ∀ d ∈ ds, d < 10) (acc : Nat) :
    digitsVal digitVal acc (ds.map dch) = some (ds.foldl (fun a d => 10 * a + d) acc) := by
  induction ds generalizing acc with
  | nil => rfl
  | cons d r ih =>
    have hd' : d < 10 := hd d (by simp)
    simp only [List.map_cons, digitsVal, digitVal_dch, List.foldl_cons, Nat.mod_eq_of_lt hd']
    exact ih (fun x hx => hd x (by simp [hx])) _

def fixDigits : Nat → Nat → List Nat
  | 0, _ => []
  | k + 1, n => fixDigits k (n / 10) ++ [n % 10]

theorem fixDigits_length (k n : Nat) : (fixDigits k n).length = k := by
  induction k generalizing n with
  | zero => rfl
  | succ k ih => simp [fixDigits, ih]

theorem fixDigits_lt (k n : Nat) : ∀ d ∈ fixDigits k n, d < 10 := by
  induction k generalizing n with
  | zero => simp [fixDigits]
  | succ k ih =>
    intro d hd
    rcases List.mem_append.mp hd with h | h
    · exact ih _ d h
    · rw [List.mem_singleton.mp h]; exact mod10_lt n

theorem fixDigits_foldl (k n : Nat) : (fixDigits k n).foldl (fun a d => 10 * a + d) 0 = n % 10 ^ k := by
  induction k generalizing n with
  | zero => simp [fixDigits, Nat.mod_one]
  | succ k ih =>
    rw [fixDigits, List.foldl_append, ih, Nat.pow_succ', Nat.mod_mul]
    simp only [List.foldl]
    omega

theorem fixDigits_of_foldl (ds : List Nat) (hd : ∀ d ∈ ds, d < 10) :
    fixDigits ds.length (ds.foldl (fun a d => 10 * a + d) 0) = ds := by
  -- `fixDigits` peels the last digit, so the induction runs over the reversed list
  suffices ∀ rs : List Nat, (∀ d ∈ rs, d < 10) →
      fixDigits rs.length (rs.reverse.foldl (fun a d => 10 * a + d) 0) = rs.reverse by
    simpa using this ds.reverse (by simpa using hd)
  intro rs
  induction rs with
  | nil => intro _; rfl
  | cons d r ih =>
    intro h
    have hd := h d (by simp)
    rw [List.reverse_cons, List.foldl_append, List.length_cons, fixDigits]
    generalize List.foldl (fun a d => 10 * a + d) 0 r.reverse = X at *
    rw [show List.foldl (fun a d => 10 * a + d) X [d] = 10 * X + d from rfl, Nat.mul_add_div (by decide),
      Nat.mul_add_mod, Nat.div_eq_of_lt hd, Nat.mod_eq_of_lt hd, Nat.add_zero, ih (fun x hx => h x (by simp [hx]))]

theorem d2_eq (n : Nat) : d2 n = (fixDigits 2 n).map dch := by simp [d2, fixDigits, dch_mod]
theorem d3_eq (n : Nat) : d3 n = (fixDigits 3 n).map dch := by
  simp [d3, fixDigits, dch_mod, Nat.div_div_eq_div_mul]
theorem d4_eq (n : Nat) : d4 n = (fixDigits 4 n).map dch := by
  simp [d4, fixDigits, dch_mod, Nat.div_div_eq_div_mul]

theorem natOfAscii_fix (k n : Nat) (h : n < 10 ^ k) : natOfAscii ((fixDigits k n).map dch) = some n := by
  rw [natOfAscii, digitsVal_map_dch _ (fixDigits_lt k n) 0, fixDigits_foldl, Nat.mod_eq_of_lt h]

theorem intOfAscii_fix (k n : Nat) (h : n < 10 ^ k) : intOfAscii (some ((fixDigits k n).map dch)) = .ok n := by
  simp only [intOfAscii, natOfAscii_fix k n h]

theorem intOfAscii_d2 (n : Nat) (h : n < 100) : intOfAscii (some (d2 n)) = .ok n := d2_eq n ▸ intOfAscii_fix 2 n h
theorem intOfAscii_d4 (n : Nat) (h : n < 10000) : intOfAscii (some (d4 n)) = .ok n := d4_eq n ▸ intOfAscii_fix 4 n h

theorem intOfAscii_none : intOfAscii none = .ok 0 := rfl

theorem intOfAscii_ms (ms : Option Nat) (h : ∀ x, ms = some x → x < 1000) :
    intOfAscii (ms.map d3) = .ok (ms.getD 0) := by
  cases ms with
  | none => rfl
  | some x => exact (d3_eq x ▸ intOfAscii_fix 3 x (h x rfl) : intOfAscii (some (d3 x)) = .ok x)

theorem intOfAscii_min (mm : Option Nat) (h : ∀ m, mm = some m → m < 60) :
    intOfAscii (mm.map d2) = .ok (mm.getD 0) := by
  cases mm with
  | none => rfl
  | some m => exact intOfAscii_d2 m (Nat.lt_trans (h m rfl) (by decide))

def minutesText : Option Nat → Str | some m => '.' :: d2 m | none => []
def nameText : Option Str → Str | some n => ':' :: n | none => []

def signText : Option Bool → Str | some true => ['-'] | some false => ['+'] | none => []
def hoursText (o : OffText) : Str := signText o.sign ++ o.hdigits.map dch
def msText : Option Nat → Str | some ms => '.' :: d3 ms | none => []
def offText : Option OffText → Str | some o => '[' :: (o.render ++ [']']) | none => []

theorem OffText.render_eq (o : OffText) :
    o.render = hoursText o ++ (minutesText o.minutes ++ nameText o.name) := by
  unfold OffText.render hoursText signText minutesText nameText
  cases o.sign with
  | none => cases o.minutes <;> cases o.name <;> simp
  | some b => cases b <;> cases o.minutes <;> cases o.name <;> simp

structure OffScanOk (o : OffText) : Prop where
  digits : o.hdigits ≠ []
  minutes : ∀ m, o.minutes = some m → m < 60
  name : ∀ n, o.name = some n → '\n' ∉ n

def todText (h mi s : Nat) : Str := d2 h ++ d2 mi ++ d2 s

def dateText (y m d : Nat) : Str := d4 y ++ d2 m ++ d2 d

theorem pyIntSigned_hoursText_eq (o : OffText) (hne : o.hdigits ≠ []) :
    pyIntSigned (hoursText o)
      = if o.hdigits.length > intMaxStrDigits then none
        else (natOfAscii (o.hdigits.map dch)).map
          fun n => if o.sign = some true then -(n : Int) else (n : Int) := by
  obtain ⟨a, r, hh⟩ := List.exists_cons_of_ne_nil hne
  unfold hoursText signText
  rw [hh]
  cases o.sign with
  | some b => cases b <;> simp [pyIntSigned]
  | none =>
    simp only [List.nil_append, List.map_cons]
    unfold pyIntSigned
    split
    · rename_i ds heq
      exact absurd (List.cons.inj heq).1 (dch_ne_sign a).1
    · rename_i ds heq
      exact absurd (List.cons.inj heq).1 (dch_ne_sign a).2
    · simp

theorem pyIntSigned_hoursText (o : OffText) (hne : o.hdigits ≠ []) (hd : ∀ d ∈ o.hdigits, d < 10)
    (hlen : o.hdigits.length ≤ intMaxStrDigits) :
    pyIntSigned (hoursText o)
      = some (if o.sign = some true then -((hoursVal o.hdigits : Nat) : Int) else ((hoursVal o.hdigits : Nat) : Int)) := by
  rw [pyIntSigned_hoursText_eq o hne, if_neg (Nat.not_lt.mpr hlen), natOfAscii, digitsVal_map_dch o.hdigits hd 0]
  rfl

theorem startsMinus_hoursText (o : OffText) (hne : o.hdigits ≠ []) :
    startsMinus (some (hoursText o)) = decide (o.sign = some true) := by
  unfold hoursText signText
  cases hs : o.sign with
  | some b => cases b <;> simp [startsMinus]
  | none =>
    cases hh : o.hdigits with
    | nil => exact absurd hh hne
    | cons a r =>
      simp only [List.nil_append, List.map_cons]
      unfold startsMinus
      split
      · rename_i t heq
        injection heq with heq
        exact absurd (List.cons.inj heq).1 (dch_ne_sign a).1
      · simp

/-- `neg`: the hours were written with a `-`. The minutes count in the direction of the hours, and `-0` is a negative
    hour -/
def signedMinutes (neg : Bool) (h : Int) (m : Nat) : Int :=
  if h < 0 ∨ (neg = true ∧ h = 0) then -(60 * h.natAbs + m) else 60 * h.natAbs + m

/-- `gmt_offset`, then the correction for the sign that `int("-0")` has lost -/
theorem gmtOffset_flip (neg : Bool) (h : Int) (m : Nat) :
    (gmtOffset h m >>= fun off => pure (if neg && h == 0 then -off else off))
      = if h < -12 ∨ h > 14 then .error .assert else .ok (signedMinutes neg h m) := by
  unfold gmtOffset signedMinutes
  split
  · rfl
  · simp only [PyM.ok_bind, PyM.pure_eq, Bool.and_eq_true, beq_iff_eq]
    congr 1
    by_cases hn : h < 0
    · simp [hn, show h ≠ 0 by omega]
    · by_cases h0 : neg = true ∧ h = 0 <;> simp [hn, h0]

def offMinutes : Option OffText → Int | some o => o.minutesEast | none => 0

theorem OffText.wf_iff (o : OffText) : o.wf = true ↔
    o.hdigits ≠ [] ∧ (∀ d ∈ o.hdigits, d < 10) ∧ (∀ m, o.minutes = some m → m < 60)
    ∧ (∀ n, o.name = some n → '\n' ∉ n)
    ∧ (if o.sign = some true then hoursVal o.hdigits ≤ 12 else hoursVal o.hdigits ≤ 14) := by
  simp only [OffText.wf, Bool.and_eq_true, and_assoc]
  refine and_congr (by simp) (and_congr (by simp) (and_congr ?_ (and_congr ?_ ?_)))
  · cases o.minutes <;> simp
  · cases o.name <;> simp
  · split <;> simp

theorem todOfUs_spec (t : Int) :
    (todOfUs t).1 < 24 ∧ (todOfUs t).2.1 < 60 ∧ (todOfUs t).2.2.1 < 60 ∧ (todOfUs t).2.2.2 < 1000000
    ∧ ((((todOfUs t).1 * 3600 + (todOfUs t).2.1 * 60 + (todOfUs t).2.2.1 : Nat) : Int) * 1000000
        + ((todOfUs t).2.2.2 : Nat)) = t % usPerDay := by
  unfold todOfUs usPerDay
  obtain ⟨r, hr⟩ : ∃ r : Nat, t % 86400000000 = r := ⟨(t % 86400000000).toNat, by omega⟩
  have hrr : r < 86400000000 := by omega
  simp only [hr, Int.toNat_natCast]
  omega

theorem fromUs_spec (t : Int) (h1 : usPerDay ≤ t) (h2 : t < ((maxOrdinal : Nat) + 1 : Int) * usPerDay) :
    ∃ f, fromUs t = .ok f ∧ Cal.validDate f.year f.month f.day = true
      ∧ validTime f.hour f.minute f.second f.us = true
      ∧ toUs f.year f.month f.day f.hour f.minute f.second f.us = t := by
  obtain ⟨c1, c2, c3, c4, c5⟩ := todOfUs_spec t
  unfold usPerDay maxOrdinal at *
  obtain ⟨n, hn⟩ : ∃ n : Nat, t / 86400000000 = n := ⟨(t / 86400000000).toNat, by omega⟩
  have hn1 : 1 ≤ n := by omega
  have hn2 : n ≤ maxOrdinal := by unfold maxOrdinal; omega
  obtain ⟨d1, d2, d3, d4, d5, d6⟩ := ymd2ord_ord2ymd n hn1
  have d7 := ord2ymd_year_le n hn2
  refine ⟨⟨(ord2ymd n).1, (ord2ymd n).2.1, (ord2ymd n).2.2, (todOfUs t).1, (todOfUs t).2.1, (todOfUs t).2.2.1,
    (todOfUs t).2.2.2⟩, ?_, ?_, ?_, ?_⟩
  · unfold fromUs usPerDay maxOrdinal
    simp only [hn, Int.toNat_natCast]
    have : ¬ ((n : Int) < 1 ∨ (n : Int) > ((3652059 : Nat) : Int)) := by omega
    simp only [this, if_false]
    rfl
  · exact validDate_iff.mpr ⟨d1, d7, d2, d3, d4, d5⟩
  · exact validTime_iff.mpr ⟨c1, c2, c3, c4⟩
  · unfold toUs
    simp only [d6]
    omega

theorem toUs_instant (y m d h mi s ms : Nat) (hm : 1 ≤ m ∧ m ≤ 12) (off : Int) :
    toUs y m d h mi s (1000 * ms) - off * 60000000 = 1000 * instantOf y m d h mi s ms off := by
  unfold toUs instantOf
  rw [spec_ordinal_eq y m d hm]
  omega

theorem validDate_bounds {y m d : Nat} (h : Spec.Instant.validDate y m d = true) :
    1 ≤ y ∧ y ≤ 9999 ∧ 1 ≤ m ∧ m ≤ 12 ∧ 1 ≤ d ∧ d ≤ 31 := by
  obtain ⟨a, b, c, e, f, g⟩ := validDate_iff.mp (spec_validDate_eq y m d ▸ h)
  have := dimL_le (isLeap y) m ⟨c, e⟩
  rw [daysInMonth_eq] at g
  exact ⟨a, b, c, e, f, by omega⟩

theorem range_us (I : Int) (h : minInstant ≤ I ∧ I < endInstant) :
    usPerDay ≤ 1000 * I ∧ 1000 * I < ((maxOrdinal : Nat) + 1 : Int) * usPerDay := by
  unfold minInstant endInstant at h
  unfold usPerDay maxOrdinal
  omega

theorem validTod_iff {h mi s : Nat} : validTod h mi s = true ↔ h < 24 ∧ mi < 60 ∧ s < 60 := by
  simp only [validTod, Bool.and_eq_true, decide_eq_true_eq, and_assoc]

theorem dtValid_iff {d : DT} : dtValid d = true ↔
    Spec.Instant.validDate d.year d.month d.day = true ∧ validTod d.hour d.minute d.second = true ∧ d.us < 1000000 := by
  simp only [dtValid, Bool.and_eq_true, decide_eq_true_eq, and_assoc]

theorem tmValid_iff {t : TM} : tmValid t = true ↔ validTod t.hour t.minute t.second = true ∧ t.us < 1000000 := by
  simp only [tmValid, Bool.and_eq_true, decide_eq_true_eq]

theorem getD_lt (ms : Option Nat) (n : Nat) (hn : 0 < n) (h : ∀ x, ms = some x → x < n) : ms.getD 0 < n := by
  cases ms with
  | none => exact hn
  | some x => exact h x rfl

theorem asciiDigit_eq_dch (c : Char) (h : isAsciiDigit c = true) : ∃ k, k < 10 ∧ c = dch k := by
  simp only [isAsciiDigit, Bool.and_eq_true, decide_eq_true_eq] at h
  obtain ⟨h1, h2⟩ := h
  have h1' : 48 ≤ c.toNat := by
    have := UInt32.le_iff_toNat_le.mp (Char.le_def.mp h1)
    have e : ('0' : Char).val.toNat = 48 := by decide
    rw [e] at this; exact this
  have h2' : c.toNat ≤ 57 := by
    have := UInt32.le_iff_toNat_le.mp (Char.le_def.mp h2)
    have e : ('9' : Char).val.toNat = 57 := by decide
    rw [e] at this; exact this
  refine ⟨c.toNat - 48, by omega, ?_⟩
  unfold dch
  have : 48 + (c.toNat - 48) % 10 = c.toNat := by omega
  rw [this, Char.ofNat_toNat]

theorem digitVal_some (c : Char) (k : Nat) (h : digitVal c = some k) : k < 10 ∧ c = dch k := by
  unfold digitVal at h
  split at h
  · rename_i hc
    have hd : isAsciiDigit c = true := by simp [isAsciiDigit, hc.1, hc.2]
    obtain ⟨k', hk', hc'⟩ := asciiDigit_eq_dch c hd
    have := digitVal_dch k'
    rw [← hc'] at this
    unfold digitVal at this
    simp only [hc, and_self, if_true] at this
    injection h with h
    injection this with this
    rw [Nat.mod_eq_of_lt hk'] at this
    have : k = k' := by omega
    subst this
    exact ⟨hk', hc'⟩
  · exact absurd h (by simp)

theorem digitsVal_inv (t : Str) : ∀ (acc n : Nat), digitsVal digitVal acc t = some n →
    ∃ ds : List Nat, t = ds.map dch ∧ (∀ d ∈ ds, d < 10) ∧ n = ds.foldl (fun a d => 10 * a + d) acc := by
  induction t with
  | nil => intro acc n h; simp [digitsVal] at h; exact ⟨[], rfl, by simp, by simp [h]⟩
  | cons c cs ih =>
    intro acc n h
    unfold digitsVal at h
    split at h
    · rename_i k hk
      obtain ⟨hk10, ec⟩ := digitVal_some c k hk
      obtain ⟨ds, e1, e2, e3⟩ := ih _ _ h
      refine ⟨k :: ds, by rw [e1, ec]; rfl, ?_, by simpa using e3⟩
      intro d hd
      rcases List.mem_cons.mp hd with rfl | hd
      · exact hk10
      · exact e2 d hd
    · exact absurd h (by simp)

theorem natOfAscii_inv (t : Str) (n : Nat) (h : natOfAscii t = some n) :
    n < 10 ^ t.length ∧ t = (fixDigits t.length n).map dch := by
  obtain ⟨ds, rfl, hd, rfl⟩ := digitsVal_inv t 0 n h
  have e := fixDigits_of_foldl ds hd
  have hv := fixDigits_foldl ds.length (ds.foldl (fun a d => 10 * a + d) 0)
  rw [e] at hv
  rw [List.length_map, e]
  exact ⟨by rw [hv]; exact Nat.mod_lt _ (Nat.pow_pos (by decide)), rfl⟩

theorem pyIntSigned_inv (t : Str) (v : Int) (h : pyIntSigned t = some v) :
    ∃ (sign : Option Bool) (ds : List Nat), t = signText sign ++ ds.map dch ∧ ds ≠ [] ∧ (∀ d ∈ ds, d < 10)
      ∧ ds.length ≤ intMaxStrDigits
      ∧ v = (if sign = some true then -((hoursVal ds : Nat) : Int) else ((hoursVal ds : Nat) : Int)) := by
  have body : ∀ (neg : Bool) (u : Str),
      (if u.isEmpty || u.length > intMaxStrDigits then none
        else (natOfAscii u).map (fun n => if neg then -(n : Int) else (n : Int))) = some v →
      ∃ ds : List Nat, u = ds.map dch ∧ ds ≠ [] ∧ (∀ d ∈ ds, d < 10) ∧ ds.length ≤ intMaxStrDigits
        ∧ v = (if neg then -((hoursVal ds : Nat) : Int) else ((hoursVal ds : Nat) : Int)) := by
    intro neg u hu
    split at hu
    · exact absurd hu (by simp)
    · rename_i hcond
      simp only [Bool.or_eq_true, decide_eq_true_eq, not_or] at hcond
      cases hn : natOfAscii u with
      | none => simp [hn] at hu
      | some n =>
        obtain ⟨ds, e1, e2, e3⟩ := digitsVal_inv u 0 n hn
        refine ⟨ds, e1, ?_, e2, ?_, ?_⟩
        · intro hds; subst hds; simp at e1; subst e1; simp at hcond
        · have := hcond.2; rw [e1] at this; simpa using this
        · simp [hn] at hu
          rw [← hu, e3, hoursVal]
  unfold pyIntSigned at h
  split at h
  · rename_i ds'
    obtain ⟨ds, e1, e2, e3, e4, e5⟩ := body true ds' h
    exact ⟨some true, ds, by rw [e1]; rfl, e2, e3, e4, by simpa using e5⟩
  · rename_i ds'
    obtain ⟨ds, e1, e2, e3, e4, e5⟩ := body false ds' h
    exact ⟨some false, ds, by rw [e1]; rfl, e2, e3, e4, by simpa using e5⟩
  · rename_i ds' _ _
    obtain ⟨ds, e1, e2, e3, e4, e5⟩ := body false t h
    exact ⟨none, ds, by rw [e1]; rfl, e2, e3, e4, by simpa using e5⟩

theorem pad2_eq (n : Nat) : pad2 n = d2 n := rfl
theorem pad3_eq (n : Nat) : pad3 n = d3 n := rfl

theorem digitChar_eq_dch (d : Nat) (h : d < 10) : digitChar d = dch d := by
  unfold digitChar dch; rw [Nat.mod_eq_of_lt h]

theorem natDigitsAux_fix (k : Nat) : ∀ (fuel n : Nat) (acc : List Nat), k < fuel → (k ≠ 0 → 10 ^ k ≤ n) →
    n < 10 ^ (k + 1) → natDigitsAux fuel n acc = fixDigits (k + 1) n ++ acc := by
  induction k with
  | zero =>
    intro fuel n acc hf _ h2
    obtain ⟨f, rfl⟩ : ∃ f, fuel = f + 1 := ⟨fuel - 1, by omega⟩
    rw [natDigitsAux, if_pos (by omega)]
    simp [fixDigits, Nat.mod_eq_of_lt (show n < 10 by omega)]
  | succ k ih =>
    intro fuel n acc hf h1 h2
    obtain ⟨f, rfl⟩ : ∃ f, fuel = f + 1 := ⟨fuel - 1, by omega⟩
    have h1' := h1 (by omega)
    rw [Nat.pow_succ] at h1' h2
    have : 10 ≤ n := Nat.le_trans (Nat.le_mul_of_pos_left 10 (Nat.pow_pos (by decide))) h1'
    rw [natDigitsAux, if_neg (by omega), ih f (n / 10) _ (by omega) (fun _ => by omega) (by omega),
      show fixDigits (k + 1 + 1) n = fixDigits (k + 1) (n / 10) ++ [n % 10] from rfl, List.append_assoc]
    rfl

theorem natDigits_eq_fix (k n : Nat) (h1 : k ≠ 0 → 10 ^ k ≤ n) (h2 : n < 10 ^ (k + 1)) :
    natDigits n = fixDigits (k + 1) n := by
  have hk : k < n + 1 := by
    cases k with
    | zero => omega
    | succ k => exact Nat.lt_succ_of_lt (Nat.lt_of_lt_of_le (Nat.lt_pow_self (by decide)) (h1 (by omega)))
  rw [natDigits, natDigitsAux_fix k _ n [] hk h1 h2, List.append_nil]

theorem map_digitChar_fix (k n : Nat) : (fixDigits k n).map digitChar = (fixDigits k n).map dch :=
  List.map_congr_left fun d hd => digitChar_eq_dch d (fixDigits_lt k n d hd)

theorem pyStrNat_year (y : Nat) (h1 : 1000 ≤ y) (h2 : y < 10000) : pyStrNat y = d4 y := by
  rw [pyStrNat, natDigits_eq_fix 3 y (fun _ => h1) h2, map_digitChar_fix, d4_eq]

theorem natDigits_map_dch (n : Nat) : (natDigits n).map dch = pyStrNat n :=
  (List.map_congr_left fun d hd => digitChar_eq_dch d (natDigits_lt n d hd)).symm

theorem hoursVal_natDigits (n : Nat) : hoursVal (natDigits n) = n := natDigits_foldl n

theorem natDigits_small (n : Nat) (hn : n < 25) : (natDigits n).length ≤ 2 := by
  by_cases h : n < 10
  · rw [natDigits_eq_fix 0 n (fun h0 => absurd rfl h0) h, fixDigits_length]; decide
  · rw [natDigits_eq_fix 1 n (fun _ => by omega) (by omega), fixDigits_length]; decide

/-- the offset part the writer produces, as an `OffText` -/
def canonOff (offMin : Int) (name : Option Str) : OffText :=
  ⟨some (decide (offMin < 0)), natDigits (offMin.natAbs / 60),
   if offMin.natAbs % 60 != 0 then some (offMin.natAbs % 60) else none, name⟩

theorem formatOffset_eq (offUs : Int) (name : Option Str) :
    formatOffset offUs name = (canonOff (offUs / 60000000) name).render := by
  unfold formatOffset canonOff OffText.render
  simp only [natDigits_map_dch, pad2_eq]
  by_cases hneg : offUs / 60000000 < 0 <;> by_cases hm : ((offUs / 60000000).natAbs % 60 != 0) = true <;>
    cases name <;> simp [hneg, hm]

theorem canonOff_minutesEast (offMin : Int) (name : Option Str) : (canonOff offMin name).minutesEast = offMin := by
  unfold OffText.minutesEast canonOff
  simp only [hoursVal_natDigits]
  by_cases hm : (offMin.natAbs % 60 != 0) = true
  · simp only [hm, if_true, Option.getD_some]
    by_cases hneg : offMin < 0 <;> simp [hneg] <;> omega
  · have : offMin.natAbs % 60 = 0 := by simpa using hm
    simp only [hm, Bool.false_eq_true, if_false, Option.getD_none]
    by_cases hneg : offMin < 0 <;> simp [hneg] <;> omega

theorem canonOff_wf (offMin : Int) (name : Option Str) (hr : -720 ≤ offMin ∧ offMin ≤ 840)
    (hname : ∀ n, name = some n → '\n' ∉ n) : (canonOff offMin name).wf = true := by
  refine (OffText.wf_iff _).mpr ⟨natDigits_ne_nil _, natDigits_lt _, fun m hm => ?_, hname, ?_⟩
  · simp only [canonOff] at hm
    split at hm <;> cases hm
    omega
  · simp only [canonOff, hoursVal_natDigits, Option.some.injEq, decide_eq_true_eq]
    split <;> omega

theorem utcoffset_some (tz : Tz) (hr : -usPerDay < tz.offUs ∧ tz.offUs < usPerDay) :
    utcoffset (some tz) = .ok (some tz.offUs) := by
  unfold utcoffset
  simp only []
  rw [if_neg (by omega)]

/-- (the discriminant `fromUs …` is generalised before rewriting: the kernel must never try to evaluate it) -/
theorem formatDatetime_eq (timeOnly : Bool) (f b : Fields) (tz : Tz)
    (hr : -usPerDay < tz.offUs ∧ tz.offUs < usPerDay)
    (hb : fromUs (toUs f.year f.month f.day f.hour f.minute f.second f.us + 500) = .ok b) :
    formatDatetime timeOnly f (some tz)
      = .ok ((if timeOnly then strftimeHMS b else strftimeYmdHMS b) ++ '.' :: pad3 (b.us / 1000)
              ++ '[' :: formatOffset tz.offUs tz.name ++ [']']) := by
  unfold formatDatetime
  generalize fromUs (toUs f.year f.month f.day f.hour f.minute f.second f.us + 500) = r at hb ⊢
  subst hb
  rw [utcoffset_some tz hr]
  rfl

theorem Parts.wf_iff (t : Bool) (p : Parts) : p.wf t = true ↔
    (match p.date with | some (y, m, d) => t = false ∧ Spec.Instant.validDate y m d = true | none => t = true)
    ∧ (match p.tod with | some (h, mi, s) => validTod h mi s = true | none => t = false ∧ p.ms = none ∧ p.off = none)
    ∧ (∀ x, p.ms = some x → x < 1000) ∧ ∀ o, p.off = some o → o.wf = true := by
  simp only [Parts.wf, Bool.and_eq_true, and_assoc]
  refine and_congr ?_ (and_congr ?_ (and_congr ?_ ?_))
  · rcases p.date with _ | ⟨y, m, d⟩ <;> simp
  · rcases p.tod with _ | ⟨h, mi, s⟩ <;> simp [and_assoc]
  · cases p.ms <;> simp
  · cases p.off <;> simp

theorem wf_ms_off {p : Parts} {t : Bool} (hwf : p.wf t = true) :
    (∀ x, p.ms = some x → x < 1000) ∧ ∀ o, p.off = some o → o.wf = true :=
  ((Parts.wf_iff t p).mp hwf).2.2

theorem wf_dt_cases {p : Parts} (h : p.wf false = true) :
    (∃ y m d, p = ⟨some (y, m, d), none, none, none⟩ ∧ Spec.Instant.validDate y m d = true)
    ∨ ∃ y m d hh mi s ms off, p = ⟨some (y, m, d), some (hh, mi, s), ms, off⟩
        ∧ Spec.Instant.validDate y m d = true ∧ validTod hh mi s = true
        ∧ (∀ x, ms = some x → x < 1000) ∧ ∀ o, off = some o → o.wf = true := by
  obtain ⟨hd, ht, hms, hoff⟩ := (Parts.wf_iff false p).mp h
  obtain ⟨date, tod, ms, off⟩ := p
  rcases date with _ | ⟨y, m, d⟩
  · cases hd
  · rcases tod with _ | ⟨hh, mi, s⟩
    · obtain ⟨_, rfl, rfl⟩ := ht
      exact Or.inl ⟨y, m, d, rfl, hd.2⟩
    · exact Or.inr ⟨y, m, d, hh, mi, s, ms, off, rfl, hd.2, ht, hms, hoff⟩

theorem wf_tm_cases {p : Parts} (h : p.wf true = true) :
    ∃ hh mi s ms off, p = ⟨none, some (hh, mi, s), ms, off⟩ ∧ validTod hh mi s = true
      ∧ (∀ x, ms = some x → x < 1000) ∧ ∀ o, off = some o → o.wf = true := by
  obtain ⟨hd, ht, hms, hoff⟩ := (Parts.wf_iff true p).mp h
  obtain ⟨date, tod, ms, off⟩ := p
  rcases date with _ | ⟨y, m, d⟩
  · rcases tod with _ | ⟨hh, mi, s⟩
    · cases ht.1
    · exact ⟨hh, mi, s, ms, off, rfl, ht, hms, hoff⟩
  · cases hd.1

theorem dval_eq_digitVal (c : Char) : dval c = digitVal c := rfl

theorem takeNum_inv (k : Nat) : ∀ (acc : Nat) (s r : Str) (v : Nat), takeNum k acc s = some (v, r) →
    ∃ t, s = t ++ r ∧ t.length = k ∧ digitsVal digitVal acc t = some v := by
  induction k with
  | zero =>
    intro acc s r v h
    simp only [takeNum, Option.some.injEq, Prod.mk.injEq] at h
    exact ⟨[], by simp [h.2], rfl, by simp [digitsVal, h.1]⟩
  | succ k ih =>
    intro acc s r v h
    cases s with
    | nil => simp [takeNum] at h
    | cons c cs =>
      simp only [takeNum, dval_eq_digitVal] at h
      cases hc : digitVal c with
      | none => simp [hc] at h
      | some d =>
        simp only [hc] at h
        obtain ⟨t, e1, e2, e3⟩ := ih _ _ _ _ h
        exact ⟨c :: t, by simp [e1], by simp [e2], by simp [digitsVal, hc, e3]⟩

theorem takeNum_fix_inv (k : Nat) (s r : Str) (v : Nat) (h : takeNum k 0 s = some (v, r)) :
    s = (fixDigits k v).map dch ++ r := by
  obtain ⟨t, rfl, rfl, ht⟩ := takeNum_inv k 0 s r v h
  rw [← (natOfAscii_inv t v ht).2]

theorem takeNum2_inv (s r : Str) (v : Nat) (h : takeNum 2 0 s = some (v, r)) : s = d2 v ++ r :=
  d2_eq v ▸ takeNum_fix_inv 2 s r v h
theorem takeNum3_inv (s r : Str) (v : Nat) (h : takeNum 3 0 s = some (v, r)) : s = d3 v ++ r :=
  d3_eq v ▸ takeNum_fix_inv 3 s r v h
theorem takeNum4_inv (s r : Str) (v : Nat) (h : takeNum 4 0 s = some (v, r)) : s = d4 v ++ r :=
  d4_eq v ▸ takeNum_fix_inv 4 s r v h

theorem spanDigits_inv (t : Str) : t = ((spanDigits t).1.map dch) ++ (spanDigits t).2 := by
  induction t with
  | nil => rfl
  | cons c cs ih =>
    unfold spanDigits
    cases hd : dval c with
    | none => simp
    | some k =>
      simp only
      obtain ⟨_, e⟩ := digitVal_some c k hd
      rw [List.map_cons, List.cons_append, ← ih, ← e]

theorem takeMinutes_inv (t t' : Str) (m : Option Nat) (h : takeMinutes t = some (m, t')) :
    t = minutesText m ++ t' := by
  unfold takeMinutes at h
  split at h
  · split at h
    · rename_i v r' hv
      cases h
      rw [takeNum2_inv _ _ _ hv]; rfl
    · cases h
  · cases h; rfl

theorem takeMs_inv (t t' : Str) (m : Option Nat) (h : takeMs t = some (m, t')) :
    t = msText m ++ t' := by
  unfold takeMs at h
  split at h
  · split at h
    · rename_i v r' hv
      cases h
      rw [takeNum3_inv _ _ _ hv]; rfl
    · cases h
  · cases h; rfl

theorem offName_inv (sign : Option Bool) (ds : List Nat) (m : Option Nat) (t : Str) (o : OffText)
    (h : offName sign ds m t = some o) :
    o.sign = sign ∧ o.hdigits = ds ∧ o.minutes = m ∧ t = nameText o.name := by
  unfold offName at h
  split at h
  · injection h with h; subst h; exact ⟨rfl, rfl, rfl, rfl⟩
  · injection h with h; subst h; exact ⟨rfl, rfl, rfl, rfl⟩
  · exact absurd h (by simp)

theorem parseOffBody_inv (sign : Option Bool) (t : Str) (o : OffText) (h : parseOffBody sign t = some o) :
    o.sign = sign ∧ t = o.hdigits.map dch ++ (minutesText o.minutes ++ nameText o.name) := by
  unfold parseOffBody at h
  split at h
  · exact absurd h (by simp)
  · rename_i m t' hm
    obtain ⟨h1, h2, h3, h4⟩ := offName_inv _ _ _ _ _ h
    have := takeMinutes_inv _ _ _ hm
    refine ⟨h1, ?_⟩
    rw [h2, h3, ← h4, ← this]
    exact spanDigits_inv t

theorem parseOff_inv (b : Str) (o : OffText) (h : parseOff b = some o) : o.render = b := by
  rw [OffText.render_eq]
  unfold hoursText
  unfold parseOff at h
  split at h
  · obtain ⟨h1, h2⟩ := parseOffBody_inv _ _ _ h; rw [h1, h2]; rfl
  · obtain ⟨h1, h2⟩ := parseOffBody_inv _ _ _ h; rw [h1, h2]; rfl
  · obtain ⟨h1, h2⟩ := parseOffBody_inv _ _ _ h; rw [h1, h2]; rfl

theorem takeOff_inv (t : Str) (off : Option OffText) (h : takeOff t = some off) : t = offText off := by
  unfold takeOff at h
  split at h
  · injection h with h; subst h; rfl
  · rename_i r
    split at h
    · rename_i b hb
      rw [Option.map_eq_some_iff] at h
      obtain ⟨o, ho, rfl⟩ := h
      have := parseOff_inv _ _ ho
      have hr : r = b.reverse ++ [']'] := by
        have := congrArg List.reverse hb
        simpa using this
      rw [hr, ← this]; rfl
    · exact absurd h (by simp)
  · exact absurd h (by simp)

theorem parseTail_inv (t : Str) (ms : Option Nat) (off : Option OffText) (h : parseTail t = some (ms, off)) :
    t = msText ms ++ offText off := by
  unfold parseTail at h
  split at h
  · exact absurd h (by simp)
  · rename_i ms' t' hms
    rw [Option.map_eq_some_iff] at h
    obtain ⟨off', ho, hx⟩ := h
    simp only [Prod.mk.injEq] at hx
    obtain ⟨rfl, rfl⟩ := hx
    rw [takeMs_inv _ _ _ hms, takeOff_inv _ _ ho]

theorem parseTod_inv (t t' : Str) (h mi s : Nat) (hp : parseTod t = some ((h, mi, s), t')) :
    t = todText h mi s ++ t' := by
  simp only [parseTod, bind, Option.bind_eq_some_iff, Prod.exists, pure, Option.some.injEq, Prod.mk.injEq] at hp
  obtain ⟨a, r1, h1, b, r2, h2, c, r3, h3, ⟨rfl, rfl, rfl⟩, rfl⟩ := hp
  rw [takeNum2_inv _ _ _ h1, takeNum2_inv _ _ _ h2, takeNum2_inv _ _ _ h3]
  simp [todText]

def datePart : Option (Nat × Nat × Nat) → Str | some (y, m, d) => dateText y m d | none => []

theorem render_parts (date : Option (Nat × Nat × Nat)) (h mi s : Nat) (ms : Option Nat) (off : Option OffText) :
    Parts.render ⟨date, some (h, mi, s), ms, off⟩
      = datePart date ++ (todText h mi s ++ (msText ms ++ offText off)) := by
  rcases date with _ | ⟨y, m, d⟩ <;> cases ms <;> cases off <;>
    simp [Parts.render, datePart, dateText, todText, msText, offText]

theorem render_time (h mi s : Nat) (ms : Option Nat) (off : Option OffText) :
    Parts.render ⟨none, some (h, mi, s), ms, off⟩ = todText h mi s ++ (msText ms ++ offText off) :=
  render_parts none h mi s ms off

theorem render_full (y m d h mi s : Nat) (ms : Option Nat) (off : Option OffText) :
    Parts.render ⟨some (y, m, d), some (h, mi, s), ms, off⟩
      = dateText y m d ++ (todText h mi s ++ (msText ms ++ offText off)) :=
  render_parts (some (y, m, d)) h mi s ms off

theorem render_date (y m d : Nat) : Parts.render ⟨some (y, m, d), none, none, none⟩ = dateText y m d := by
  simp [Parts.render, dateText]

theorem instant_date (date : Nat × Nat × Nat) (tod : Option (Nat × Nat × Nat)) (ms : Option Nat) (off : Option OffText) :
    Parts.instant ⟨some date, tod, ms, off⟩ = instantOf date.1 date.2.1 date.2.2 (tod.getD (0, 0, 0)).1
      (tod.getD (0, 0, 0)).2.1 (tod.getD (0, 0, 0)).2.2 (ms.getD 0) (offMinutes off) := by
  cases off <;> rfl

theorem instant_time (h mi s : Nat) (ms : Option Nat) (off : Option OffText) :
    Parts.instant ⟨none, some (h, mi, s), ms, off⟩ = todInstantOf h mi s (ms.getD 0) (offMinutes off) := by
  cases off <;> rfl

theorem parseShape_inv (isTime : Bool) (s : Str) (p : Parts) (h : parseShape isTime s = some p) : p.render = s := by
  unfold parseShape at h
  cases isTime with
  | true =>
    simp only [if_true, bind, Option.bind_eq_some_iff, Prod.exists, pure, Option.some.injEq] at h
    obtain ⟨hh, mi, sec, t, h1, ms, off, h2, rfl⟩ := h
    rw [render_time, parseTod_inv _ _ _ _ _ h1, parseTail_inv _ _ _ h2]
  | false =>
    simp only [Bool.false_eq_true, if_false, bind, Option.bind_eq_some_iff, Prod.exists] at h
    obtain ⟨y, t1, h1, m, t2, h2, d, t3, h3, h⟩ := h
    have hs : s = dateText y m d ++ t3 := by
      rw [takeNum4_inv _ _ _ h1, takeNum2_inv _ _ _ h2, takeNum2_inv _ _ _ h3]
      simp [dateText]
    split at h
    · simp only [pure, Option.some.injEq] at h
      subst h
      rw [hs, render_date, List.append_nil]
    · simp only [Option.bind_eq_some_iff, Prod.exists, pure, Option.some.injEq] at h
      obtain ⟨hh, mi, sec, t4, h4, ms, off, h5, rfl⟩ := h
      rw [render_full, hs, parseTod_inv _ _ _ _ _ h4, parseTail_inv _ _ _ h5]

theorem parse_sound (isTime : Bool) (s : Str) (p : Parts) (h : parse isTime s = some p) :
    p.wf isTime = true ∧ p.render = s := by
  unfold parse at h
  split at h
  · rename_i p' hp
    split at h
    · rename_i hw
      injection h with h; subst h
      exact ⟨hw, parseShape_inv _ _ _ hp⟩
    · exact absurd h (by simp)
  · exact absurd h (by simp)

theorem inNotationB_sound (isTime : Bool) (s : Str) (h : inNotationB isTime s = true) : InNotation isTime s := by
  unfold inNotationB at h
  cases hp : parse isTime s with
  | none => rw [hp] at h; simp at h
  | some p => exact ⟨p, parse_sound _ _ _ hp⟩

theorem dval_dch (n : Nat) : dval (dch n) = some (n % 10) := digitVal_dch n

theorem takeNum_map_dch (ds : List Nat) (hd : ∀ d ∈ ds, d < 10) (acc : Nat) (r : Str) :
    takeNum ds.length acc (ds.map dch ++ r) = some (ds.foldl (fun a d => 10 * a + d) acc, r) := by
  induction ds generalizing acc with
  | nil => rfl
  | cons d ds ih =>
    have hd' : d < 10 := hd d (by simp)
    simp only [List.length_cons, List.map_cons, List.cons_append, takeNum, dval_dch, Nat.mod_eq_of_lt hd',
      List.foldl_cons]
    exact ih (fun x hx => hd x (by simp [hx])) _

theorem takeNum_fix (k v : Nat) (r : Str) (h : v < 10 ^ k) :
    takeNum k 0 ((fixDigits k v).map dch ++ r) = some (v, r) := by
  have := takeNum_map_dch (fixDigits k v) (fixDigits_lt k v) 0 r
  rwa [fixDigits_length, fixDigits_foldl, Nat.mod_eq_of_lt h] at this

theorem takeNum2_d2 (v : Nat) (r : Str) (h : v < 100) : takeNum 2 0 (d2 v ++ r) = some (v, r) :=
  d2_eq v ▸ takeNum_fix 2 v r h
theorem takeNum3_d3 (v : Nat) (r : Str) (h : v < 1000) : takeNum 3 0 (d3 v ++ r) = some (v, r) :=
  d3_eq v ▸ takeNum_fix 3 v r h
theorem takeNum4_d4 (v : Nat) (r : Str) (h : v < 10000) : takeNum 4 0 (d4 v ++ r) = some (v, r) :=
  d4_eq v ▸ takeNum_fix 4 v r h

def noDigitHead : Str → Prop
  | [] => True
  | c :: _ => dval c = none

theorem spanDigits_map (ds : List Nat) (r : Str) (hd : ∀ d ∈ ds, d < 10) (hr : noDigitHead r) :
    spanDigits (ds.map dch ++ r) = (ds, r) := by
  induction ds with
  | nil =>
    cases r with
    | nil => rfl
    | cons c cs => simp only [List.map_nil, List.nil_append, spanDigits]; simp only [noDigitHead] at hr; rw [hr]
  | cons d ds ih =>
    have hd' : d < 10 := hd d (by simp)
    simp only [List.map_cons, List.cons_append, spanDigits, dval_dch, Nat.mod_eq_of_lt hd']
    rw [ih (fun x hx => hd x (by simp [hx]))]

theorem takeMinutes_text (mm : Option Nat) (r : Str) (hmm : ∀ m, mm = some m → m < 100)
    (hr : mm = none → ∀ t, r ≠ '.' :: t) : takeMinutes (minutesText mm ++ r) = some (mm, r) := by
  cases mm with
  | some m => simp [minutesText, takeMinutes, takeNum2_d2 m r (hmm m rfl)]
  | none =>
    simp only [minutesText, List.nil_append]
    unfold takeMinutes
    split
    · rename_i t; exact absurd rfl (hr rfl t)
    · rfl

theorem takeMs_text (ms : Option Nat) (r : Str) (hms : ∀ m, ms = some m → m < 1000)
    (hr : ms = none → ∀ t, r ≠ '.' :: t) : takeMs (msText ms ++ r) = some (ms, r) := by
  cases ms with
  | some m => simp [msText, takeMs, takeNum3_d3 m r (hms m rfl)]
  | none =>
    simp only [msText, List.nil_append]
    unfold takeMs
    split
    · rename_i t; exact absurd rfl (hr rfl t)
    · rfl

theorem parseOffBody_render (o : OffText) (hne : o.hdigits ≠ []) (hd : ∀ d ∈ o.hdigits, d < 10)
    (hmm : ∀ m, o.minutes = some m → m < 60) :
    parseOffBody o.sign (o.hdigits.map dch ++ (minutesText o.minutes ++ nameText o.name)) = some o := by
  have hnd : noDigitHead (minutesText o.minutes ++ nameText o.name) := by
    cases o.minutes <;> cases o.name <;> simp [minutesText, nameText, noDigitHead] <;> decide
  unfold parseOffBody
  rw [spanDigits_map o.hdigits _ hd hnd]
  simp only
  rw [takeMinutes_text o.minutes (nameText o.name) (fun m hm => by have := hmm m hm; omega)
    (by intro _ t; cases o.name <;> simp [nameText])]
  simp only
  cases hn : o.name <;> simp [nameText, offName] <;>
    (obtain ⟨a, b, c, d⟩ := o; simp_all)

theorem parseOff_render (o : OffText) (hne : o.hdigits ≠ []) (hd : ∀ d ∈ o.hdigits, d < 10)
    (hmm : ∀ m, o.minutes = some m → m < 60) : parseOff o.render = some o := by
  rw [OffText.render_eq]
  unfold hoursText signText
  have hb := parseOffBody_render o hne hd hmm
  cases hs : o.sign with
  | some b =>
    rw [hs] at hb
    cases b <;> simp only [List.cons_append, List.nil_append, parseOff] <;> exact hb
  | none =>
    rw [hs] at hb
    simp only [List.nil_append]
    cases hh : o.hdigits with
    | nil => exact absurd hh hne
    | cons a r =>
      rw [hh] at hb
      simp only [List.map_cons, List.cons_append] at hb ⊢
      unfold parseOff
      split
      · rename_i t heq
        exact absurd (List.cons.inj heq).1 (dch_ne_sign a).1
      · rename_i t heq
        exact absurd (List.cons.inj heq).1 (dch_ne_sign a).2
      · exact hb

theorem takeOff_text (off : Option OffText)
    (h : ∀ o, off = some o → o.hdigits ≠ [] ∧ (∀ d ∈ o.hdigits, d < 10) ∧ (∀ m, o.minutes = some m → m < 60)) :
    takeOff (offText off) = some off := by
  cases off with
  | none => rfl
  | some o =>
    obtain ⟨a, b, c⟩ := h o rfl
    simp [offText, takeOff, parseOff_render o a b c]

theorem parseTail_text (ms : Option Nat) (off : Option OffText) (hms : ∀ m, ms = some m → m < 1000)
    (h : ∀ o, off = some o → o.hdigits ≠ [] ∧ (∀ d ∈ o.hdigits, d < 10) ∧ (∀ m, o.minutes = some m → m < 60)) :
    parseTail (msText ms ++ offText off) = some (ms, off) := by
  unfold parseTail
  rw [takeMs_text ms (offText off) hms (by intro _ t; cases off <;> simp [offText])]
  simp [takeOff_text off h]

theorem parseTod_text (h mi s : Nat) (r : Str) (hv : h < 100 ∧ mi < 100 ∧ s < 100) :
    parseTod (todText h mi s ++ r) = some ((h, mi, s), r) := by
  unfold parseTod todText
  simp only [List.append_assoc, takeNum2_d2 h _ hv.1, takeNum2_d2 mi _ hv.2.1, takeNum2_d2 s _ hv.2.2, bind, Option.bind,
    pure]

theorem off_parts_ok {p : Parts} {t : Bool} (hwf : p.wf t = true) :
    ∀ o, p.off = some o → o.hdigits ≠ [] ∧ (∀ d ∈ o.hdigits, d < 10) ∧ (∀ m, o.minutes = some m → m < 60) := by
  intro o ho
  obtain ⟨a, b, c, _, _⟩ := (OffText.wf_iff o).mp ((wf_ms_off hwf).2 o ho)
  exact ⟨a, b, c⟩

theorem parse_complete (t : Bool) (p : Parts) (hwf : p.wf t = true) : parse t p.render = some p := by
  have hoff := off_parts_ok hwf
  suffices hshape : parseShape t p.render = some p by
    unfold parse
    rw [hshape]
    simp only [hwf, if_true]
  cases t with
  | true =>
    obtain ⟨h, mi, s, ms, off, rfl, ht, hmsv, _⟩ := wf_tm_cases hwf
    obtain ⟨t1, t2, t3⟩ := validTod_iff.mp ht
    rw [render_time]
    simp only [parseShape, if_true, bind, Option.bind,
      parseTod_text h mi s _ ⟨by omega, by omega, by omega⟩, parseTail_text ms off hmsv hoff, pure]
  | false =>
    rcases wf_dt_cases hwf with ⟨y, m, d, rfl, hvd⟩ | ⟨y, m, d, h, mi, s, ms, off, rfl, hvd, ht, hmsv, _⟩
    · obtain ⟨y1, y2, m1, m2, d1, d2'⟩ := validDate_bounds hvd
      have hr : Parts.render ⟨some (y, m, d), none, none, none⟩ = d4 y ++ (d2 m ++ (d2 d ++ [])) := by
        simp [Parts.render]
      rw [hr]
      simp only [parseShape, Bool.false_eq_true, if_false, bind, Option.bind,
        takeNum4_d4 y _ (by omega), takeNum2_d2 m _ (by omega), takeNum2_d2 d _ (by omega), pure]
    · obtain ⟨y1, y2, m1, m2, d1, d2'⟩ := validDate_bounds hvd
      obtain ⟨t1, t2, t3⟩ := validTod_iff.mp ht
      have hr : Parts.render ⟨some (y, m, d), some (h, mi, s), ms, off⟩
          = d4 y ++ (d2 m ++ (d2 d ++ (todText h mi s ++ (msText ms ++ offText off)))) := by
        simp [render_full, dateText]
      rw [hr]
      simp only [parseShape, Bool.false_eq_true, if_false, bind, Option.bind,
        takeNum4_d4 y _ (by omega), takeNum2_d2 m _ (by omega), takeNum2_d2 d _ (by omega)]
      -- the text goes on with the hours: not the date-only arm
      have hne : todText h mi s ++ (msText ms ++ offText off)
          = dch (h / 10) :: (dch h :: (d2 mi ++ d2 s ++ (msText ms ++ offText off))) := by
        simp [todText, d2]
      have hpt := parseTod_text h mi s (msText ms ++ offText off) ⟨by omega, by omega, by omega⟩
      rw [hne] at hpt ⊢
      simp only [hpt, parseTail_text ms off hmsv hoff, pure]

theorem inNotation_iff (t : Bool) (s : Str) : InNotation t s ↔ inNotationB t s = true := by
  constructor
  · rintro ⟨p, hwf, rfl⟩
    simp [inNotationB, parse_complete t p hwf]
  · exact inNotationB_sound t s

/-- the bracket of the Interactive Brokers form without minutes, `[h:NAME]` (`IsIBForm` also admits `[h.MM:NAME]`) -/
def ibText (hh n : Str) : Str := '[' :: (hh ++ (':' :: (n ++ [']'])))

end Ofx.DateTime
